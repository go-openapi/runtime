import RtVerif.Base.StreamLaws
/-
  The two standard-library loops that move all of a reader's bytes somewhere, and what each
  guarantees for every reader with `RLaws` (StreamLaws.lean), hence for the scripted stream under
  every schedule (`src_rlaws`):

  * `readFromLoop` — `(*bytes.Buffer).ReadFrom(r)` ($GOROOT/src/bytes/buffer.go): read into the
                     free tail of the buffer until an error shows up, `io.EOF` becomes nil. The
                     size of the free tail (at least `bytes.MinRead`) depends on the growth policy
                     of the buffer: it is a parameter `sz`, and `readFromLoop_spec` holds for all
                     positive sizes.
  * `copyLoop`     — the generic loop of `io.Copy` ($GOROOT/src/io/io.go `copyBuffer`, neither side
                     offering `WriterTo`/`ReaderFrom`), 32 KiB buffer; `copyLoop_spec` gives
                     `CopyPost` whatever the writer does.
  * `Snk`          — the scripted `io.Writer`/`io.WriteCloser` it copies into: per-call caps (short
                     writes), a total capacity (error at an offset), optionally lying about short
                     writes.
-/
namespace RtVerif.Stream
open RtVerif

/-- `bytes.MinRead`: the least free space `ReadFrom` offers to a `Read` call. -/
def minRead : Nat := 512

/-- Result: the bytes appended, the error returned (`io.EOF` is reported as nil), and whether the
call budget of the model ran out (the real loop would still be running). `sz i` is the length of
the slice offered to the `i`-th `Read`. -/
def readFromLoop {σ : Type} (R : Reader σ) (sz : Nat → Nat) :
    Nat → Nat → σ → (Bytes × Option Err × Bool) × σ
  | 0, _, s => (([], none, true), s)
  | f + 1, i, s =>
    let r := R.read s (sz i)
    match r.1.2 with
    | some e => ((r.1.1, (if e = .eof then none else some e), false), r.2)
    | none =>
      let t := readFromLoop R sz f (i + 1) r.2
      ((r.1.1 ++ t.1.1, t.1.2), t.2)

/-- `io.EOF` becomes nil, any other terminal is returned. -/
def eofNil (e : Err) : Option Err := if e = .eof then none else some e

section
variable {σ : Type} {S : Sem σ} (L : RLaws S)
include L

/-- Refinement: whatever the sizes of the slices offered (all positive), `ReadFrom` on an open
reader appends exactly its content and returns its terminal (nil for `io.EOF`), within `mu + 1`
calls; nothing is closed, nothing is left. -/
theorem readFromLoop_spec (sz : Nat → Nat) (hsz : ∀ i, 0 < sz i) (f i : Nat) (s : σ)
    (hI : S.Inv s) (hf : S.mu s < f) :
    (readFromLoop S.R sz f i s).1 = (S.content s, eofNil (S.term s), false) ∧
    S.Inv (readFromLoop S.R sz f i s).2 ∧ S.content (readFromLoop S.R sz f i s).2 = [] ∧
    S.term (readFromLoop S.R sz f i s).2 = S.term s ∧
    S.closes (readFromLoop S.R sz f i s).2 = S.closes s := by
  induction f generalizing s i with
  | zero => omega
  | succ f ih =>
    simp only [readFromLoop]
    have hc := L.read_content s (sz i) hI
    split
    · rename_i e he
      have := L.read_err s (sz i) e hI he
      refine ⟨?_, L.read_inv _ _ hI, this.2, L.read_term _ _, L.read_closes _ _⟩
      rw [hc, this.2, this.1]; simp [eofNil]
    · rename_i he
      have hlt := L.read_progress s (sz i) hI (hsz i) he
      have := ih (i + 1) (S.R.read s (sz i)).2 (L.read_inv _ _ hI) (by omega)
      rw [L.read_term, L.read_closes] at this
      refine ⟨?_, this.2.1, this.2.2.1, this.2.2.2.1, this.2.2.2.2⟩
      rw [this.1, hc]

/-- The outcome of `ReadFrom` does not depend on how the buffer grows. -/
theorem readFromLoop_indep (sz sz' : Nat → Nat) (hsz : ∀ i, 0 < sz i) (hsz' : ∀ i, 0 < sz' i)
    (f f' : Nat) (s : σ) (hI : S.Inv s) (hf : S.mu s < f) (hf' : S.mu s < f') :
    (readFromLoop S.R sz f 0 s).1 = (readFromLoop S.R sz' f' 0 s).1 := by
  rw [(readFromLoop_spec L sz hsz f 0 s hI hf).1, (readFromLoop_spec L sz' hsz' f' 0 s hI hf').1]

end

structure Snk where
  got : Bytes := []            -- everything accepted so far
  caps : List Nat              -- per `Write` call: 0 = takes all; n + 1 = takes at most n bytes
  limit : Option Nat           -- total capacity: the byte offset at which writing fails
  werr : Err                   -- the error a short write returns
  lie : Bool := false          -- a short write returns a nil error (violates `io.Writer`)
  closes : Nat := 0
  cerr : Option Err := none

/-- How many of `n` offered bytes this call takes. -/
def Snk.accept (w : Snk) (n : Nat) : Nat :=
  let a := match w.caps with
    | (c + 1) :: _ => min n c
    | _ => n
  match w.limit with
  | some l => min a (l - w.got.length)
  | none => a

/-- `Write(p)`: the count and error returned. -/
def Snk.write (w : Snk) (p : Bytes) : (Nat × Option Err) × Snk :=
  ((w.accept p.length,
    if w.accept p.length < p.length ∧ w.lie = false then some w.werr else none),
   { w with got := w.got ++ p.take (w.accept p.length), caps := w.caps.tail })

def Snk.close (w : Snk) : Option Err × Snk := (w.cerr, { w with closes := w.closes + 1 })

/-- A writer that never refuses a byte. -/
def Snk.faultFree (w : Snk) : Bool := w.limit.isNone && w.caps.all (· == 0)

/-- The writer honours the contract of `io.Writer` ("Write must return a non-nil error if it
returns n < len(p)"). -/
def Snk.honest (w : Snk) : Bool := !w.lie

theorem Snk.accept_le (w : Snk) (n : Nat) : w.accept n ≤ n := by
  simp only [Snk.accept]
  split <;> split <;> omega

theorem Snk.accept_faultFree (w : Snk) (n : Nat) (h : w.faultFree = true) : w.accept n = n := by
  unfold Snk.faultFree at h
  simp only [Bool.and_eq_true, Option.isNone_iff_eq_none] at h
  unfold Snk.accept
  rw [h.1]
  cases hc : w.caps with
  | nil => rfl
  | cons c r =>
    have := h.2
    rw [hc] at this
    simp only [List.all_cons, Bool.and_eq_true, beq_iff_eq] at this
    rw [this.1]

theorem Snk.write_faultFree (w : Snk) (p : Bytes) (h : w.faultFree = true) :
    (w.write p).2.faultFree = true := by
  unfold Snk.faultFree at h ⊢
  simp only [Bool.and_eq_true] at h ⊢
  refine ⟨h.1, ?_⟩
  show w.caps.tail.all (· == 0) = true
  cases hc : w.caps with
  | nil => rfl
  | cons c r =>
    have := h.2; rw [hc] at this
    simp only [List.all_cons, Bool.and_eq_true] at this
    exact this.2

theorem Snk.accept_limit (w : Snk) (n l : Nat) (h : w.limit = some l) :
    w.accept n ≤ l - w.got.length := by
  unfold Snk.accept
  rw [h]
  exact Nat.min_le_right _ _

theorem Snk.write_got (w : Snk) (p : Bytes) :
    (w.write p).2.got = w.got ++ p.take (w.accept p.length) := rfl
theorem Snk.write_count (w : Snk) (p : Bytes) : (w.write p).1.1 = w.accept p.length := rfl
theorem Snk.write_closes (w : Snk) (p : Bytes) : (w.write p).2.closes = w.closes := rfl
theorem Snk.write_limit (w : Snk) (p : Bytes) : (w.write p).2.limit = w.limit := rfl
theorem Snk.write_lie (w : Snk) (p : Bytes) : (w.write p).2.lie = w.lie := rfl
theorem Snk.write_werr (w : Snk) (p : Bytes) : (w.write p).2.werr = w.werr := rfl

theorem Snk.write_ok_full (w : Snk) (p : Bytes) (hh : w.lie = false)
    (h : (w.write p).1.2 = none) : w.accept p.length = p.length := by
  have hle := w.accept_le p.length
  by_cases hlt : w.accept p.length < p.length
  · exact nomatch (if_pos ⟨hlt, hh⟩).symm.trans h
  · omega

theorem Snk.write_err (w : Snk) (p : Bytes) (e : Err) (h : (w.write p).1.2 = some e) :
    e = w.werr ∧ w.accept p.length < p.length := by
  have h : (if w.accept p.length < p.length ∧ w.lie = false then some w.werr else none) = some e := h
  split at h
  · rename_i hc
    exact ⟨(Option.some.inj h).symm, hc.1⟩
  · cases h

theorem Snk.write_faultFree_ok (w : Snk) (p : Bytes) (h : w.faultFree = true) :
    (w.write p).1.2 = none ∧ (w.write p).1.1 = p.length :=
  have ha := w.accept_faultFree p.length h
  ⟨if_neg fun hc => Nat.lt_irrefl _ (ha ▸ hc.1), ha⟩

theorem Snk.write_within (w : Snk) (p : Bytes) (l : Nat) (hl : w.limit = some l)
    (h : w.got.length ≤ l) : (w.write p).2.got.length ≤ l := by
  rw [Snk.write_got, List.length_append, List.length_take]
  have := w.accept_limit p.length l hl
  omega

/-- What `io.Copy` can return: the reader's error, the writer's error, `io.ErrShortWrite`. -/
inductive CErr where
  | rd (e : Err)
  | wr (e : Err)
  | short
deriving DecidableEq, Repr

/-- `io.Copy`: `size := 32 * 1024`. -/
def copyBuf : Nat := 32768

/-- How a `Read` result ends the loop: `if er != nil { if er != EOF { err = er }; break }`. -/
def copyEnd (e : Err) : Option CErr := if e = .eof then none else some (.rd e)

/-- Result: the error returned, whether the call budget of the model ran out, both end states.
(`nw < 0 || nr < nw` cannot happen with a `Snk`: `accept_le`.) -/
def copyLoop {σ : Type} (R : Reader σ) : Nat → σ → Snk → (Option CErr × Bool) × σ × Snk
  | 0, s, w => ((none, true), s, w)
  | f + 1, s, w =>
    let r := R.read s copyBuf
    if r.1.1.isEmpty then
      match r.1.2 with
      | some e => ((copyEnd e, false), r.2, w)
      | none => copyLoop R f r.2 w
    else
      let x := w.write r.1.1
      match x.1.2 with
      | some e => ((some (.wr e), false), r.2, x.2)
      | none =>
        if x.1.1 ≠ r.1.1.length then ((some .short, false), r.2, x.2)
        else match r.1.2 with
          | some e => ((copyEnd e, false), r.2, x.2)
          | none => copyLoop R f r.2 x.2

theorem copyBuf_pos : 0 < copyBuf := by unfold copyBuf; omega

theorem copyEnd_none {e : Err} (h : copyEnd e = none) : e = .eof := by
  unfold copyEnd at h; split at h
  · assumption
  · cases h

theorem copyEnd_rd {e e' : Err} (h : copyEnd e = some (.rd e')) : e' = e ∧ e ≠ .eof := by
  unfold copyEnd at h; split at h
  · cases h
  · rename_i hne; simp only [Option.some.injEq, CErr.rd.injEq] at h; exact ⟨h.symm, hne⟩

theorem copyEnd_cases (e : Err) : (e = .eof ∧ copyEnd e = none) ∨ (e ≠ .eof ∧ copyEnd e = some (.rd e)) := by
  unfold copyEnd
  by_cases h : e = .eof
  · left; exact ⟨h, by rw [if_pos h]⟩
  · right; exact ⟨h, by rw [if_neg h]⟩

/-- What the loop guarantees, whatever the writer does. -/
structure CopyPost {σ : Type} (S : Sem σ) (s : σ) (w : Snk)
    (o : (Option CErr × Bool) × σ × Snk) : Prop where
  noHang : o.1.2 = false
  prefix_ : ∃ p q, S.content s = p ++ q ∧ o.2.2.got = w.got ++ p
  ok_eof : o.1.1 = none → S.term s = .eof
  ok_all : w.lie = false → o.1.1 = none → o.2.2.got = w.got ++ S.content s
  ok_drained : o.1.1 = none → S.content o.2.1 = []
  rd_err : ∀ e, o.1.1 = some (.rd e) → e = S.term s ∧ e ≠ .eof
  wr_err : ∀ e, o.1.1 = some (.wr e) → e = w.werr
  faultFree : w.faultFree = true → o.1.1 = copyEnd (S.term s) ∧ o.2.2.got = w.got ++ S.content s
  within : ∀ l, w.limit = some l → w.got.length ≤ l → o.2.2.got.length ≤ l
  frame : S.closes o.2.1 = S.closes s ∧ o.2.2.closes = w.closes ∧ o.2.2.limit = w.limit ∧
    o.2.2.lie = w.lie ∧ o.2.2.werr = w.werr ∧ S.term o.2.1 = S.term s

section
variable {σ : Type} {S : Sem σ} {s s' : σ} {w w' : Snk}

/-- `w'` is `w` after it took all of `d`: `d` appended, the configuration unchanged, capacity respected. -/
structure Snk.Took (w : Snk) (d : Bytes) (w' : Snk) : Prop where
  got : w'.got = w.got ++ d
  closes : w'.closes = w.closes
  limit : w'.limit = w.limit
  lie : w'.lie = w.lie
  werr : w'.werr = w.werr
  faultFree : w.faultFree = true → w'.faultFree = true
  within : ∀ l, w.limit = some l → w.got.length ≤ l → w'.got.length ≤ l

theorem Snk.took_nil (w : Snk) : w.Took [] w :=
  ⟨(List.append_nil _).symm, rfl, rfl, rfl, rfl, id, fun _ _ h => h⟩

theorem Snk.write_took (w : Snk) (p : Bytes) (h : w.accept p.length = p.length) : w.Took p (w.write p).2 :=
  ⟨by rw [Snk.write_got, h, List.take_length], rfl, rfl, rfl, rfl, w.write_faultFree p, w.write_within p⟩

theorem CopyPost.ended (T : w.Took (S.content s) w') (hd : S.content s' = []) (ht : S.term s' = S.term s)
    (hcl : S.closes s' = S.closes s) : CopyPost S s w ((copyEnd (S.term s), false), s', w') where
  noHang := rfl
  prefix_ := ⟨S.content s, [], (List.append_nil _).symm, T.got⟩
  ok_eof := copyEnd_none
  ok_all := fun _ _ => T.got
  ok_drained := fun _ => hd
  rd_err := fun _ h => ⟨(copyEnd_rd h).1, (copyEnd_rd h).1 ▸ (copyEnd_rd h).2⟩
  wr_err := fun e h => by rcases copyEnd_cases (S.term s) with ⟨_, h'⟩ | ⟨_, h'⟩ <;> rw [h'] at h <;> cases h
  faultFree := fun _ => ⟨rfl, T.got⟩
  within := T.within
  frame := ⟨hcl, T.closes, T.limit, T.lie, T.werr, ht⟩

theorem CopyPost.failed {x : CErr} {d : Bytes} (hx : x = .wr w.werr ∨ x = .short)
    (hc : S.content s = d ++ S.content s') (hnf : ¬w.faultFree = true)
    (ht : S.term s' = S.term s) (hcl : S.closes s' = S.closes s) :
    CopyPost S s w ((some x, false), s', (w.write d).2) where
  noHang := rfl
  prefix_ := ⟨d.take (w.accept d.length), d.drop (w.accept d.length) ++ S.content s',
    by rw [← List.append_assoc, List.take_append_drop]; exact hc, rfl⟩
  ok_eof := nofun
  ok_all := fun _ => nofun
  ok_drained := nofun
  rd_err := fun e h => by rcases hx with rfl | rfl <;> cases h
  wr_err := fun e h => by rcases hx with rfl | rfl <;> cases h <;> rfl
  faultFree := fun h => absurd h hnf
  within := w.write_within d
  frame := ⟨hcl, rfl, rfl, rfl, rfl, ht⟩

theorem CopyPost.step {d : Bytes} {o : (Option CErr × Bool) × σ × Snk} (P : CopyPost S s' w' o)
    (T : w.Took d w') (hc : S.content s = d ++ S.content s') (ht : S.term s' = S.term s)
    (hcl : S.closes s' = S.closes s) : CopyPost S s w o := by
  have hall : o.2.2.got = w'.got ++ S.content s' → o.2.2.got = w.got ++ S.content s := fun h => by
    rw [h, T.got, List.append_assoc, ← hc]
  obtain ⟨p, q, hpq, hp⟩ := P.prefix_
  obtain ⟨f1, f2, f3, f4, f5, f6⟩ := P.frame
  exact {
    noHang := P.noHang
    prefix_ := ⟨d ++ p, q, by rw [hc, hpq, List.append_assoc], by rw [hp, T.got, List.append_assoc]⟩
    ok_eof := fun h => ht ▸ P.ok_eof h
    ok_all := fun hl hn => hall (P.ok_all (T.lie.trans hl) hn)
    ok_drained := P.ok_drained
    rd_err := fun e h => ht ▸ P.rd_err e h
    wr_err := fun e h => (P.wr_err e h).trans T.werr
    faultFree := fun h => ⟨ht ▸ (P.faultFree (T.faultFree h)).1, hall (P.faultFree (T.faultFree h)).2⟩
    within := fun l hl h => P.within l (T.limit.trans hl) (T.within l hl h)
    frame := ⟨f1.trans hcl, f2.trans T.closes, f3.trans T.limit, f4.trans T.lie, f5.trans T.werr, f6.trans ht⟩ }

variable (L : RLaws S)
include L

theorem copyLoop_spec (f : Nat) (s : σ) (w : Snk) (hI : S.Inv s) (hf : S.mu s < f) :
    CopyPost S s w (copyLoop S.R f s w) := by
  induction f generalizing s w with
  | zero => omega
  | succ f ih =>
    simp only [copyLoop]
    have hc := L.read_content s copyBuf hI
    have hI' := L.read_inv s copyBuf hI
    have ht := L.read_term s copyBuf
    have hcl := L.read_closes s copyBuf
    have hre := L.read_err s copyBuf
    have hlt := L.read_progress s copyBuf hI copyBuf_pos
    generalize S.R.read s copyBuf = r at hc hI' ht hcl hre hlt
    -- the reader's error, if any, ends the loop: then it is the terminal and nothing is left
    have hend : ∀ e w', w.Took r.1.1 w' → r.1.2 = some e →
        CopyPost S s w ((copyEnd e, false), r.2, w') := fun e w' T he => by
      obtain ⟨rfl, hd⟩ := hre e hI he
      rw [hd, List.append_nil] at hc
      exact .ended (hc ▸ T) hd ht hcl
    split
    · rename_i hemp
      rw [List.isEmpty_iff] at hemp
      split
      · rename_i e he
        exact hend e w (hemp ▸ w.took_nil) he
      · rename_i he
        exact (ih r.2 w hI' (by have := hlt he; omega)).step w.took_nil (hemp ▸ hc) ht hcl
    · split
      · rename_i e he
        obtain ⟨rfl, _⟩ := w.write_err r.1.1 e he
        refine .failed (.inl rfl) hc (fun hff => ?_) ht hcl
        rw [(w.write_faultFree_ok r.1.1 hff).1] at he
        cases he
      · split
        · -- short count without an error (a lying writer)
          rename_i hshort
          exact .failed (.inr rfl) hc (fun hff => hshort (w.write_faultFree_ok r.1.1 hff).2) ht hcl
        · rename_i hfull
          have T := w.write_took r.1.1 (Decidable.of_not_not hfull)
          split
          · rename_i e he
            exact hend e _ T he
          · rename_i he
            exact (ih r.2 _ hI' (by have := hlt he; omega)).step T hc ht hcl

end

end RtVerif.Stream
