import RtVerif.Base.Bytes
/-
  Num — Go `strconv` number syntax on byte strings. Core Lean only.

  * `parseInt10 w s` mirrors `strconv.ParseInt(s, 10, w)` (sign, decimal digits only — in base 10 an
    underscore is a syntax error —, empty string error, range error per bit size), with the
    characterisation `parseInt10 w s = ok v ↔ IntLit s v ∧ -2^(w-1) ≤ v < 2^(w-1)` where `IntLit` is
    the grammar `[+-]?[0-9]+` with its denotation.
  * `floatLex s` mirrors the ACCEPT SET of `strconv.ParseFloat(s, 64)` before rounding: `special`
    (inf / infinity / nan, case-insensitive), `readFloat` (decimal and hex-float mantissa, exponent,
    underscores as `underscoreOK` allows them) and the "whole string consumed" rule. It returns the
    exact rational the text denotes (`sign · mant · base^…`) — float *rounding* is not modelled here.
-/
namespace RtVerif.Num
open RtVerif

inductive ParseErr where
  | syntax
  | range
deriving Repr, DecidableEq, BEq

instance instDecEqExcept {ε α : Type} [DecidableEq ε] [DecidableEq α] : DecidableEq (Except ε α) := fun a b =>
  match a, b with
  | .ok x, .ok y => if h : x = y then isTrue (by rw [h]) else isFalse (fun e => by cases e; exact h rfl)
  | .error x, .error y => if h : x = y then isTrue (by rw [h]) else isFalse (fun e => by cases e; exact h rfl)
  | .ok _, .error _ => isFalse (fun e => by cases e)
  | .error _, .ok _ => isFalse (fun e => by cases e)

def isDigit (b : UInt8) : Bool := 48 ≤ b && b ≤ 57

def digitVal (b : UInt8) : Nat := b.toNat - 48

/-- the value of a digit string read after a prefix of value `acc` -/
def valFrom : Bytes → Nat → Nat
  | [], acc => acc
  | b :: r, acc => valFrom r (10 * acc + digitVal b)

def natOfDigits (ds : Bytes) : Nat := valFrom ds 0

/-- The digit loop of `strconv.ParseUint(s, 10, w)` with `maxVal = 2^w - 1`.
Go tests `n >= cutoff` (`10*n` would leave 64 bits), then `n1 < n || n1 > maxVal` after adding the
digit; over unbounded naturals the two tests together are `10*n + d > maxVal`. A non-digit met
before any overflow is a syntax error; an overflow met first is a range error (Go returns at once). -/
def uintLoop (maxVal : Nat) : Bytes → Nat → Except ParseErr Nat
  | [], acc => .ok acc
  | b :: r, acc =>
    if isDigit b then
      if 10 * acc + digitVal b > maxVal then .error .range
      else uintLoop maxVal r (10 * acc + digitVal b)
    else .error .syntax

/-- `strconv.ParseUint(s, 10, w)` -/
def parseUint10 (w : Nat) (s : Bytes) : Except ParseErr Nat :=
  match s with
  | [] => .error .syntax
  | _ => uintLoop (2 ^ w - 1) s 0

/-- the part of `ParseInt` after the sign has been removed -/
def parseIntBody (w : Nat) (neg : Bool) (ds : Bytes) : Except ParseErr Int :=
  match parseUint10 w ds with
  | .error .syntax => .error .syntax
  | .error .range => .error .range      -- un = maxVal ≥ cutoff: both cutoff tests fail
  | .ok un =>
    if !neg && un ≥ 2 ^ (w - 1) then .error .range
    else if neg && un > 2 ^ (w - 1) then .error .range
    else .ok (if neg then -(un : Int) else (un : Int))

/-- `strconv.ParseInt(s, 10, w)` for `w ∈ {8,16,32,64}` -/
def parseInt10 (w : Nat) (s : Bytes) : Except ParseErr Int :=
  match s with
  | [] => .error .syntax
  | 43 :: r => parseIntBody w false r
  | 45 :: r => parseIntBody w true r
  | _ => parseIntBody w false s

/-- The grammar `[+-]?[0-9]+` with its denotation. -/
inductive IntLit : Bytes → Int → Prop where
  | plain (ds : Bytes) : ds ≠ [] → (∀ b ∈ ds, isDigit b = true) → IntLit ds (natOfDigits ds)
  | plus (ds : Bytes) : ds ≠ [] → (∀ b ∈ ds, isDigit b = true) → IntLit (43 :: ds) (natOfDigits ds)
  | minus (ds : Bytes) : ds ≠ [] → (∀ b ∈ ds, isDigit b = true) → IntLit (45 :: ds) (-(natOfDigits ds : Int))

/-- `v` fits a signed `w`-bit integer -/
def fitsInt (w : Nat) (v : Int) : Prop :=
  -((2 ^ (w - 1) : Nat) : Int) ≤ v ∧ v < ((2 ^ (w - 1) : Nat) : Int)

instance (w : Nat) (v : Int) : Decidable (fitsInt w v) := by unfold fitsInt; exact inferInstance

/-- decimal rendering (`strconv.FormatInt(v, 10)`) -/
def natDigits (fuel n : Nat) (acc : Bytes) : Bytes :=
  match fuel with
  | 0 => acc
  | fuel + 1 =>
    if n < 10 then UInt8.ofNat (48 + n) :: acc
    else natDigits fuel (n / 10) (UInt8.ofNat (48 + n % 10) :: acc)

def formatNat (n : Nat) : Bytes := natDigits (n + 1) n []

def formatInt (v : Int) : Bytes :=
  match v with
  | .ofNat n => formatNat n
  | .negSucc n => 45 :: formatNat (n + 1)

theorem valFrom_ge (acc : Nat) (s : Bytes) : acc ≤ valFrom s acc := by
  induction s generalizing acc with
  | nil => exact Nat.le_refl _
  | cons b r ih =>
    have := ih (10 * acc + digitVal b)
    simp only [valFrom]
    omega

theorem uintLoop_ok_iff (M : Nat) (s : Bytes) (acc n : Nat) (h : acc ≤ M) :
    uintLoop M s acc = .ok n ↔
      (∀ b ∈ s, isDigit b = true) ∧ n = valFrom s acc ∧ valFrom s acc ≤ M := by
  induction s generalizing acc with
  | nil =>
    simp only [uintLoop, valFrom, List.not_mem_nil, false_imp_iff, implies_true, true_and, Except.ok.injEq]
    exact ⟨fun e => ⟨e.symm, h⟩, fun e => e.1.symm⟩
  | cons b r ih =>
    simp only [uintLoop, valFrom, List.mem_cons, forall_eq_or_imp]
    split
    · rename_i hd
      split
      · -- the value only grows: once above `M`, always above `M`
        have := valFrom_ge (10 * acc + digitVal b) r
        simp only [reduceCtorEq, false_iff]
        omega
      · simp only [hd, true_and]
        exact ih _ (by omega)
    · simp [*]

theorem parseUint10_ok_iff (w : Nat) (s : Bytes) (n : Nat) :
    parseUint10 w s = .ok n ↔
      s ≠ [] ∧ (∀ b ∈ s, isDigit b = true) ∧ n = natOfDigits s ∧ natOfDigits s ≤ 2 ^ w - 1 := by
  cases s with
  | nil => simp [parseUint10]
  | cons b r =>
    simp only [parseUint10, natOfDigits, ne_eq, reduceCtorEq, not_false_eq_true, true_and]
    exact uintLoop_ok_iff (2 ^ w - 1) (b :: r) 0 n (Nat.zero_le _)

theorem two_pow_pred (w : Nat) (hw : 1 ≤ w) : 2 ^ w = 2 * 2 ^ (w - 1) := by
  obtain ⟨k, rfl⟩ : ∃ k, w = k + 1 := ⟨w - 1, by omega⟩
  simp [Nat.pow_succ, Nat.mul_comm]

theorem parseIntBody_ok_iff (w : Nat) (hw : 1 ≤ w) (neg : Bool) (ds : Bytes) (v : Int) :
    parseIntBody w neg ds = .ok v ↔
      ds ≠ [] ∧ (∀ b ∈ ds, isDigit b = true) ∧
        v = (if neg then -(natOfDigits ds : Int) else (natOfDigits ds : Int)) ∧ fitsInt w v := by
  have hP := two_pow_pred w hw
  have hpos : 0 < 2 ^ (w - 1) := Nat.pow_pos (by decide)
  have hu := parseUint10_ok_iff w ds
  unfold parseIntBody fitsInt
  generalize 2 ^ (w - 1) = P at *
  cases hpu : parseUint10 w ds with
  | ok un =>
    obtain ⟨h1, h2, rfl, h4⟩ := (hu un).1 hpu
    cases neg <;> simp [h1]
    all_goals
      split
      · simp only [reduceCtorEq, false_iff]
        omega
      · simp only [Except.ok.injEq]
        exact ⟨fun e => e ▸ ⟨h2, rfl, by omega⟩, fun h => h.2.1.symm⟩
  | error e =>
    -- a value that fits `w` bits is below `2^w`: `ParseUint` would have read it
    have key := fun h1 h2 h3 => (hu (natOfDigits ds)).2 ⟨h1, h2, rfl, h3⟩
    simp only [hpu, reduceCtorEq, imp_false] at key
    cases e <;> simp only [reduceCtorEq, false_iff]
    all_goals
      intro ⟨h1, h2, h3, h4⟩
      have := key h1 h2
      split at h3 <;> omega

theorem isDigit_ne_sign {b : UInt8} (h : isDigit b = true) : b ≠ 43 ∧ b ≠ 45 := by
  constructor <;> (intro e; subst e; revert h; decide)

/-- **Characterisation.** `strconv.ParseInt(s, 10, w)` succeeds with `v` exactly when `s` is a
literal of the grammar `[+-]?[0-9]+` denoting `v` and `v` fits `w` bits. -/
theorem parseInt10_ok_iff (w : Nat) (hw : 1 ≤ w) (s : Bytes) (v : Int) :
    parseInt10 w s = .ok v ↔ IntLit s v ∧ fitsInt w v := by
  constructor
  · intro h
    unfold parseInt10 at h
    split at h
    · cases h
    all_goals obtain ⟨h1, h2, rfl, h4⟩ := (parseIntBody_ok_iff w hw _ _ v).1 h
    · exact ⟨.plus _ h1 h2, h4⟩
    · exact ⟨.minus _ h1 h2, h4⟩
    · exact ⟨.plain _ h1 h2, h4⟩
  · rintro ⟨hl, hf⟩
    cases hl with
    | plus ds h1 h2 => exact (parseIntBody_ok_iff w hw false ds _).2 ⟨h1, h2, rfl, hf⟩
    | minus ds h1 h2 => exact (parseIntBody_ok_iff w hw true ds _).2 ⟨h1, h2, rfl, hf⟩
    | plain _ h1 h2 =>
      obtain ⟨b, r, rfl⟩ := List.exists_cons_of_ne_nil h1
      -- a digit is no sign: the last arm of `parseInt10`
      have hb := isDigit_ne_sign (h2 b (List.mem_cons_self ..))
      simpa [parseInt10, hb] using (parseIntBody_ok_iff w hw false _ _).2 ⟨h1, h2, rfl, hf⟩

theorem parseInt10_error_iff (w : Nat) (hw : 1 ≤ w) (s : Bytes) :
    (∃ e, parseInt10 w s = .error e) ↔ ¬ ∃ v, IntLit s v ∧ fitsInt w v := by
  simp only [← parseInt10_ok_iff w hw]
  cases parseInt10 w s <;> simp

theorem IntLit.unique {s : Bytes} {v v' : Int} (h : IntLit s v) (h' : IntLit s v') : v = v' := by
  -- both are what `parseInt10` yields at a width that holds both
  have hf : ∀ u : Int, u.natAbs ≤ v.natAbs + v'.natAbs → fitsInt (v.natAbs + v'.natAbs + 1 + 1) u := by
    intro u hu
    have := @Nat.lt_two_pow_self (v.natAbs + v'.natAbs + 1)
    unfold fitsInt
    rw [Nat.add_sub_cancel]
    omega
  have a := (parseInt10_ok_iff _ (by omega) s v).2 ⟨h, hf v (by omega)⟩
  have b := (parseInt10_ok_iff _ (by omega) s v').2 ⟨h', hf v' (by omega)⟩
  exact Except.ok.inj (a.symm.trans b)

theorem digit_byte : ∀ n, n < 10 → isDigit (UInt8.ofNat (48 + n)) = true ∧ digitVal (UInt8.ofNat (48 + n)) = n := by
  decide

/-- the loop of `natDigits`, started with enough fuel: it prepends to `acc` the digits of `n`, at least one, most
significant first -/
theorem natDigits_spec (fuel n : Nat) (acc : Bytes) (h : n < fuel) (hacc : ∀ b ∈ acc, isDigit b = true) :
    natDigits fuel n acc ≠ [] ∧ (∀ b ∈ natDigits fuel n acc, isDigit b = true) ∧
      valFrom (natDigits fuel n acc) 0 = valFrom acc n := by
  induction fuel generalizing n acc with
  | zero => omega
  | succ f ih =>
    simp only [natDigits]
    split
    · rename_i h10
      exact ⟨List.cons_ne_nil _ _, List.forall_mem_cons.2 ⟨(digit_byte n h10).1, hacc⟩,
        by simp only [valFrom, (digit_byte n h10).2, Nat.mul_zero, Nat.zero_add]⟩
    · have hd := digit_byte (n % 10) (Nat.mod_lt _ (by decide))
      obtain ⟨h1, h2, h3⟩ := ih (n / 10) _ (by omega) (List.forall_mem_cons.2 ⟨hd.1, hacc⟩)
      refine ⟨h1, h2, ?_⟩
      rw [h3, valFrom, hd.2, Nat.div_add_mod]

theorem formatNat_digits (n : Nat) :
    formatNat n ≠ [] ∧ (∀ b ∈ formatNat n, isDigit b = true) ∧ natOfDigits (formatNat n) = n :=
  natDigits_spec (n + 1) n [] (Nat.lt_succ_self n) (fun _ h => nomatch h)

theorem formatInt_lit (v : Int) : IntLit (formatInt v) v := by
  cases v with
  | ofNat n =>
    obtain ⟨h1, h2, h3⟩ := formatNat_digits n
    have := IntLit.plain _ h1 h2
    rwa [h3] at this
  | negSucc n =>
    obtain ⟨h1, h2, h3⟩ := formatNat_digits (n + 1)
    have := IntLit.minus _ h1 h2
    rwa [h3] at this

/-- **Round trip.** `ParseInt(FormatInt(v, 10), 10, w) = v` for every `v` that fits `w` bits. -/
theorem parseInt10_formatInt (w : Nat) (hw : 1 ≤ w) (v : Int) (hf : fitsInt w v) :
    parseInt10 w (formatInt v) = .ok v :=
  (parseInt10_ok_iff w hw _ v).2 ⟨formatInt_lit v, hf⟩

/-- **Boundaries.** For every width: the greatest literal `2^(w-1)-1` and the least `-2^(w-1)` parse to
themselves, their outer neighbours are range errors (the texts are the decimal renderings). -/
theorem parseInt10_boundaries (w : Nat) (hw : w = 8 ∨ w = 16 ∨ w = 32 ∨ w = 64) :
    parseInt10 w (formatInt (2 ^ (w - 1) - 1)) = .ok (2 ^ (w - 1) - 1) ∧
    parseInt10 w (formatInt (2 ^ (w - 1))) = .error .range ∧
    parseInt10 w (formatInt (-(2 ^ (w - 1)))) = .ok (-(2 ^ (w - 1))) ∧
    parseInt10 w (formatInt (-(2 ^ (w - 1)) - 1)) = .error .range := by
  rcases hw with rfl | rfl | rfl | rfl <;> decide

/-- shapes that are NOT literals: empty, bare signs, double signs, underscores, hex, blanks, exponents -/
example : parseInt10 64 [] = .error .syntax ∧ parseInt10 64 [43] = .error .syntax ∧
    parseInt10 64 [45, 45, 49] = .error .syntax ∧ parseInt10 64 [49, 95, 48] = .error .syntax ∧
    parseInt10 64 [48, 120, 49] = .error .syntax ∧ parseInt10 64 [32, 49] = .error .syntax ∧
    parseInt10 64 [49, 101, 51] = .error .syntax ∧ parseInt10 8 [43, 48, 48, 55] = .ok 7 ∧
    parseInt10 8 [45, 48] = .ok 0 := by decide

/-! ## Float lexing (`strconv.ParseFloat` accept set) -/

def lowerB (b : UInt8) : UInt8 := if 65 ≤ b && b ≤ 90 then b + 32 else b

def isHexLetter (b : UInt8) : Bool := 97 ≤ lowerB b && lowerB b ≤ 102

/-- `commonPrefixLenIgnoreCase(s, prefix)` (prefix lower-case) -/
def commonPrefixLenCI : Bytes → Bytes → Nat
  | c :: s, p :: ps => if lowerB c == p then commonPrefixLenCI s ps + 1 else 0
  | _, _ => 0

def infinityB : Bytes := [105, 110, 102, 105, 110, 105, 116, 121]
def nanB : Bytes := [110, 97, 110]

inductive Special where
  | inf (neg : Bool)
  | nan
deriving Repr, DecidableEq, BEq

/-- the `inf` arm of `special`: how many bytes of `s` (after the sign) are consumed, if any -/
def infLen (s : Bytes) : Option Nat :=
  let n := commonPrefixLenCI s infinityB
  let n := if 3 < n && n < 8 then 3 else n
  if n == 3 || n == 8 then some n else none

/-- `special(s)`: the special value and the number of bytes consumed -/
def special (s : Bytes) : Option (Special × Nat) :=
  match s with
  | [] => none
  | c :: r =>
    if c == 43 || c == 45 then (infLen r).map fun n => (.inf (c == 45), n + 1)
    else if c == 105 || c == 73 then (infLen s).map fun n => (.inf false, n)
    else if c == 110 || c == 78 then
      if commonPrefixLenCI s nanB == 3 then some (.nan, 3) else none
    else none

/-- State of the mantissa loop of `readFloat`: digits seen, leading-zero/dot bookkeeping reduced to
what decides acceptance and the exact value: `mant` all significant digits (no 19-digit cap: the
model is exact), `nd` their count, `dp` the position of the point. -/
structure MantState where
  mant : Nat := 0
  nd : Nat := 0
  dp : Int := 0
  sawdot : Bool := false
  sawdigits : Bool := false
  underscores : Bool := false
deriving Repr, DecidableEq

/-- the `loop:` of `readFloat`; returns the state and the unread rest -/
def mantLoop (hex : Bool) : Bytes → MantState → MantState × Bytes
  | [], st => (st, [])
  | c :: r, st =>
    if c == 95 then mantLoop hex r { st with underscores := true }
    else if c == 46 then
      if st.sawdot then (st, c :: r)
      else mantLoop hex r { st with sawdot := true, dp := st.nd }
    else if isDigit c then
      if c == 48 && st.nd == 0 then mantLoop hex r { st with sawdigits := true, dp := st.dp - 1 }
      else mantLoop hex r { st with sawdigits := true, nd := st.nd + 1,
                                    mant := (if hex then 16 else 10) * st.mant + digitVal c }
    else if hex && isHexLetter c then
      mantLoop hex r { st with sawdigits := true, nd := st.nd + 1,
                               mant := 16 * st.mant + ((lowerB c).toNat - 87) }
    else (st, c :: r)

/-- exponent digits (underscores skipped and remembered); Go saturates `e` at ≥ 10000 -/
def expLoop : Bytes → Nat → Bool → (Nat × Bool) × Bytes
  | [], e, u => ((e, u), [])
  | c :: r, e, u =>
    if c == 95 then expLoop r e true
    else if isDigit c then expLoop r (if e < 10000 then 10 * e + digitVal c else e) u
    else ((e, u), c :: r)

/-- `underscoreOK` after the optional sign and base prefix: `saw` ∈ {0 = '^', 1 = '0', 2 = '_', 3 = '!'} -/
def uscoreLoop (hex : Bool) : Bytes → Nat → Bool
  | [], saw => saw != 2
  | c :: r, saw =>
    if isDigit c || (hex && isHexLetter c) then uscoreLoop hex r 1
    else if c == 95 then (if saw != 1 then false else uscoreLoop hex r 2)
    else if saw == 2 then false
    else uscoreLoop hex r 3

def underscoreOK (s : Bytes) : Bool :=
  let s := match s with
    | c :: r => if c == 45 || c == 43 then r else s
    | [] => s
  match s with
  | 48 :: x :: r =>
    if lowerB x == 98 || lowerB x == 111 || lowerB x == 120 then uscoreLoop (lowerB x == 120) r 1
    else uscoreLoop false s 0
  | _ => uscoreLoop false s 0

/-- What a syntactically valid finite float text denotes, exactly:
`(-1)^neg · mant · base^(…)` given as `mant · 10^e10` (decimal) or `mant · 2^e2` (hex). -/
structure Exact where
  neg : Bool
  hex : Bool
  mant : Nat
  exp : Int      -- power of 10 (decimal) or of 2 (hex); meaningless when `mant = 0`
deriving Repr, DecidableEq

inductive FloatLex where
  | special (s : Special)
  | finite (x : Exact)
  | bad
deriving Repr, DecidableEq

/-- the optional exponent part of `readFloat`; `none` = syntax error. Result: exponent value,
underscore flag, rest. -/
def readExp (hex : Bool) (s : Bytes) : Option ((Int × Bool) × Bytes) :=
  match s with
  | c :: r =>
    if lowerB c == (if hex then 112 else 101) then
      match r with
      | [] => none
      | d :: r' =>
        let (esign, ds) : Int × Bytes := if d == 43 then (1, r') else if d == 45 then (-1, r') else (1, d :: r')
        match ds with
        | [] => none
        | e0 :: _ =>
          if !isDigit e0 then none
          else
            let res := expLoop ds 0 false
            some ((esign * (res.1.1 : Int), res.1.2), res.2)
    else if hex then none else some ((0, false), s)
  | [] => if hex then none else some ((0, false), [])

/-- `readFloat` + "whole string consumed" -/
def readFloat (s : Bytes) : FloatLex :=
  let neg := match s with | 45 :: _ => true | _ => false
  let body := match s with
    | c :: r => if c == 43 || c == 45 then r else s
    | [] => s
  match body with
  | [] => .bad
  | _ =>
    -- `i+2 < len(s)`: a base prefix needs at least one more byte after `0x`
    let hex := match body with
      | 48 :: x :: _ :: _ => lowerB x == 120
      | _ => false
    let digits := if hex then body.drop 2 else body
    let (st, rest) := mantLoop hex digits {}
    if !st.sawdigits then .bad
    else
      let dp : Int := if st.sawdot then st.dp else st.nd
      match readExp hex rest with
      | none => .bad
      | some ((e, u2), rest2) =>
        if !rest2.isEmpty then .bad
        else if (st.underscores || u2) && !underscoreOK s then .bad
        else
          -- value = mant · base^(dp - nd) · (10^e | 2^e); for hex, dp and nd count 4 bits each
          .finite ⟨neg, hex, st.mant, if hex then 4 * (dp - st.nd) + e else (dp - st.nd) + e⟩

/-- `strconv.ParseFloat`'s accept set: `special` first (must consume everything), else `readFloat`. -/
def floatLex (s : Bytes) : FloatLex :=
  match special s with
  | some (sp, n) => if n == s.length then .special sp else .bad
  | none => readFloat s

/-! ### the accept set on the shapes the property names (checked against Go by the C03 stream) -/

/-- `1_0`, `0x1p-2`, `.5`, `5.`, `1e3`, `inf`, `-Infinity`, `NaN` are accepted … -/
example :
    floatLex [49, 95, 48] = .finite ⟨false, false, 10, 0⟩ ∧
    floatLex [48, 120, 49, 112, 45, 50] = .finite ⟨false, true, 1, -2⟩ ∧
    floatLex [46, 53] = .finite ⟨false, false, 5, -1⟩ ∧
    floatLex [53, 46] = .finite ⟨false, false, 5, 0⟩ ∧
    floatLex [49, 101, 51] = .finite ⟨false, false, 1, 3⟩ ∧
    floatLex [105, 110, 102] = .special (.inf false) ∧
    floatLex [45, 73, 110, 102, 105, 110, 105, 116, 121] = .special (.inf true) ∧
    floatLex [78, 97, 78] = .special .nan := by decide

/-- … while ``, `.`, `1e`, `0x1` (hex needs an exponent), `1__0`, `_1`, `1_`, `+nan`, `infinit`,
` 1` are not. -/
example :
    floatLex [] = .bad ∧ floatLex [46] = .bad ∧ floatLex [49, 101] = .bad ∧ floatLex [48, 120, 49] = .bad ∧
    floatLex [49, 95, 95, 48] = .bad ∧ floatLex [95, 49] = .bad ∧ floatLex [49, 95] = .bad ∧
    floatLex [43, 110, 97, 110] = .bad ∧ floatLex [105, 110, 102, 105, 110, 105, 116] = .bad ∧
    floatLex [32, 49] = .bad := by decide

end RtVerif.Num
