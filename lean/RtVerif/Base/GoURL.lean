import RtVerif.Base.Bytes
/-
  net/url's escaping, as far as go-openapi/runtime uses it: `url.PathEscape` / `url.PathUnescape`
  (mode encodePathSegment) and `url.QueryEscape` / `url.QueryUnescape` (mode encodeQueryComponent).
  Hand-copied from Go's net/url (stdlib is modelled, not verified); checked against the real
  functions over all 256 bytes × both modes by the correspondence stream of C10.
-/
namespace RtVerif.GoURL
open RtVerif

def isAlnum (c : UInt8) : Bool := (97 ≤ c && c ≤ 122) || (65 ≤ c && c ≤ 90) || (48 ≤ c && c ≤ 57)

/-- `- _ . ~` -/
def isMark (c : UInt8) : Bool := c == 45 || c == 95 || c == 46 || c == 126

/-- `$ & + , / : ; = ? @` -/
def isReservedCh (c : UInt8) : Bool :=
  c == 36 || c == 38 || c == 43 || c == 44 || c == 47 || c == 58 || c == 59 || c == 61 || c == 63 || c == 64

/-- `shouldEscape(c, encodeQueryComponent)` when `query`, else `shouldEscape(c, encodePathSegment)` -/
def shouldEscape (query : Bool) (c : UInt8) : Bool :=
  if isAlnum c then false
  else if isMark c then false
  else if isReservedCh c then
    (if query then true else c == 47 || c == 59 || c == 44 || c == 63)
  else true

def upperhex (n : Nat) : UInt8 := if n < 10 then UInt8.ofNat (48 + n) else UInt8.ofNat (55 + n)

def ishex (c : UInt8) : Bool := (48 ≤ c && c ≤ 57) || (97 ≤ c && c ≤ 102) || (65 ≤ c && c ≤ 70)

def unhex (c : UInt8) : Nat :=
  if 48 ≤ c && c ≤ 57 then c.toNat - 48
  else if 97 ≤ c && c ≤ 102 then c.toNat - 87
  else if 65 ≤ c && c ≤ 70 then c.toNat - 55
  else 0

def escapeByte (query : Bool) (c : UInt8) : Bytes :=
  if shouldEscape query c then
    if c == 32 && query then [43]
    else [37, upperhex (c.toNat / 16), upperhex (c.toNat % 16)]
  else [c]

/-- `url.PathEscape` (`query = false`) / `url.QueryEscape` (`query = true`) -/
def escape (query : Bool) (s : Bytes) : Bytes := s.flatMap (escapeByte query)

/-- `url.PathUnescape` / `url.QueryUnescape`; `none` is the `EscapeError` -/
def unescape (query : Bool) : Bytes → Option Bytes
  | [] => some []
  | 37 :: a :: b :: r =>
    if ishex a && ishex b then (unescape query r).map (UInt8.ofNat (unhex a * 16 + unhex b) :: ·) else none
  | 37 :: _ => none
  | c :: r => (unescape query r).map ((if c == 43 && query then 32 else c) :: ·)

def pathEscape := escape false
def pathUnescape := unescape false
def queryEscape := escape true
def queryUnescape := unescape true

theorem hex_roundtrip : ∀ n, n < 16 → ishex (upperhex n) = true ∧ unhex (upperhex n) = n := by decide

theorem upperhex_ishex : ∀ n, n < 16 → ishex (upperhex n) = true := fun n h => (hex_roundtrip n h).1

theorem byte_split (c : UInt8) : UInt8.ofNat (c.toNat / 16 * 16 + c.toNat % 16) = c := by
  rw [Nat.div_add_mod']; exact UInt8.ofNat_toNat

theorem escape_cons (q : Bool) (c : UInt8) (s : Bytes) : escape q (c :: s) = escapeByte q c ++ escape q s := rfl

theorem unescape_cons_ne (q : Bool) (c : UInt8) (r : Bytes) (hc : c ≠ 37) :
    unescape q (c :: r) = (unescape q r).map ((if c == 43 && q then 32 else c) :: ·) := by
  rw [unescape]
  · intro a b r' h _; exact hc h
  · exact hc

/-- `x`, in front of any text, is unescaped to `y` in front of what the text is unescaped to -/
def Decodes (q : Bool) (x y : Bytes) : Prop := ∀ r, unescape q (x ++ r) = (unescape q r).map (y ++ ·)

theorem Decodes.nil (q : Bool) : Decodes q [] [] := fun r => by simp

theorem Decodes.append {q : Bool} {x y x' y' : Bytes} (h : Decodes q x y) (h' : Decodes q x' y') :
    Decodes q (x ++ x') (y ++ y') := by
  intro r
  rw [List.append_assoc, h, h', Option.map_map]
  simp [Function.comp_def]

theorem Decodes.flatMap {α : Type} {q : Bool} {f g : α → Bytes} (l : List α)
    (h : ∀ a ∈ l, Decodes q (f a) (g a)) : Decodes q (l.flatMap f) (l.flatMap g) := by
  induction l with
  | nil => exact .nil q
  | cons a l ih => exact (h a List.mem_cons_self).append (ih fun b hb => h b (List.mem_cons_of_mem _ hb))

theorem Decodes.unescape {q : Bool} {x y : Bytes} (h : Decodes q x y) : unescape q x = some y := by
  simpa [GoURL.unescape] using h []

theorem decodes_byte {c : UInt8} (hc : c ≠ 37) : Decodes false [c] [c] := fun r => by
  simp [unescape_cons_ne false c r hc]

theorem decodes_plain {b : Bytes} (hb : (37 : UInt8) ∉ b) : Decodes false b b := by
  simpa using Decodes.flatMap (f := fun c => [c]) (g := fun c => [c]) b
    fun c hc => decodes_byte fun e => hb (e ▸ hc)

theorem decodes_escapeByte (q : Bool) (c : UInt8) : Decodes q (escapeByte q c) [c] := by
  intro r
  unfold escapeByte
  split
  · split
    · -- a space in query mode is written `+`
      rename_i h
      obtain ⟨rfl, rfl⟩ : c = 32 ∧ q = true := by simpa using h
      exact unescape_cons_ne true 43 r (by decide)
    · obtain ⟨h1, h1'⟩ := hex_roundtrip (c.toNat / 16) (by have := c.toNat_lt; omega)
      obtain ⟨h2, h2'⟩ := hex_roundtrip (c.toNat % 16) (by omega)
      rw [List.cons_append, List.cons_append, List.cons_append, unescape]
      simp only [h1, h2, Bool.and_self, ↓reduceIte, h1', h2', byte_split, List.nil_append, List.singleton_append]
  · -- a byte left alone is neither `%` nor (in query mode) `+`
    rename_i hs
    have hc37 : c ≠ 37 := by
      rintro rfl; revert hs; cases q <;> decide
    have hc43 : (c == 43 && q) = false := by
      rw [Bool.and_eq_false_iff]
      cases q
      · exact Or.inr rfl
      · refine Or.inl (beq_eq_false_iff_ne.mpr ?_)
        rintro rfl; revert hs; decide
    rw [List.singleton_append, unescape_cons_ne q c r hc37, hc43]; rfl

theorem decodes_escape (q : Bool) (v : Bytes) : Decodes q (escape q v) v := by
  simpa [escape] using Decodes.flatMap (g := fun c => [c]) v fun c _ => decodes_escapeByte q c

/-- `PathUnescape (PathEscape s) = s` and `QueryUnescape (QueryEscape s) = s`, for every byte string. -/
theorem unescape_escape (query : Bool) (s : Bytes) : unescape query (escape query s) = some s :=
  (decodes_escape query s).unescape

/-- bytes that an escaped string can contain -/
def isSafe (query : Bool) (c : UInt8) : Bool :=
  c == 37 || ishex c || !shouldEscape query c || (query && c == 43)

theorem escapeByte_safe (query : Bool) (x : UInt8) : ∀ c ∈ escapeByte query x, isSafe query c = true := by
  intro c hc
  unfold escapeByte at hc
  split at hc
  · split at hc
    · rename_i h
      obtain rfl := List.mem_singleton.mp hc
      simp [isSafe, (Bool.and_eq_true _ _ ▸ h).2]
    · simp only [List.mem_cons, List.not_mem_nil, or_false] at hc
      rcases hc with rfl | rfl | rfl
      · simp [isSafe]
      · simp [isSafe, upperhex_ishex _ (by have := x.toNat_lt; omega : x.toNat / 16 < 16)]
      · simp [isSafe, upperhex_ishex _ (by omega : x.toNat % 16 < 16)]
  · rename_i hs
    obtain rfl := List.mem_singleton.mp hc
    simp [isSafe, hs]

theorem escape_safe (query : Bool) (s : Bytes) : ∀ c ∈ escape query s, isSafe query c = true := by
  intro c hc
  obtain ⟨x, _, hx⟩ := List.mem_flatMap.mp hc
  exact escapeByte_safe query x c hx

theorem not_mem_escape {query : Bool} {k : UInt8} (hk : isSafe query k = false) (s : Bytes) :
    k ∉ escape query s :=
  fun h => absurd (escape_safe query s k h) (by simp [hk])

theorem escape_eq_nil (q : Bool) (v : Bytes) : escape q v = [] ↔ v = [] := by
  cases v with
  | nil => simp [escape]
  | cons c r =>
    have : escapeByte q c ≠ [] := by
      unfold escapeByte
      split
      · split <;> simp
      · simp
    simp [escape_cons, this]

/-- A path-escaped value never contains `/ ? # { } SP`: in particular it cannot add a separator, a
query, a fragment, or a `{`/`}` placeholder delimiter. -/
theorem pathEscape_no_special (s : Bytes) :
    ∀ c ∈ pathEscape s, c ≠ 47 ∧ c ≠ 63 ∧ c ≠ 35 ∧ c ≠ 123 ∧ c ≠ 125 ∧ c ≠ 32 := by
  intro c hc
  refine ⟨?_, ?_, ?_, ?_, ?_, ?_⟩ <;> (rintro rfl; exact not_mem_escape (by decide) s hc)

end RtVerif.GoURL
