import RtVerif.Base.Bytes
import RtVerif.Base.GoURL
/-
  GoQuery — net/url's `Values.Encode` and `ParseQuery` on byte strings (core Lean only).

  Hand-copied from Go's net/url (stdlib is modelled, not verified); validated against the real
  functions by the correspondence streams `V E` / `V P` of C04 on every run.

      func (v Values) Encode() string          keys sorted; per key, per value  `&`? QueryEscape(k) `=` QueryEscape(v)
      func parseQuery(m Values, query string)  pieces between `&`; a piece containing `;` is an error (skipped);
                                               empty pieces are skipped; cut at the first `=`; both halves
                                               QueryUnescape'd (an escape error skips the piece and is reported);
                                               `m[key] = append(m[key], value)`

  A `url.Values` is an association list with one entry per key.  The round trip
  `parseQuery (encode m) = m` (as key → value-list maps, keys with no value dropped) is proved here
  for every such list with pairwise distinct keys: any bytes as keys and values.
-/
namespace RtVerif.GoQuery
open RtVerif

abbrev Values := List (Bytes × List Bytes)

def amp : UInt8 := 38
def eq : UInt8 := 61
def semi : UInt8 := 59

def Values.get (vs : Values) (k : Bytes) : Option (List Bytes) := (vs.find? fun kv => kv.1 == k).map (·.2)

/-! ## Encode -/

/-- Go's `<` on strings, as `≤` -/
def bytesLe : Bytes → Bytes → Bool
  | [], _ => true
  | _ :: _, [] => false
  | a :: as, b :: bs => if a < b then true else if b < a then false else bytesLe as bs

def insertKey (kv : Bytes × List Bytes) : Values → Values
  | [] => [kv]
  | x :: xs => if bytesLe kv.1 x.1 then kv :: x :: xs else x :: insertKey kv xs

/-- `slices.Sort(keys)` -/
def sortKeys (vs : Values) : Values := vs.foldr insertKey []

/-- the `k=v` pieces in the order `Encode` writes them -/
def pieces (vs : Values) : List Bytes :=
  vs.flatMap fun kv => kv.2.map fun v => GoURL.queryEscape kv.1 ++ eq :: GoURL.queryEscape v

def joinAmp : List Bytes → Bytes
  | [] => []
  | [p] => p
  | p :: r => p ++ amp :: joinAmp r

/-- `Encode` of values already in key order -/
def encodeSorted (vs : Values) : Bytes := joinAmp (pieces vs)

/-- `url.Values.Encode` -/
def encode (vs : Values) : Bytes := encodeSorted (sortKeys vs)

/-! ## ParseQuery -/

/-- `strings.Cut(s, sep)` for a one-byte separator: text before the first `sep`, text after it -/
def cut (c : UInt8) (s : Bytes) : Bytes × Bytes := (s.takeWhile (· != c), (s.dropWhile (· != c)).drop 1)

/-- the pieces between `&` (`strings.Cut(query, "&")` repeated while `query != ""`) -/
def splitAmp : Bytes → List Bytes
  | [] => []
  | b :: r =>
    if b == amp then [] :: splitAmp r
    else match splitAmp r with
      | [] => [[b]]
      | h :: t => (b :: h) :: t

/-- `m[key] = append(m[key], value)`; a new key goes to the end of the association list -/
def add (m : Values) (k v : Bytes) : Values :=
  match m with
  | [] => [(k, [v])]
  | x :: xs => if x.1 == k then (x.1, x.2 ++ [v]) :: xs else x :: add xs k v

inductive Piece where
  | skip                    -- empty piece
  | bad                     -- `;` inside, or an invalid escape
  | pair (k v : Bytes)
deriving Repr, DecidableEq

def parsePiece (p : Bytes) : Piece :=
  if p.contains semi then .bad
  else if p.isEmpty then .skip
  else
    let kv := cut eq p
    match GoURL.queryUnescape kv.1, GoURL.queryUnescape kv.2 with
    | some k, some v => .pair k v
    | _, _ => .bad

structure Parsed where
  ok : Bool          -- `err == nil`
  values : Values
deriving Repr, DecidableEq

def step (acc : Parsed) (p : Bytes) : Parsed :=
  match parsePiece p with
  | .skip => acc
  | .bad => { acc with ok := false }
  | .pair k v => { acc with values := add acc.values k v }

/-- `url.ParseQuery`: the values collected (also when an error is reported) and whether `err == nil` -/
def parseQuery (q : Bytes) : Parsed := (splitAmp q).foldl step ⟨true, []⟩

theorem escape_nil (q : Bool) : GoURL.escape q [] = [] := rfl

theorem cut_append (c : UInt8) (a b : Bytes) (ha : c ∉ a) : cut c (a ++ c :: b) = (a, b) := by
  have h : ∀ x ∈ a, (x != c) = true := fun x hx => bne_iff_ne.mpr fun e => ha (e ▸ hx)
  simp [cut, List.takeWhile_append_of_pos h, List.dropWhile_append_of_pos h]

theorem cut_of_not_mem (c : UInt8) (s : Bytes) (hs : c ∉ s) : cut c s = (s, []) := by
  have h : ∀ x ∈ s, (x != c) = true := fun x hx => bne_iff_ne.mpr fun e => hs (e ▸ hx)
  have h1 := List.takeWhile_append_of_pos (l₂ := []) h
  have h2 := List.dropWhile_append_of_pos (l₂ := []) h
  simp only [List.append_nil, List.takeWhile_nil, List.dropWhile_nil] at h1 h2
  simp [cut, h1, h2]

theorem splitAmp_piece (a rest : Bytes) (ha : amp ∉ a) (hne : a ≠ []) (hr : rest = [] ∨ ∃ r, rest = amp :: r) :
    splitAmp (a ++ rest) = a :: splitAmp (rest.drop 1) := by
  induction a with
  | nil => exact absurd rfl hne
  | cons c a' ih =>
    have hc : (c == amp) = false := beq_eq_false_iff_ne.mpr fun e => ha (e ▸ List.mem_cons_self)
    simp only [List.cons_append, splitAmp, hc, Bool.false_eq_true, ↓reduceIte]
    cases a' with
    | nil => rcases hr with rfl | ⟨r, rfl⟩ <;> simp [splitAmp]
    | cons d a'' => rw [ih (fun h => ha (List.mem_cons_of_mem _ h)) (by simp)]

theorem splitAmp_joinAmp (ps : List Bytes) (h : ∀ p ∈ ps, amp ∉ p ∧ p ≠ []) : splitAmp (joinAmp ps) = ps := by
  induction ps with
  | nil => rfl
  | cons p r ih =>
    obtain ⟨hp, hne⟩ := h p List.mem_cons_self
    have hr := ih fun x hx => h x (List.mem_cons_of_mem _ hx)
    cases r with
    | nil => simpa [joinAmp, splitAmp] using splitAmp_piece p [] hp hne (Or.inl rfl)
    | cons p2 r2 =>
      show splitAmp (p ++ amp :: joinAmp (p2 :: r2)) = _
      rw [splitAmp_piece p _ hp hne (Or.inr ⟨_, rfl⟩), List.drop_one, List.tail_cons, hr]

/-- the text `Encode` writes for one pair -/
def piece (kv : Bytes × Bytes) : Bytes := GoURL.queryEscape kv.1 ++ eq :: GoURL.queryEscape kv.2

/-- apart from its `=`, a piece holds only bytes of escaped text: no `&`, no `;` -/
theorem not_mem_piece {c : UInt8} (hc : GoURL.isSafe true c = false) (hne : c ≠ eq) (kv : Bytes × Bytes) :
    c ∉ piece kv := by
  simp [piece, hne, GoURL.queryEscape, GoURL.not_mem_escape hc]

theorem parsePiece_piece (kv : Bytes × Bytes) : parsePiece (piece kv) = .pair kv.1 kv.2 := by
  have hsemi : (piece kv).contains semi = false :=
    List.any_eq_false.mpr fun x hx e => not_mem_piece (c := semi) (by decide) (by decide) kv (beq_iff_eq.mp e ▸ hx)
  have hcut : cut eq (piece kv) = (GoURL.queryEscape kv.1, GoURL.queryEscape kv.2) :=
    cut_append eq _ _ (GoURL.not_mem_escape (query := true) (by decide) kv.1)
  have hne : (piece kv).isEmpty = false := by simp [piece]
  simp only [parsePiece, hsemi, hne, hcut, Bool.false_eq_true, ↓reduceIte]
  simp only [GoURL.queryUnescape, GoURL.queryEscape, GoURL.unescape_escape]

/-- the pairs `(k, v)` in the order `Encode` writes them -/
def flatPairs (vs : Values) : List (Bytes × Bytes) := vs.flatMap fun kv => kv.2.map fun v => (kv.1, v)

theorem pieces_eq_map (vs : Values) : pieces vs = (flatPairs vs).map piece := by
  simp [pieces, flatPairs, List.map_flatMap, piece, Function.comp_def]

theorem foldl_step_pieces (ps : List (Bytes × Bytes)) (acc : Parsed) :
    (ps.map piece).foldl step acc = { acc with values := ps.foldl (fun m kv => add m kv.1 kv.2) acc.values } := by
  induction ps generalizing acc with
  | nil => rfl
  | cons p r ih => simp only [List.map_cons, List.foldl_cons, step, parsePiece_piece, ih]

/-- **What `ParseQuery` makes of `Encode`'s output**: no error, and the pairs are added one by one in
the order they were written. -/
theorem parseQuery_encodeSorted (vs : Values) :
    parseQuery (encodeSorted vs) = ⟨true, (flatPairs vs).foldl (fun m kv => add m kv.1 kv.2) []⟩ := by
  unfold parseQuery encodeSorted
  rw [pieces_eq_map, splitAmp_joinAmp, foldl_step_pieces]
  intro p hp
  obtain ⟨kv, _, rfl⟩ := List.mem_map.mp hp
  exact ⟨not_mem_piece (by decide) (by decide) kv, by simp [piece]⟩

theorem add_append (m rest : Values) (k v : Bytes) (h : ∀ x ∈ m, x.1 ≠ k) : add (m ++ rest) k v = m ++ add rest k v := by
  induction m with
  | nil => rfl
  | cons x xs ih =>
    have hx : (x.1 == k) = false := by simpa using h x List.mem_cons_self
    simp only [List.cons_append, add, hx, Bool.false_eq_true, ↓reduceIte, List.cons.injEq, true_and]
    exact ih fun y hy => h y (List.mem_cons_of_mem _ hy)

theorem foldl_add_same (m : Values) (k : Bytes) (l vs : List Bytes) (h : ∀ x ∈ m, x.1 ≠ k) :
    (vs.map fun v => (k, v)).foldl (fun m kv => add m kv.1 kv.2) (m ++ [(k, l)]) = m ++ [(k, l ++ vs)] := by
  induction vs generalizing l with
  | nil => simp
  | cons v r ih =>
    simp only [List.map_cons, List.foldl_cons]
    rw [add_append m _ k v h]
    simpa [add] using ih (l ++ [v])

def nonEmpty (vs : Values) : Values := vs.filter fun kv => !kv.2.isEmpty

theorem foldl_add_values (vs : Values) (hd : (vs.map (·.1)).Nodup) (m : Values)
    (hm : ∀ x ∈ m, ∀ y ∈ vs, x.1 ≠ y.1) :
    (flatPairs vs).foldl (fun m kv => add m kv.1 kv.2) m = m ++ nonEmpty vs := by
  induction vs generalizing m with
  | nil => simp [flatPairs, nonEmpty]
  | cons x xs ih =>
    obtain ⟨k, l⟩ := x
    simp only [List.map_cons, List.nodup_cons, List.mem_map, not_exists, not_and] at hd
    have hfp : flatPairs ((k, l) :: xs) = (l.map fun v => (k, v)) ++ flatPairs xs := by simp [flatPairs]
    rw [hfp, List.foldl_append]
    have hmk : ∀ y ∈ m, y.1 ≠ k := fun y hy => hm y hy _ List.mem_cons_self
    have hmxs : ∀ a ∈ m, ∀ y ∈ xs, a.1 ≠ y.1 := fun a ha y hy => hm a ha y (List.mem_cons_of_mem _ hy)
    cases l with
    | nil =>
      rw [List.map_nil, List.foldl_nil, ih hd.2 m hmxs]
      simp [nonEmpty]
    | cons v r =>
      have hadd : add m k v = m ++ [(k, [v])] := by simpa [add] using add_append m [] k v hmk
      rw [List.map_cons, List.foldl_cons, hadd, foldl_add_same m k [v] r hmk, ih hd.2]
      · simp [nonEmpty]
      · intro a ha y hy
        rcases List.mem_append.mp ha with ha | ha
        · exact hmxs a ha y hy
        · obtain rfl := List.mem_singleton.mp ha
          exact fun e => hd.1 y hy e.symm

/-- **Round trip on a list in key order**: `ParseQuery (Encode vs)` reports no error and returns the
entries of `vs` that have at least one value, in the same order, with their values in order. -/
theorem parse_encodeSorted (vs : Values) (hd : (vs.map (·.1)).Nodup) :
    parseQuery (encodeSorted vs) = ⟨true, nonEmpty vs⟩ := by
  rw [parseQuery_encodeSorted, foldl_add_values vs hd [] (fun _ h => by cases h)]
  rfl

theorem mem_insertKey {kv x : Bytes × List Bytes} {l : Values} : x ∈ insertKey kv l ↔ x = kv ∨ x ∈ l := by
  induction l with
  | nil => simp [insertKey]
  | cons y ys ih =>
    simp only [insertKey]
    split
    · simp
    · simp only [List.mem_cons, ih]
      exact or_left_comm

theorem insertKey_perm (kv : Bytes × List Bytes) (l : Values) : (insertKey kv l).Perm (kv :: l) := by
  induction l with
  | nil => exact List.Perm.refl _
  | cons y ys ih =>
    simp only [insertKey]
    split
    · exact List.Perm.refl _
    · exact (List.Perm.cons y ih).trans (List.Perm.swap kv y ys)

theorem sortKeys_perm (vs : Values) : (sortKeys vs).Perm vs := by
  induction vs with
  | nil => exact List.Perm.refl _
  | cons x xs ih => exact (insertKey_perm x _).trans (List.Perm.cons x ih)

theorem find?_key_perm {β : Type} {l l' : List (Bytes × β)} (hp : l.Perm l') (hd : (l.map (·.1)).Nodup)
    (k : Bytes) : l.find? (·.1 == k) = l'.find? (·.1 == k) := by
  induction hp with
  | nil => rfl
  | cons x _ ih =>
    simp only [List.find?_cons]
    split
    · rfl
    · exact ih (List.nodup_cons.mp hd).2
  | swap x y l =>
    simp only [List.map_cons, List.nodup_cons, List.mem_cons, not_or] at hd
    simp only [List.find?_cons]
    by_cases hx : (x.1 == k) = true
    · by_cases hy : (y.1 == k) = true
      · exact absurd ((beq_iff_eq.mp hy).trans (beq_iff_eq.mp hx).symm) hd.1.1
      · simp [hx, hy]
    · by_cases hy : (y.1 == k) = true <;> simp [hx, hy]
  | trans h1 _ ih1 ih2 => exact (ih1 hd).trans (ih2 ((h1.map (·.1)).nodup_iff.mp hd))

theorem get_cons (kv : Bytes × List Bytes) (vs : Values) (k : Bytes) :
    Values.get (kv :: vs) k = if kv.1 == k then some kv.2 else Values.get vs k := by
  cases h : kv.1 == k <;> simp [Values.get, h]

theorem get_none_of_not_mem (vs : Values) (k : Bytes) (h : k ∉ vs.map (·.1)) : Values.get vs k = none := by
  rw [Values.get, List.find?_eq_none.mpr fun x hx e => h (List.mem_map.mpr ⟨x, hx, beq_iff_eq.mp e⟩)]
  rfl

theorem get_nonEmpty (vs : Values) (k : Bytes) (hd : (vs.map (·.1)).Nodup) :
    Values.get (nonEmpty vs) k =
      match Values.get vs k with
      | some (v :: r) => some (v :: r)
      | _ => none := by
  induction vs with
  | nil => rfl
  | cons x xs ih =>
    obtain ⟨k', l⟩ := x
    have hd' := List.nodup_cons.mp hd
    have ih := ih hd'.2
    by_cases hk : (k' == k) = true
    · rw [get_none_of_not_mem xs k (beq_iff_eq.mp hk ▸ hd'.1)] at ih
      cases l with
      | nil => simpa [nonEmpty, get_cons, hk] using ih
      | cons v r => simp [nonEmpty, get_cons, hk]
    · cases l with
      | nil => simpa [nonEmpty, get_cons, hk] using ih
      | cons v r => simpa [nonEmpty, get_cons, hk] using ih

/-- **Round trip, as maps**: for values with pairwise distinct keys, `ParseQuery (v.Encode())`
reports no error and maps every key to exactly the list of values it had — keys without a value are
not transmitted. Any byte strings as keys and values. -/
theorem parse_encode (vs : Values) (hd : (vs.map (·.1)).Nodup) :
    (parseQuery (encode vs)).ok = true ∧
    ∀ k, Values.get (parseQuery (encode vs)).values k =
      match Values.get vs k with
      | some (v :: r) => some (v :: r)
      | _ => none := by
  have hp := sortKeys_perm vs
  have hd' : ((sortKeys vs).map (·.1)).Nodup := (hp.map (·.1)).nodup_iff.mpr hd
  unfold encode
  rw [parse_encodeSorted _ hd']
  refine ⟨rfl, fun k => ?_⟩
  simp only
  rw [get_nonEmpty _ k hd', Values.get, find?_key_perm hp hd' k]
  rfl

end RtVerif.GoQuery
