import RtVerif.Base.Bytes
/-
  encoding/base64 with padding: `base64.StdEncoding` (`url = false`) and `base64.URLEncoding`
  (`url = true`), `EncodeToString` / `DecodeString`.

  Hand-copied from Go's encoding/base64 (stdlib is modelled, not verified); checked against the real
  functions by correspondence stream "B" of C14 (all lengths 0..64, random bytes, mutated and noisy
  encodings, both alphabets).

  Decoding mirrors the NON-strict decoder that `StdEncoding`/`URLEncoding` are: the unused low bits of
  the last quantum are ignored (`QR==` decodes like `QQ==`), padding is mandatory, anything after the
  padding is an error, and — like Go — the bytes '\r' and '\n' are skipped wherever they occur
  (`decode` = drop CR/LF, then `decodeStrict`).  Arithmetic is on `Nat` with `/` and `%` instead of
  shifts and masks.
-/
namespace RtVerif.Base64
open RtVerif

/-- the 64 characters of the alphabet; positions 62 and 63 differ between std and URL -/
def alphabet (url : Bool) : List UInt8 :=
  [65,66,67,68,69,70,71,72,73,74,75,76,77,78,79,80,81,82,83,84,85,86,87,88,89,90,
   97,98,99,100,101,102,103,104,105,106,107,108,109,110,111,112,113,114,115,116,117,118,119,120,121,122,
   48,49,50,51,52,53,54,55,56,57] ++ (if url then [45, 95] else [43, 47])

/-- `enc.encode[n]` for `n < 64` -/
def enc6 (url : Bool) (n : Nat) : UInt8 := (alphabet url).getD n 0

/-- `enc.decodeMap[c]`; `none` is the 0xff entry -/
def dec6 (url : Bool) (c : UInt8) : Option Nat :=
  if 65 ≤ c && c ≤ 90 then some (c.toNat - 65)
  else if 97 ≤ c && c ≤ 122 then some (c.toNat - 71)
  else if 48 ≤ c && c ≤ 57 then some (c.toNat + 4)
  else if c == (if url then 45 else 43) then some 62
  else if c == (if url then 95 else 47) then some 63
  else none

def pad : UInt8 := 61

/-- the four characters of one full 3-byte group -/
def enc3 (url : Bool) (x y z : UInt8) : Bytes :=
  [enc6 url (x.toNat / 4), enc6 url (x.toNat % 4 * 16 + y.toNat / 16),
   enc6 url (y.toNat % 16 * 4 + z.toNat / 64), enc6 url (z.toNat % 64)]

/-- `EncodeToString` -/
def encode (url : Bool) : Bytes → Bytes
  | [] => []
  | [x] => [enc6 url (x.toNat / 4), enc6 url (x.toNat % 4 * 16), pad, pad]
  | [x, y] => [enc6 url (x.toNat / 4), enc6 url (x.toNat % 4 * 16 + y.toNat / 16),
               enc6 url (y.toNat % 16 * 4), pad]
  | x :: y :: z :: r => enc3 url x y z ++ encode url r

/-- last quantum `ab==`: one byte -/
def dec2 (url : Bool) (a b : UInt8) : Option Bytes :=
  match dec6 url a, dec6 url b with
  | some i0, some i1 => some [UInt8.ofNat (i0 * 4 + i1 / 16)]
  | _, _ => none

/-- last quantum `abc=`: two bytes -/
def dec3 (url : Bool) (a b c : UInt8) : Option Bytes :=
  match dec6 url a, dec6 url b, dec6 url c with
  | some i0, some i1, some i2 => some [UInt8.ofNat (i0 * 4 + i1 / 16), UInt8.ofNat (i1 % 16 * 16 + i2 / 4)]
  | _, _, _ => none

/-- a full quantum `abcd`: three bytes -/
def dec4 (url : Bool) (a b c d : UInt8) : Option Bytes :=
  match dec6 url a, dec6 url b, dec6 url c, dec6 url d with
  | some i0, some i1, some i2, some i3 =>
    some [UInt8.ofNat (i0 * 4 + i1 / 16), UInt8.ofNat (i1 % 16 * 16 + i2 / 4), UInt8.ofNat (i2 % 4 * 64 + i3)]
  | _, _, _, _ => none

/-- decoding of input without CR/LF; `none` is `CorruptInputError` -/
def decodeStrict (url : Bool) : Bytes → Option Bytes
  | [] => some []
  | a :: b :: c :: d :: r =>
    if r.isEmpty && d == pad then
      (if c == pad then dec2 url a b else dec3 url a b c)
    else
      match dec4 url a b c d, decodeStrict url r with
      | some x, some t => some (x ++ t)
      | _, _ => none
  | _ => none

def notNL (c : UInt8) : Bool := !(c == 10 || c == 13)

/-- `DecodeString`: CR and LF are ignored wherever they stand -/
def decode (url : Bool) (s : Bytes) : Option Bytes := decodeStrict url (s.filter notNL)

/-- the one fact about the alphabet table: its `n`-th character decodes to `n` -/
theorem dec6_enc6 (url : Bool) : ∀ n, n < 64 → dec6 url (enc6 url n) = some n := by
  cases url <;> decide

theorem ne_enc6 (url : Bool) {c : UInt8} (hc : dec6 url c = none) (n : Nat) (hn : n < 64) :
    c ≠ enc6 url n := fun e => by
  rw [e, dec6_enc6 url n hn] at hc; cases hc

theorem enc6_ne_pad (url : Bool) (n : Nat) (hn : n < 64) : (enc6 url n == pad) = false :=
  beq_eq_false_iff_ne.mpr (ne_enc6 url (by cases url <;> rfl) n hn).symm

theorem dec4_enc3 (url : Bool) (x y z : UInt8) :
    dec4 url (enc6 url (x.toNat / 4)) (enc6 url (x.toNat % 4 * 16 + y.toNat / 16))
      (enc6 url (y.toNat % 16 * 4 + z.toNat / 64)) (enc6 url (z.toNat % 64)) = some [x, y, z] := by
  have := x.toNat_lt; have := y.toNat_lt; have := z.toNat_lt
  simp (disch := omega) only [dec4, dec6_enc6, Option.some.injEq, List.cons.injEq, and_true,
    ← UInt8.toNat_inj, UInt8.toNat_ofNat']
  omega

theorem dec3_enc (url : Bool) (x y : UInt8) :
    dec3 url (enc6 url (x.toNat / 4)) (enc6 url (x.toNat % 4 * 16 + y.toNat / 16))
      (enc6 url (y.toNat % 16 * 4)) = some [x, y] := by
  have := x.toNat_lt; have := y.toNat_lt
  simp (disch := omega) only [dec3, dec6_enc6, Option.some.injEq, List.cons.injEq, and_true,
    ← UInt8.toNat_inj, UInt8.toNat_ofNat']
  omega

theorem dec2_enc (url : Bool) (x : UInt8) :
    dec2 url (enc6 url (x.toNat / 4)) (enc6 url (x.toNat % 4 * 16)) = some [x] := by
  have := x.toNat_lt
  simp (disch := omega) only [dec2, dec6_enc6, Option.some.injEq, List.cons.injEq, and_true,
    ← UInt8.toNat_inj, UInt8.toNat_ofNat']
  omega

theorem decodeStrict_encode (url : Bool) (b : Bytes) : decodeStrict url (encode url b) = some b := by
  induction b using encode.induct with
  | case1 => rfl
  | case2 x =>
    simp only [encode, decodeStrict, List.isEmpty_nil, beq_self_eq_true, Bool.and_self, ↓reduceIte]
    exact dec2_enc url x
  | case3 x y =>
    have := y.toNat_lt
    simp (disch := omega) only [encode, decodeStrict, List.isEmpty_nil, beq_self_eq_true, Bool.and_self,
      ↓reduceIte, enc6_ne_pad, Bool.false_eq_true]
    exact dec3_enc url x y
  | case4 x y z r ih =>
    have := z.toNat_lt
    simp (disch := omega) only [encode, enc3, List.cons_append, List.nil_append, decodeStrict,
      enc6_ne_pad, Bool.and_false, Bool.false_eq_true, ↓reduceIte, dec4_enc3, ih]

theorem not_mem_encode (url : Bool) {c : UInt8} (hc : dec6 url c = none) (hp : c ≠ pad) (b : Bytes) :
    c ∉ encode url b := by
  induction b using encode.induct with
  | case1 => exact List.not_mem_nil
  | case2 x =>
    have := x.toNat_lt
    simp (disch := omega) only [encode, List.mem_cons, ne_enc6 url hc, hp, List.not_mem_nil, or_self,
      not_false_eq_true]
  | case3 x y =>
    have := x.toNat_lt; have := y.toNat_lt
    simp (disch := omega) only [encode, List.mem_cons, ne_enc6 url hc, hp, List.not_mem_nil, or_self,
      not_false_eq_true]
  | case4 x y z r ih =>
    have := x.toNat_lt; have := y.toNat_lt; have := z.toNat_lt
    simp (disch := omega) only [encode, enc3, List.cons_append, List.nil_append, List.mem_cons,
      ne_enc6 url hc, ih, or_self, not_false_eq_true]

theorem encode_filter (url : Bool) (b : Bytes) : (encode url b).filter notNL = encode url b := by
  refine List.filter_eq_self.mpr fun c hc => ?_
  simp only [notNL, Bool.not_eq_true', Bool.or_eq_false_iff, beq_eq_false_iff_ne]
  constructor <;> rintro rfl
  · exact not_mem_encode url (by cases url <;> rfl) (by decide) b hc
  · exact not_mem_encode url (by cases url <;> rfl) (by decide) b hc

/-- `DecodeString (EncodeToString b) = b`, for every byte string and both alphabets. -/
theorem decode_encode (url : Bool) (b : Bytes) : decode url (encode url b) = some b := by
  unfold decode; rw [encode_filter, decodeStrict_encode]

end RtVerif.Base64
