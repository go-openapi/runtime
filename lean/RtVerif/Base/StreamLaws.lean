import RtVerif.Base.Stream
/-
  Abstract view of reader states and the laws of `read`/`close` with respect to it (`Laws`; `RLaws`:
  the part about `read` that needs no bound on runs of empty reads). The scripted stream satisfies
  `Laws` when its runs of empty reads are short (`src_laws`) and `RLaws` for EVERY schedule
  (`src_rlaws`), both read off `Src.read_form`; a bufio-backed peeking layer preserves `Laws`
  (`wrap_laws`, along `bread_cases`). `Passes` says what any run of `Read` calls does to the
  abstract view; the probe (`hasContent_passes`) and the drain loop (`drainLoop_passes`) are such
  runs.
-/
namespace RtVerif.Stream
open RtVerif

/-- What a reader state means. `Inv`: the reader is open and well behaved; `Dead`: it has been
closed (or can never deliver anything); `content`: the bytes still to be delivered, in order;
`term`: the terminal condition that follows them; `mu`: a bound on the number of further
non-failing reads; `zeros`: how many empty reads can come next; `closes`: how often the
underlying stream was closed; `sealed`: some layer will absorb further `Close` calls. -/
structure Sem (σ : Type) where
  R : Reader σ
  Inv : σ → Prop
  Dead : σ → Prop
  content : σ → Bytes
  term : σ → Err
  mu : σ → Nat
  zeros : σ → Nat
  closes : σ → Nat
  sealed : σ → Bool

structure Laws {σ : Type} (S : Sem σ) : Prop where
  read_inv : ∀ s k, S.Inv s → S.Inv (S.R.read s k).2
  read_term : ∀ s k, S.term (S.R.read s k).2 = S.term s
  read_content : ∀ s k, S.Inv s → S.content s = (S.R.read s k).1.1 ++ S.content (S.R.read s k).2
  read_len : ∀ s k, S.Inv s → (S.R.read s k).1.1.length ≤ k
  read_err : ∀ s k e, S.Inv s → (S.R.read s k).1.2 = some e →
    e = S.term s ∧ S.content (S.R.read s k).2 = []
  read_mu : ∀ s k, S.Inv s → S.mu (S.R.read s k).2 + (S.R.read s k).1.1.length ≤ S.mu s
  read_mu_lt : ∀ s k, S.Inv s → 0 < k → (S.R.read s k).1.1 = [] → (S.R.read s k).1.2 = none →
    S.mu (S.R.read s k).2 < S.mu s
  read_zeros : ∀ s k, S.Inv s → 0 < k → (S.R.read s k).1.1 = [] → (S.R.read s k).1.2 = none →
    S.zeros (S.R.read s k).2 < S.zeros s
  zeros_lt : ∀ s, S.Inv s → S.zeros s < maxEmpty
  read_closes : ∀ s k, S.closes (S.R.read s k).2 = S.closes s
  read_sealed : ∀ s k, S.sealed (S.R.read s k).2 = S.sealed s
  dead_read : ∀ s k, S.Dead s →
    (S.R.read s k).1.1 = [] ∧ (0 < k → (S.R.read s k).1.2 ≠ none) ∧ S.Dead (S.R.read s k).2
  dead_close : ∀ s, S.Dead s → S.Dead (S.R.close s).2
  close_dead : ∀ s, S.Inv s → S.Dead (S.R.close s).2
  close_sealed : ∀ s, S.sealed s = true →
    S.closes (S.R.close s).2 = S.closes s ∧ S.sealed (S.R.close s).2 = true
  close_unsealed : ∀ s, S.sealed s = false → S.closes (S.R.close s).2 = S.closes s + 1

structure RLaws {σ : Type} (S : Sem σ) : Prop where
  read_inv : ∀ s k, S.Inv s → S.Inv (S.R.read s k).2
  read_term : ∀ s k, S.term (S.R.read s k).2 = S.term s
  read_content : ∀ s k, S.Inv s → S.content s = (S.R.read s k).1.1 ++ S.content (S.R.read s k).2
  read_err : ∀ s k e, S.Inv s → (S.R.read s k).1.2 = some e →
    e = S.term s ∧ S.content (S.R.read s k).2 = []
  read_mu : ∀ s k, S.Inv s → S.mu (S.R.read s k).2 + (S.R.read s k).1.1.length ≤ S.mu s
  read_mu_lt : ∀ s k, S.Inv s → 0 < k → (S.R.read s k).1.1 = [] → (S.R.read s k).1.2 = none →
    S.mu (S.R.read s k).2 < S.mu s
  read_closes : ∀ s k, S.closes (S.R.read s k).2 = S.closes s

theorem Laws.toRLaws {σ : Type} {S : Sem σ} (L : Laws S) : RLaws S :=
  ⟨L.read_inv, L.read_term, L.read_content, L.read_err, L.read_mu, L.read_mu_lt, L.read_closes⟩

theorem RLaws.read_progress {σ : Type} {S : Sem σ} (L : RLaws S) (s : σ) (k : Nat) (hI : S.Inv s) (hk : 0 < k)
    (he : (S.R.read s k).1.2 = none) : S.mu (S.R.read s k).2 < S.mu s := by
  by_cases hd : (S.R.read s k).1.1 = []
  · exact L.read_mu_lt s k hI hk hd he
  · have := L.read_mu s k hI
    have := List.length_pos_iff.mpr hd
    omega

/-- The laws of `Read`, for one call of `k` bytes on the open reader `s` that returned `x`. -/
structure ReadOk {σ : Type} (S : Sem σ) (s : σ) (k : Nat) (x : RdRes × σ) : Prop where
  inv : S.Inv x.2
  content : S.content s = x.1.1 ++ S.content x.2
  len : x.1.1.length ≤ k
  err : ∀ e, x.1.2 = some e → e = S.term s ∧ S.content x.2 = []
  mu : S.mu x.2 + x.1.1.length ≤ S.mu s
  lt : 0 < k → x.1.1 = [] → x.1.2 = none → S.mu x.2 < S.mu s ∧ S.zeros x.2 < S.zeros s

def srcSem : Sem Src where
  R := srcReader
  Inv := fun s => okRuns s.sched = true ∧ (s.checksClosed = true → s.closes = 0) ∧
    (s.checksClosed = true ∨ s.data = [])
  Dead := fun s => (s.checksClosed = true ∧ 0 < s.closes) ∨ s.data = []
  content := fun s => s.data
  term := fun s => s.term
  mu := fun s => s.data.length + s.sched.length
  zeros := fun s => if s.data.isEmpty then 0 else lead0 s.sched
  closes := fun s => s.closes
  sealed := fun _ => false

/-- The scripted stream, any schedule: open means not closed (or indifferent to `Close`). -/
def srcSemAny : Sem Src :=
  { srcSem with
    Inv := fun s => (s.checksClosed = true → s.closes = 0) ∧ (s.checksClosed = true ∨ s.data = []) }

theorem okRuns_tail {x : Nat} {r : List Nat} (h : okRuns (x :: r) = true) : okRuns r = true := by
  simp only [okRuns, Bool.and_eq_true] at h; exact h.2

theorem okRuns_lead0 {l : List Nat} (h : okRuns l = true) : lead0 l < maxEmpty := by
  cases l with
  | nil => simp [lead0, maxEmpty]
  | cons x r => simp only [okRuns, Bool.and_eq_true, decide_eq_true_eq] at h; exact h.1

theorem Src.read_open (s : Src) (k : Nat) (h : s.checksClosed = true → s.closes = 0) :
    s.read k = s.readOpen k := by
  unfold Src.read
  have : (s.checksClosed && decide (0 < s.closes)) = false := by
    cases hc : s.checksClosed
    · simp
    · simp [h hc]
  simp only [this, Bool.false_eq_true, if_false]

theorem Src.deliver_fst (s : Src) (m : Nat) (sc : List Nat) :
    (s.deliver m sc).1.1 = s.data.take m := rfl
theorem Src.deliver_data (s : Src) (m : Nat) (sc : List Nat) :
    (s.deliver m sc).2.data = s.data.drop m := rfl

theorem Src.deliver_err (s : Src) (m : Nat) (sc : List Nat) (e : Err)
    (h : (s.deliver m sc).1.2 = some e) : e = s.term ∧ s.data.drop m = [] := by
  simp only [Src.deliver] at h
  split at h
  · rename_i hc
    simp only [Bool.and_eq_true, List.isEmpty_iff] at hc
    simp only [Option.some.injEq] at h
    exact ⟨h.symm, hc.1.1⟩
  · cases h

theorem take_ne_nil {α} {l : List α} {m : Nat} (hl : l ≠ []) (hm : 0 < m) : l.take m ≠ [] := by
  cases l with
  | nil => exact absurd rfl hl
  | cons x xs => cases m with
    | zero => omega
    | succ m => simp

theorem Src.read_form (s : Src) (k : Nat) (h : s.checksClosed = true → s.closes = 0) :
    ∃ m e sc, s.read k = ((s.data.take m, e), { s with data := s.data.drop m, sched := sc }) ∧ m ≤ k ∧
      sc.length ≤ s.sched.length ∧ (okRuns s.sched = true → okRuns sc = true) ∧
      (∀ t, e = some t → t = s.term ∧ s.data.drop m = []) ∧
      (0 < k → s.data.take m = [] → e = none → s.data ≠ [] ∧ m = 0 ∧ s.sched = 0 :: sc) := by
  rw [Src.read_open s k h]
  unfold Src.readOpen
  split
  · rename_i hd
    exact ⟨0, _, _, rfl, Nat.zero_le _, Nat.le_refl _, id,
      fun t ht => ⟨(Option.some.inj ht).symm, List.isEmpty_iff.mp hd⟩, fun _ _ => nofun⟩
  · rename_i hd
    have hd : s.data ≠ [] := fun e => hd (List.isEmpty_iff.mpr e)
    split
    · rename_i hs
      exact ⟨k, _, [], rfl, Nat.le_refl _, Nat.zero_le _, fun _ => rfl, Src.deliver_err s k [],
        fun hk ht _ => absurd ht (take_ne_nil hd hk)⟩
    · rename_i r hs
      exact ⟨0, none, r, rfl, Nat.zero_le _, by simp [hs], fun ho => okRuns_tail (hs ▸ ho), nofun,
        fun _ _ _ => ⟨hd, rfl, hs⟩⟩
    · rename_i n r hs
      exact ⟨min (n + 1) k, _, r, rfl, Nat.min_le_right _ _, by simp [hs], fun ho => okRuns_tail (hs ▸ ho),
        Src.deliver_err s _ r, fun hk ht _ => absurd ht (take_ne_nil hd (by omega))⟩

theorem src_read_dead (s : Src) (k : Nat) (h : srcSem.Dead s) : ∃ e, s.read k = (([], some e), s) := by
  unfold Src.read Src.readOpen
  split
  · exact ⟨_, rfl⟩
  · rename_i hc
    rcases h with h | h
    · exact absurd (by simp [h.1, h.2]) hc
    · exact ⟨s.term, by simp [h]⟩

theorem src_read_frame (s : Src) (k : Nat) :
    (s.read k).2.term = s.term ∧ (s.read k).2.closes = s.closes := by
  by_cases h : s.checksClosed = true → s.closes = 0
  · obtain ⟨m, e, sc, hr, _⟩ := s.read_form k h
    rw [hr]
    exact ⟨rfl, rfl⟩
  · have ⟨hc, hn⟩ := Classical.not_imp.mp h
    obtain ⟨e, hr⟩ := src_read_dead s k (.inl ⟨hc, Nat.pos_of_ne_zero hn⟩)
    rw [hr]
    exact ⟨rfl, rfl⟩

theorem src_read_spec (s : Src) (k : Nat) (hI : srcSemAny.Inv s) :
    ReadOk srcSemAny s k (s.read k) ∧ (okRuns s.sched = true → okRuns (s.read k).2.sched = true) := by
  obtain ⟨m, e, sc, hr, hm, hl, hok, herr, hz⟩ := s.read_form k hI.1
  rw [hr]
  refine ⟨⟨⟨hI.1, hI.2.imp_right fun h => ?_⟩, (List.take_append_drop m _).symm, ?_, herr, ?_,
    fun hk hd he => ?_⟩, hok⟩
  · show s.data.drop m = []
    rw [h, List.drop_nil]
  · show (s.data.take m).length ≤ k
    rw [List.length_take]
    omega
  · show (s.data.drop m).length + sc.length + (s.data.take m).length ≤ s.data.length + s.sched.length
    rw [List.length_drop, List.length_take]
    omega
  · obtain ⟨hne, rfl, hs⟩ := hz hk hd he
    simp [srcSemAny, srcSem, hs, hne, lead0]

theorem src_rlaws : RLaws srcSemAny where
  read_inv s k h := (src_read_spec s k h).1.inv
  read_term s k := (src_read_frame s k).1
  read_content s k h := (src_read_spec s k h).1.content
  read_err s k e h := (src_read_spec s k h).1.err e
  read_mu s k h := (src_read_spec s k h).1.mu
  read_mu_lt s k h hk hd he := ((src_read_spec s k h).1.lt hk hd he).1
  read_closes s k := (src_read_frame s k).2

theorem src_laws : Laws srcSem where
  read_inv s k h := ⟨(src_read_spec s k h.2).2 h.1, (src_read_spec s k h.2).1.inv⟩
  read_term s k := (src_read_frame s k).1
  read_content s k h := (src_read_spec s k h.2).1.content
  read_len s k h := (src_read_spec s k h.2).1.len
  read_err s k e h := (src_read_spec s k h.2).1.err e
  read_mu s k h := (src_read_spec s k h.2).1.mu
  read_mu_lt s k h hk hd he := ((src_read_spec s k h.2).1.lt hk hd he).1
  read_zeros s k h hk hd he := ((src_read_spec s k h.2).1.lt hk hd he).2
  zeros_lt s h := by
    show (if s.data.isEmpty then 0 else lead0 s.sched) < maxEmpty
    split
    · exact Nat.zero_lt_succ _
    · exact okRuns_lead0 h.1
  read_closes s k := (src_read_frame s k).2
  read_sealed _ _ := rfl
  dead_read s k hd := by
    obtain ⟨e, he⟩ := src_read_dead s k hd
    show (s.read k).1.1 = [] ∧ (0 < k → (s.read k).1.2 ≠ none) ∧ srcSem.Dead (s.read k).2
    rw [he]
    exact ⟨rfl, fun _ => Option.some_ne_none e, hd⟩
  dead_close s hd := hd.imp_left fun h => ⟨h.1, Nat.succ_pos _⟩
  close_dead s h := h.2.2.imp_left fun h => ⟨h, Nat.succ_pos _⟩
  close_sealed _ h := by cases h
  close_unsealed _ _ := rfl

/-! ## The definitions with their `let`s expanded -/

section
variable {σ : Type} (R : Reader σ)

theorem fillLoop_succ (i : Nat) (b : Buf) (s : σ) :
    fillLoop R (i + 1) b s =
    match (R.read s (bufSize - b.buf.length)).1.2 with
    | some e => ({ buf := b.buf ++ (R.read s (bufSize - b.buf.length)).1.1, err := some e },
                 (R.read s (bufSize - b.buf.length)).2)
    | none =>
      if (R.read s (bufSize - b.buf.length)).1.1.isEmpty then
        fillLoop R i b (R.read s (bufSize - b.buf.length)).2
      else ({ b with buf := b.buf ++ (R.read s (bufSize - b.buf.length)).1.1 },
            (R.read s (bufSize - b.buf.length)).2) := rfl

theorem bread_eq (b : Buf) (s : σ) (k : Nat) :
    bread R b s k =
    if k = 0 then
      if b.buf.isEmpty then (([], b.err), { b with err := none }, s) else (([], none), b, s)
    else if b.buf.isEmpty then
      match b.err with
      | some e => (([], some e), { b with err := none }, s)
      | none =>
        if bufSize ≤ k then ((R.read s k).1, b, (R.read s k).2)
        else if (R.read s bufSize).1.1.isEmpty then
          (([], (R.read s bufSize).1.2), b, (R.read s bufSize).2)
        else
          (((R.read s bufSize).1.1.take k, none),
           { buf := (R.read s bufSize).1.1.drop k, err := (R.read s bufSize).1.2 },
           (R.read s bufSize).2)
    else ((b.buf.take k, none), { b with buf := b.buf.drop k }, s) := rfl

end

-- `bufSize = 4096` is a numeral, hence a successor
theorem bufSize_pos : 0 < bufSize := Nat.succ_pos _

/-- The four ways `bufio.Reader.Read` goes. It serves from its buffer. With an empty buffer it reports
the pending error (nothing, when asked for no bytes). Otherwise it reads once from the inner reader
and passes the result through (a large read, or one that brought no bytes), or buffers it and
serves from that. -/
theorem bread_cases {σ : Type} (R : Reader σ) (b : Buf) (s : σ) (k : Nat) :
    (b.buf ≠ [] ∧ bread R b s k = ((b.buf.take k, none), { b with buf := b.buf.drop k }, s)) ∨
    (b.buf = [] ∧ (0 < k → b.err ≠ none) ∧ bread R b s k = (([], b.err), { b with err := none }, s)) ∨
    (b.buf = [] ∧ b.err = none ∧ ∃ k', 0 < k' ∧ (k' = k ∨ (R.read s k').1.1 = []) ∧
      bread R b s k = ((R.read s k').1, b, (R.read s k').2)) ∨
    (b.buf = [] ∧ b.err = none ∧ 0 < k ∧ (R.read s bufSize).1.1 ≠ [] ∧
      bread R b s k = (((R.read s bufSize).1.1.take k, none),
        { buf := (R.read s bufSize).1.1.drop k, err := (R.read s bufSize).1.2 }, (R.read s bufSize).2)) := by
  obtain ⟨buf, err⟩ := b
  cases buf with
  | cons x xs => exact .inl ⟨nofun, by cases k <;> rfl⟩
  | nil =>
    cases k with
    | zero => exact .inr (.inl ⟨rfl, nofun, rfl⟩)
    | succ k =>
      cases err with
      | some e => exact .inr (.inl ⟨rfl, fun _ => nofun, rfl⟩)
      | none =>
        by_cases hbig : bufSize ≤ k + 1
        · exact .inr (.inr (.inl ⟨rfl, rfl, k + 1, Nat.succ_pos k, .inl rfl, by simp [bread, hbig]⟩))
        · by_cases hd : (R.read s bufSize).1.1 = []
          · exact .inr (.inr (.inl ⟨rfl, rfl, bufSize, bufSize_pos, .inr hd, by simp [bread, hbig, hd, Prod.ext_iff]⟩))
          · exact .inr (.inr (.inr ⟨rfl, rfl, Nat.succ_pos k, hd, by simp [bread, hbig, hd]⟩))

section
variable {σ : Type} (R : Reader σ) (P : σ → Prop) (hP : ∀ s k, P s → P (R.read s k).2)
include hP

theorem fillLoop_pres (i : Nat) (b : Buf) (s : σ) (h : P s) : P (fillLoop R i b s).2 := by
  induction i generalizing s with
  | zero => exact h
  | succ i ih =>
    rw [fillLoop_succ]
    split
    · exact hP _ _ h
    · split
      · exact ih _ (hP _ _ h)
      · exact hP _ _ h

theorem peekLoop_pres (i n : Nat) (b : Buf) (s : σ) (h : P s) : P (peekLoop R i n b s).2 := by
  induction i generalizing b s with
  | zero => exact h
  | succ i ih =>
    simp only [peekLoop]
    split
    · exact ih _ _ (fillLoop_pres R P hP _ _ _ h)
    · exact h

theorem hasContent_pres (b : Buf) (s : σ) (h : P s) : P (hasContent R b s).2.2 := by
  simp only [hasContent]
  split
  · exact h
  · show P (peek R b s 1).2.2
    simp only [peek]
    split <;> exact peekLoop_pres R P hP _ _ _ _ h

theorem bread_pres (b : Buf) (s : σ) (k : Nat) (h : P s) : P (bread R b s k).2.2 := by
  rcases bread_cases R b s k with ⟨_, e⟩ | ⟨_, _, e⟩ | ⟨_, _, _, _, _, e⟩ | ⟨_, _, _, _, e⟩ <;> rw [e]
  · exact h
  · exact h
  · exact hP _ _ h
  · exact hP _ _ h

theorem drainLoop_pres (i : Nat) (s : σ) (k : Nat) (h : P s) : P (drainLoop R i s k).2 := by
  induction i generalizing s with
  | zero => exact h
  | succ i ih =>
    simp only [drainLoop]
    split
    · exact hP _ _ h
    · exact ih _ (hP _ _ h)

end

/-- What no `Read` changes. -/
def Sem.Same {σ : Type} (S : Sem σ) (s s' : σ) : Prop :=
  S.term s' = S.term s ∧ S.closes s' = S.closes s ∧ S.sealed s' = S.sealed s

theorem Laws.same {σ : Type} {S : Sem σ} (L : Laws S) (s s' : σ) (k : Nat) (h : S.Same s s') :
    S.Same s (S.R.read s' k).2 :=
  ⟨(L.read_term s' k).trans h.1, (L.read_closes s' k).trans h.2.1, (L.read_sealed s' k).trans h.2.2⟩

/-- `zeros` of a bufio layer: it passes empty reads through only when it holds nothing. -/
def bz (b : Buf) (z : Nat) : Nat := if b.buf.isEmpty && b.err.isNone then z else 0

def wrapSem {σ : Type} (S : Sem σ) : Sem (PR × σ) where
  R := wrap S.R
  Inv := fun ps => ps.1.closed = false ∧ S.Inv ps.2 ∧
    ∀ e, ps.1.b.err = some e → e = S.term ps.2 ∧ S.content ps.2 = []
  Dead := fun ps => S.Dead ps.2 ∧ ps.1.b.buf = []
  content := fun ps => ps.1.b.buf ++ S.content ps.2
  term := fun ps => S.term ps.2
  mu := fun ps => ps.1.b.buf.length + S.mu ps.2
  zeros := fun ps => bz ps.1.b (S.zeros ps.2)
  closes := fun ps => S.closes ps.2
  sealed := fun ps => ps.1.closed || S.sealed ps.2

theorem wrap_read_open {σ : Type} (R : Reader σ) (ps : PR × σ) (k : Nat) (h : ps.1.closed = false) :
    (wrap R).read ps k = ((bread R ps.1.b ps.2 k).1,
      ({ ps.1 with b := (bread R ps.1.b ps.2 k).2.1 }, (bread R ps.1.b ps.2 k).2.2)) := by
  simp [wrap, h]

theorem wrap_read_closed {σ : Type} (R : Reader σ) (ps : PR × σ) (k : Nat) (h : ps.1.closed = true) :
    (wrap R).read ps k = (([], some .ueof), ps) := by
  simp [wrap, h]

theorem wrap_close_open {σ : Type} (R : Reader σ) (ps : PR × σ) (h : ps.1.closed = false) :
    (wrap R).close ps = ((R.close ps.2).1, ({ b := {}, closed := true }, (R.close ps.2).2)) := by
  simp [wrap, h]

theorem wrap_close_closed {σ : Type} (R : Reader σ) (ps : PR × σ) (h : ps.1.closed = true) :
    (wrap R).close ps = (some .already, ps) := by
  simp [wrap, h]

section
variable {σ : Type} {S : Sem σ} (L : Laws S)
include L

theorem wrap_read_spec (ps : PR × σ) (k : Nat) (h : (wrapSem S).Inv ps) :
    ReadOk (wrapSem S) ps k ((wrap S.R).read ps k) := by
  obtain ⟨⟨⟨buf, err⟩, cl⟩, s⟩ := ps
  obtain ⟨hc, hI, hE⟩ := h
  rw [wrap_read_open _ _ _ hc]
  rcases bread_cases S.R ⟨buf, err⟩ s k with ⟨hb, e⟩ | ⟨hb, he, e⟩ | ⟨hb, he, k', hk', hl, e⟩ | ⟨hb, he, hk, hd, e⟩ <;>
    rw [e]
  · refine ⟨⟨hc, hI, hE⟩, ?_, List.length_take_le _ _, nofun, ?_, fun hk h _ => absurd h (take_ne_nil hb hk)⟩
    · show buf ++ S.content s = buf.take k ++ (buf.drop k ++ S.content s)
      rw [← List.append_assoc, List.take_append_drop]
    · show (buf.drop k).length + S.mu s + (buf.take k).length ≤ buf.length + S.mu s
      rw [List.length_drop, List.length_take]
      omega
  · cases hb
    exact ⟨⟨hc, hI, nofun⟩, rfl, Nat.zero_le _, hE, Nat.le_refl _, fun hk _ h => absurd h (he hk)⟩
  · -- the inner call is passed on
    cases hb
    cases he
    have hlen : (S.R.read s k').1.1.length ≤ k := by
      rcases hl with rfl | h0
      · exact L.read_len s _ hI
      · rw [h0]; exact Nat.zero_le _
    exact ⟨⟨hc, L.read_inv s k' hI, nofun⟩, L.read_content s k' hI, hlen, fun e => L.read_err s k' e hI,
      by simpa [wrapSem] using L.read_mu s k' hI,
      fun _ hd hn => ⟨by simpa [wrapSem] using L.read_mu_lt s k' hI hk' hd hn, L.read_zeros s k' hI hk' hd hn⟩⟩
  · -- the inner call fills the buffer, a prefix is handed out
    cases hb
    cases he
    refine ⟨⟨hc, L.read_inv s _ hI, fun e h => L.read_term s _ ▸ L.read_err s _ e hI h⟩, ?_,
      List.length_take_le _ _, nofun, ?_, fun _ h _ => absurd h (take_ne_nil hd hk)⟩
    · show S.content s = _ ++ (_ ++ _)
      rw [← List.append_assoc, List.take_append_drop]
      exact L.read_content s _ hI
    · have := L.read_mu s bufSize hI
      simp only [wrapSem, List.length_nil, List.length_drop, List.length_take]
      omega

omit L in
theorem wrapSem_R : (wrapSem S).R = wrap S.R := rfl

theorem wrap_read_same (ps : PR × σ) (k : Nat) : (wrapSem S).Same ps ((wrap S.R).read ps k).2 := by
  cases hc : ps.1.closed
  · rw [wrap_read_open _ _ _ hc]
    have h := bread_pres S.R (S.Same ps.2) (L.same ps.2) ps.1.b ps.2 k ⟨rfl, rfl, rfl⟩
    exact ⟨h.1, h.2.1, by show (_ || _) = (_ || _); rw [h.2.2]⟩
  · rw [wrap_read_closed _ _ _ hc]
    exact ⟨rfl, rfl, rfl⟩

theorem wrap_laws : Laws (wrapSem S) where
  read_inv ps k h := (wrap_read_spec L ps k h).inv
  read_term ps k := (wrap_read_same L ps k).1
  read_content ps k h := (wrap_read_spec L ps k h).content
  read_len ps k h := (wrap_read_spec L ps k h).len
  read_err ps k e h := (wrap_read_spec L ps k h).err e
  read_mu ps k h := (wrap_read_spec L ps k h).mu
  read_mu_lt ps k h hk hd he := ((wrap_read_spec L ps k h).lt hk hd he).1
  read_zeros ps k h hk hd he := ((wrap_read_spec L ps k h).lt hk hd he).2
  zeros_lt ps h := by
    show bz ps.1.b (S.zeros ps.2) < maxEmpty
    unfold bz; split
    · exact L.zeros_lt _ h.2.1
    · exact Nat.succ_pos _
  read_closes ps k := (wrap_read_same L ps k).2.1
  read_sealed ps k := (wrap_read_same L ps k).2.2
  dead_read ps k h := by
    rw [wrapSem_R]
    cases hc : ps.1.closed
    · -- the layer holds nothing: it reports its pending error or asks the inner reader, which is dead
      rw [wrap_read_open _ _ _ hc]
      rcases bread_cases S.R ps.1.b ps.2 k with ⟨hne, _⟩ | ⟨_, he, e⟩ | ⟨_, _, k', hk', _, e⟩ | ⟨_, _, _, hd, _⟩
      · exact absurd h.2 hne
      · rw [e]
        exact ⟨rfl, he, h⟩
      · have := L.dead_read ps.2 k' h.1
        rw [e]
        exact ⟨this.1, fun _ => this.2.1 hk', this.2.2, h.2⟩
      · exact absurd (L.dead_read ps.2 bufSize h.1).1 hd
    · rw [wrap_read_closed _ _ _ hc]; exact ⟨rfl, fun _ => Option.some_ne_none _, h⟩
  dead_close ps h := by
    rw [wrapSem_R]
    cases hc : ps.1.closed
    · rw [wrap_close_open _ ps hc]; exact ⟨L.dead_close _ h.1, rfl⟩
    · rw [wrap_close_closed _ ps hc]; exact h
  close_dead ps h := by
    rw [wrapSem_R, wrap_close_open _ ps h.1]
    exact ⟨L.close_dead _ h.2.1, rfl⟩
  close_sealed ps hs := by
    rw [wrapSem_R]
    cases hc : ps.1.closed
    · rw [wrap_close_open _ ps hc]
      exact ⟨(L.close_sealed _ (by simpa [wrapSem, hc] using hs)).1, rfl⟩
    · rw [wrap_close_closed _ ps hc]; exact ⟨rfl, hs⟩
  close_unsealed ps hs := by
    have hs : (ps.1.closed || S.sealed ps.2) = false := hs
    rw [Bool.or_eq_false_iff] at hs
    rw [wrapSem_R, wrap_close_open _ ps hs.1]
    exact L.close_unsealed _ hs.2

omit L in
theorem wrap_close_sealed (ps : PR × σ) : (wrapSem S).sealed ((wrap S.R).close ps).2 = true := by
  show (((wrap S.R).close ps).2.1.closed || _) = true
  cases hc : ps.1.closed
  · rw [wrap_close_open _ ps hc]; rfl
  · rw [wrap_close_closed _ ps hc, hc]; rfl

end

/-- `s'`, seen through `S'`, is what `s` becomes by `Read` calls that hand out `d` in all: the content
moves on by `d`, nothing else changes. (`S'` is not `S` when a layer was put on top meanwhile.) -/
structure Passes {σ σ' : Type} (S : Sem σ) (s : σ) (d : Bytes) (S' : Sem σ') (s' : σ') : Prop where
  inv : S.Inv s → S'.Inv s' ∧ S.content s = d ++ S'.content s' ∧ S'.mu s' + d.length ≤ S.mu s
  dead : S.Dead s → S'.Dead s' ∧ d = []
  term : S'.term s' = S.term s
  closes : S'.closes s' = S.closes s
  sealed : S'.sealed s' = S.sealed s

theorem Passes.refl {σ : Type} (S : Sem σ) (s : σ) : Passes S s [] S s :=
  ⟨fun h => ⟨h, rfl, Nat.le_refl _⟩, fun h => ⟨h, rfl⟩, rfl, rfl, rfl⟩

theorem Passes.trans {σ σ' σ'' : Type} {S : Sem σ} {S' : Sem σ'} {S'' : Sem σ''} {s s' s'' d d'}
    (h : Passes S s d S' s') (h' : Passes S' s' d' S'' s'') : Passes S s (d ++ d') S'' s'' where
  inv hI := by
    obtain ⟨a1, a2, a3⟩ := h.inv hI
    obtain ⟨b1, b2, b3⟩ := h'.inv a1
    exact ⟨b1, by rw [a2, b2, List.append_assoc], by rw [List.length_append]; omega⟩
  dead hD := by
    obtain ⟨a1, a2⟩ := h.dead hD
    obtain ⟨b1, b2⟩ := h'.dead a1
    exact ⟨b1, by rw [a2, b2]; rfl⟩
  term := h'.term.trans h.term
  closes := h'.closes.trans h.closes
  sealed := h'.sealed.trans h.sealed

section
variable {σ : Type} {S : Sem σ} (L : Laws S)
include L

theorem Passes.read (s : σ) (k : Nat) : Passes S s (S.R.read s k).1.1 S (S.R.read s k).2 where
  inv hI := ⟨L.read_inv s k hI, L.read_content s k hI, L.read_mu s k hI⟩
  dead hD := ⟨(L.dead_read s k hD).2.2, (L.dead_read s k hD).1⟩
  term := L.read_term s k
  closes := L.read_closes s k
  sealed := L.read_sealed s k

/-- `fill` on an open inner reader whose runs of empty reads are shorter than the retry budget:
the content is preserved, and either a byte was added or the terminal is pending. In particular
`io.ErrNoProgress` is not produced. -/
theorem fillLoop_spec (i : Nat) (b : Buf) (s : σ) (hI : S.Inv s) (hbe : b.err = none)
    (hlen : b.buf.length < bufSize) (hz : S.zeros s < i) :
    S.Inv (fillLoop S.R i b s).2 ∧
    b.buf ++ S.content s = (fillLoop S.R i b s).1.buf ++ S.content (fillLoop S.R i b s).2 ∧
    (∀ e, (fillLoop S.R i b s).1.err = some e → e = S.term s ∧ S.content (fillLoop S.R i b s).2 = []) ∧
    ((fillLoop S.R i b s).1.err = none → b.buf.length < (fillLoop S.R i b s).1.buf.length) ∧
    (fillLoop S.R i b s).1.buf.length + S.mu (fillLoop S.R i b s).2 ≤ b.buf.length + S.mu s := by
  induction i generalizing s with
  | zero => omega
  | succ i ih =>
    have hk : 0 < bufSize - b.buf.length := by omega
    obtain ⟨h1, h2, h3⟩ := (Passes.read L s (bufSize - b.buf.length)).inv hI
    rw [fillLoop_succ]
    split
    · rename_i e he
      exact ⟨h1, by rw [h2, List.append_assoc], fun e' he' => Option.some.inj he' ▸ L.read_err s _ e hI he,
        nofun, by simp only [List.length_append]; omega⟩
    · rename_i he
      split
      · rename_i hd
        rw [List.isEmpty_iff] at hd
        rw [hd] at h2 h3
        have := ih _ h1 (by have := L.read_zeros s _ hI hk hd he; omega)
        rw [L.read_term, ← List.nil_append (S.content _), ← h2] at this
        exact ⟨this.1, this.2.1, this.2.2.1, this.2.2.2.1, Nat.le_trans this.2.2.2.2 (by omega)⟩
      · rename_i hd
        have := List.length_pos_iff.mpr (List.isEmpty_eq_false_iff.mp (Bool.eq_false_iff.mpr hd))
        exact ⟨h1, by rw [h2, List.append_assoc], (fun e h => nomatch hbe.symm.trans (h : b.err = some e)),
          fun _ => by simp only [List.length_append]; omega, by simp only [List.length_append]; omega⟩

end

section
variable {σ : Type} (R : Reader σ)

theorem fillLoop_outcome (i : Nat) (b : Buf) (s : σ) :
    (fillLoop R i b s).1.err ≠ none ∨ b.buf.length < (fillLoop R i b s).1.buf.length := by
  induction i generalizing s with
  | zero => exact .inl nofun
  | succ i ih =>
    rw [fillLoop_succ]
    split
    · exact .inl nofun
    · split
      · exact ih _
      · rename_i hd
        have := List.length_pos_iff.mpr (List.isEmpty_eq_false_iff.mp (Bool.eq_false_iff.mpr hd))
        exact .inr (by simp only [List.length_append]; omega)

/-- `Peek(1)` on a fresh bufio reader is one `fill`: after it the loop condition is false. -/
theorem peekLoop_fresh (s : σ) : peekLoop R 2 1 {} s = fillLoop R maxEmpty {} s := by
  -- `2` is the fuel `n + 1` that `peek` gives `peekLoop` for `n = 1`
  rw [peekLoop, if_pos ⟨Nat.one_pos, bufSize_pos, rfl⟩, peekLoop, if_neg]
  · rfl
  · intro hc
    rcases fillLoop_outcome R maxEmpty {} s with h | h
    · exact h hc.2.2
    · exact absurd hc.1 (Nat.not_lt.mpr h)

/-- The probe of a fresh bufio reader, in terms of that one `fill`: the answer is "a byte was
buffered"; `Peek` takes the error with it when it has no byte to show. -/
theorem hasContent_fresh (s : σ) :
    hasContent R {} s = (!(fillLoop R maxEmpty {} s).1.buf.isEmpty,
      { (fillLoop R maxEmpty {} s).1 with
        err := if (fillLoop R maxEmpty {} s).1.buf.isEmpty then none else (fillLoop R maxEmpty {} s).1.err },
      (fillLoop R maxEmpty {} s).2) := by
  simp only [hasContent, peek, peekLoop_fresh R s]
  obtain ⟨⟨buf, err⟩, s'⟩ := fillLoop R maxEmpty {} s
  cases buf <;> simp

end

section
variable {σ : Type} {S : Sem σ} (L : Laws S)
include L

theorem hasContent_spec (s : σ) (hI : S.Inv s) :
    (hasContent S.R {} s).1 = !(S.content s).isEmpty ∧
    (wrapSem S).Inv ({ b := (hasContent S.R {} s).2.1 }, (hasContent S.R {} s).2.2) ∧
    S.content s = (hasContent S.R {} s).2.1.buf ++ S.content (hasContent S.R {} s).2.2 ∧
    (hasContent S.R {} s).2.1.buf.length + S.mu (hasContent S.R {} s).2.2 ≤ S.mu s := by
  obtain ⟨h1, h2, h3, h4, h5⟩ := fillLoop_spec L maxEmpty {} s hI rfl bufSize_pos (L.zeros_lt s hI)
  have ht := (fillLoop_pres S.R (S.Same s) (L.same s) maxEmpty {} s ⟨rfl, rfl, rfl⟩).1
  rw [hasContent_fresh S.R s]
  generalize fillLoop S.R maxEmpty {} s = F at *
  refine ⟨?_, ⟨rfl, h1, fun e he => ?_⟩, h2, by simpa using h5⟩
  · -- no byte buffered: the fill met the terminal, so nothing is left
    rw [show S.content s = _ from h2]
    cases hb : F.1.buf with
    | cons x xs => rfl
    | nil =>
      cases he : F.1.err with
      | none => have := h4 he; rw [hb] at this; exact absurd this (Nat.lt_irrefl _)
      | some e => rw [(h3 e he).2]; rfl
  · have he : F.1.err = some e := by
      have he : (if _ then none else _) = some e := he
      split at he
      · cases he
      · exact he
    exact ⟨ht ▸ (h3 e he).1, (h3 e he).2⟩

theorem hasContent_dead (s : σ) (hD : S.Dead s) :
    (hasContent S.R {} s).1 = false ∧ S.Dead (hasContent S.R {} s).2.2 ∧
    (hasContent S.R {} s).2.1.buf = [] := by
  have hd := L.dead_read s bufSize hD
  have hf : fillLoop S.R maxEmpty {} s =
      ({ buf := [] ++ (S.R.read s bufSize).1.1, err := (S.R.read s bufSize).1.2 }, (S.R.read s bufSize).2) := by
    -- `maxEmpty = 100`, written as a successor for `fillLoop_succ`
    show fillLoop S.R (99 + 1) {} s = _
    rw [fillLoop_succ]
    cases he : (S.R.read s bufSize).1.2 with
    | none => exact absurd he (hd.2.1 bufSize_pos)
    | some e => rfl
  rw [hasContent_fresh S.R s, hf, hd.1]
  exact ⟨rfl, hd.2.2, rfl⟩

theorem hasContent_passes (s : σ) :
    Passes S s [] (wrapSem S) ({ b := (hasContent S.R {} s).2.1 }, (hasContent S.R {} s).2.2) := by
  have hI := hasContent_spec L s
  have hD := hasContent_dead L s
  have hf := hasContent_pres S.R (S.Same s) (L.same s) {} s ⟨rfl, rfl, rfl⟩
  -- name the probe's result once, so that later comparisons of states do not evaluate it
  generalize hasContent S.R {} s = x at *
  exact ⟨fun h => ⟨(hI h).2.1, (hI h).2.2.1.trans (List.nil_append _).symm, (hI h).2.2.2⟩,
    fun h => ⟨(hD h).2, rfl⟩, hf.1, hf.2.1, hf.2.2⟩

theorem drainLoop_passes (i : Nat) (s : σ) (k : Nat) :
    Passes S s (drainLoop S.R i s k).1.1 S (drainLoop S.R i s k).2 := by
  induction i generalizing s with
  | zero => exact Passes.refl S s
  | succ i ih =>
    simp only [drainLoop]
    split
    · exact Passes.read L s k
    · exact (Passes.read L s k).trans (ih _)

/-- Refinement to the byte sequence: reading an open reader with any non-empty buffer until an
error shows up yields exactly its content followed by its terminal, within `mu + 1` calls. -/
theorem drainLoop_spec (i : Nat) (s : σ) (k : Nat) (hI : S.Inv s) (hk : 0 < k) (hi : S.mu s < i) :
    (drainLoop S.R i s k).1 = (S.content s, some (S.term s), false) ∧
    S.Inv (drainLoop S.R i s k).2 ∧ S.content (drainLoop S.R i s k).2 = [] ∧
    S.term (drainLoop S.R i s k).2 = S.term s ∧ S.mu (drainLoop S.R i s k).2 ≤ S.mu s := by
  induction i generalizing s with
  | zero => omega
  | succ i ih =>
    obtain ⟨h1, h2, h3⟩ := (Passes.read L s k).inv hI
    simp only [drainLoop]
    split
    · rename_i e he
      obtain ⟨e1, e2⟩ := L.read_err s k e hI he
      exact ⟨by rw [h2, e2, e1, List.append_nil], h1, e2, L.read_term _ _, Nat.le_of_add_right_le h3⟩
    · rename_i he
      have := ih _ h1 (by have := L.toRLaws.read_progress s k hI hk he; omega)
      rw [L.read_term] at this
      exact ⟨by rw [this.1, h2], this.2.1, this.2.2.1, this.2.2.2.1,
        Nat.le_trans this.2.2.2.2 (Nat.le_of_add_right_le h3)⟩

theorem drainLoop_dead (i : Nat) (s : σ) (k : Nat) (hD : S.Dead s) (hk : 0 < k) :
    ∃ e, (drainLoop S.R (i + 1) s k).1 = ([], some e, false) := by
  have hd := L.dead_read s k hD
  simp only [drainLoop]
  split
  · rename_i e he
    exact ⟨e, by rw [hd.1]⟩
  · rename_i he; exact absurd he (hd.2.1 hk)

theorem drainLoop_zero (i : Nat) (s : σ) (hI : S.Inv s) : (drainLoop S.R i s 0).1.1 = [] := by
  induction i generalizing s with
  | zero => rfl
  | succ i ih =>
    have h0 : (S.R.read s 0).1.1 = [] := List.length_eq_zero_iff.mp (Nat.le_zero.mp (L.read_len s 0 hI))
    simp only [drainLoop]
    split
    · exact h0
    · show _ ++ _ = []
      rw [h0, ih _ (L.read_inv s 0 hI)]; rfl

end

end RtVerif.Stream
