import RtVerif.Model.C10
import RtVerif.Lemmas.C10
import RtVerif.Lemmas.C10URL
import RtVerif.Lemmas.GoURLParse
/-
  C10.  The code substitutes placeholders by a *sequential* `strings.ReplaceAll` over the parameter map
  in whatever order Go iterates it.  For every well-formed pattern (brace-delimited placeholders,
  not nested) and brace-free parameter names this sequential fold is shown equal to the
  simultaneous, order-free substitution `substAll` — hence independent of the order, never
  re-substituting a value, and unable to add a separator, query or fragment.
-/
namespace RtVerif.C10
open RtVerif Bytes

/-- one more parameter in front: when it carries the placeholder's name it wins, and the later ones
find nothing left to replace (a value is never re-substituted) -/
theorem substTok_cons (kv : Bytes × Bytes) (ps : List (Bytes × Bytes)) (t : Tok) :
    substTok ps (subst1 kv.1 (GoURL.pathEscape kv.2) t) = substTok (kv :: ps) t := by
  cases t with
  | lit b => rfl
  | ph n =>
    by_cases h : n = kv.1
    · simp [subst1, substTok, lookupParam, h]
    · simp [subst1, substTok, lookupParam, h, beq_eq_false_iff_ne.mpr (Ne.symm h)]

/-- **T1/T2**: for a well-formed pattern and brace-free names, the code's sequential replacement
loop computes the simultaneous substitution — whatever the order of the parameter list. -/
theorem substSeq_eq_substAll (params : List (Bytes × Bytes)) (toks : List Tok)
    (hn : NamesOk params) (hw : WFToks toks) :
    substSeq params (render toks) = substAll params toks := by
  induction params generalizing toks with
  | nil =>
    have : substTok [] = id := funext fun t => by cases t <;> rfl
    simp [substSeq, substAll, this]
  | cons kv ps ih =>
    show substSeq ps (replaceAll (placeholder kv.1) (GoURL.pathEscape kv.2) (render toks)) = _
    rw [replaceAll_render _ _ _ (hn kv List.mem_cons_self) hw,
      ih _ (fun x hx => hn x (List.mem_cons_of_mem _ hx)) (wf_subst1 _ _ (braceFree_pathEscape _) _ hw)]
    simp only [substAll, List.map_map]
    exact congrArg render (List.map_congr_left fun t _ => substTok_cons kv ps t)

/-- **T2 (order-independence)**: the result does not depend on the order in which the parameters
were set (Go's map iteration order), for distinct brace-free names and a well-formed pattern. -/
theorem substSeq_perm (ps ps' : List (Bytes × Bytes)) (toks : List Tok) (hp : ps.Perm ps')
    (hd : (ps.map (·.1)).Nodup) (hn : NamesOk ps) (hw : WFToks toks) :
    substSeq ps (render toks) = substSeq ps' (render toks) := by
  have hn' : NamesOk ps' := fun kv hkv => hn kv (hp.mem_iff.mpr hkv)
  rw [substSeq_eq_substAll ps toks hn hw, substSeq_eq_substAll ps' toks hn' hw]
  refine congrArg render (List.map_congr_left fun t _ => ?_)
  cases t with
  | lit b => rfl
  | ph n => simp only [substTok, lookupParam, GoQuery.find?_key_perm hp hd n]

example : (placeholder [105, 100]) = [123, 105, 100, 125] ∧ braceFree [105, 100] = true := by decide

def countSlash (b : Bytes) : Nat := b.count 47

def litSlashes : List Tok → Nat
  | [] => 0
  | .lit b :: r => countSlash b + litSlashes r
  | .ph _ :: r => litSlashes r

def allSubstituted (params : List (Bytes × Bytes)) (toks : List Tok) : Prop :=
  ∀ n, Tok.ph n ∈ toks → (lookupParam params n).isSome = true

/-- **T1 (shape)**: when every placeholder has a value, the built path has exactly the pattern's
separators: `/` occurs as often as in the pattern's static text. -/
theorem substAll_slashes (params : List (Bytes × Bytes)) (toks : List Tok)
    (h : allSubstituted params toks) : countSlash (substAll params toks) = litSlashes toks := by
  induction toks with
  | nil => rfl
  | cons t ts ih =>
    have ih := ih fun n hn => h n (List.mem_cons_of_mem _ hn)
    cases t with
    | lit b => simpa [substAll, substTok, render, litSlashes, countSlash, List.count_append] using ih
    | ph n =>
      obtain ⟨v, hv⟩ := Option.isSome_iff_exists.mp (h n List.mem_cons_self)
      have h0 : (GoURL.pathEscape v).count 47 = 0 :=
        List.count_eq_zero.mpr fun hm => (GoURL.pathEscape_no_special v 47 hm).1 rfl
      simpa [substAll, substTok, hv, render, litSlashes, countSlash, List.count_append, h0] using ih

/-- no byte of a substituted value is `?`, `#`, `/`, `{`, `}` or a space -/
theorem value_adds_nothing_special (v : Bytes) :
    ∀ c ∈ GoURL.pathEscape v, c ≠ 47 ∧ c ≠ 63 ∧ c ≠ 35 ∧ c ≠ 123 ∧ c ≠ 125 ∧ c ≠ 32 :=
  GoURL.pathEscape_no_special v

/-- **T3**: a trailing slash of the pattern is kept. -/
theorem trailing_slash_kept (joined pp : Bytes) (params : List (Bytes × Bytes))
    (h : keepsSlash pp = true) : (urlPath joined pp params).getLast? = some 47 := by
  simp [urlPath, h]

theorem selectScheme_https (schemes : List Bytes) (h2 : 2 ≤ schemes.length)
    (hm : https ∈ schemes) : selectScheme schemes = https := by
  match schemes, h2 with
  | s :: t :: r, _ =>
    by_cases hs : s = https
    · simp [selectScheme, hs]
    · have hc : (s :: t :: r).contains https = true := List.elem_eq_true_of_mem hm
      rw [selectScheme, bne_iff_ne.mpr hs, hc]
      rfl

theorem selectScheme_nil_iff (schemes : List Bytes) (hne : ∀ s ∈ schemes, s ≠ []) :
    selectScheme schemes = [] ↔ schemes = [] := by
  cases schemes with
  | nil => simp [selectScheme]
  | cons s rest =>
    simp only [selectScheme, reduceCtorEq, iff_false]
    split
    · decide
    · exact hne s List.mem_cons_self

/-- **T5**: https is chosen whenever it is among several offered schemes; the runtime's own scheme
list decides when it is non-empty, else the operation's, else http. -/
theorem pickScheme_spec (rs os : List Bytes) :
    (rs.length ≥ 2 → https ∈ rs → pickScheme rs os = https) ∧
    (rs = [] → os.length ≥ 2 → https ∈ os → pickScheme rs os = https) ∧
    (rs = [] → os = [] → pickScheme rs os = http) := by
  refine ⟨?_, ?_, ?_⟩
  · intro h2 hm
    simp only [pickScheme, selectScheme_https rs h2 hm]
    rfl
  · intro hr h2 hm
    subst hr
    have h0 : selectScheme [] = [] := rfl
    simp only [pickScheme, h0, List.isEmpty_nil, Bool.not_true, Bool.false_eq_true,
      ↓reduceIte, selectScheme_https os h2 hm]
    rfl
  · intro hr ho
    subst hr; subst ho
    rfl

theorem get_cons (kv : Bytes × List Bytes) (vs : Values) (k : Bytes) :
    Values.get (kv :: vs) k = if kv.1 == k then some kv.2 else Values.get vs k :=
  GoQuery.get_cons kv vs k

theorem get_set (vs : Values) (k k' : Bytes) (v : List Bytes) :
    (vs.set k v).get k' = if k == k' then some v else vs.get k' := by
  induction vs with
  | nil => simp [Values.set, Values.del, Values.get]
  | cons x xs ih =>
    have hset : Values.set (x :: xs) k v = if x.1 = k then Values.set xs k v else x :: Values.set xs k v := by
      by_cases hx : x.1 = k <;> simp [Values.set, Values.del, hx]
    rw [hset]
    split
    · rename_i hx
      rw [ih, get_cons, hx]
      split <;> rfl
    · rename_i hx
      rw [get_cons, get_cons, ih]
      by_cases hk : x.1 = k'
      · simp [hk, show k ≠ k' from fun e => hx (hk.trans e.symm)]
      · simp [hk]

theorem staticQuery_get (b p : Values) (hp : (p.map (·.1)).Nodup) (k : Bytes) :
    (staticQuery b p).get k = (Values.get p k).or (Values.get b k) := by
  unfold staticQuery
  induction p generalizing b with
  | nil => simp [Values.get]
  | cons kv ps ih =>
    obtain ⟨hkv, hps⟩ := List.nodup_cons.mp hp
    rw [List.foldl_cons, ih _ hps, get_set, get_cons]
    by_cases hk : kv.1 = k
    · simp [hk, GoQuery.get_none_of_not_mem ps k (hk ▸ hkv), get_eq]
    · simp [hk]

theorem finalFold_get (s acc : Values) (k : Bytes) :
    (s.foldl (fun acc kv => if (acc.get kv.1).isSome then acc else acc.set kv.1 kv.2) acc).get k =
      (Values.get acc k).or (Values.get s k) := by
  induction s generalizing acc with
  | nil => simp [Values.get]
  | cons kv ss ih =>
    rw [List.foldl_cons, ih, get_cons]
    by_cases hk : kv.1 = k
    · subst hk
      cases hg : Values.get acc kv.1 <;> simp [hg, get_set]
    · split <;> simp [get_set, hk]

/-- **T4**: for every name, the final query carries the caller's values if the caller set the
name, else the pattern's static values, else the base path's — and nothing else is lost.
(`pattern`'s keys are distinct: it is a Go map.) -/
theorem query_precedence (base pattern caller : Values) (hp : (pattern.map (·.1)).Nodup) (k : Bytes) :
    (finalQuery base pattern caller).get k =
      (Values.get caller k).or ((Values.get pattern k).or (Values.get base k)) := by
  unfold finalQuery
  rw [finalFold_get, staticQuery_get base pattern hp]

example : (finalQuery [([97], [[49]])] [([97], [[50]]), ([98], [[51]])] [([98], [[52]])]).get [97] = some [[50]] ∧
    (finalQuery [([97], [[49]])] [([97], [[50]]), ([98], [[51]])] [([98], [[52]])]).get [98] = some [[52]] := by
  decide

/-! ## End to end: the URL of the request (`build`)

`path.Join`, the re-parse of the built string by `http.NewRequest`, `URL.EscapedPath()` and
`Values.Encode` are inside the model (`GoPath.join`, `GoURLParse.parse`, `GoURLParse.escapedPath`,
`GoQuery.encode`).  A pattern is given by its segments: `patternOf psegs trailing` is
`/s₁/…/sₙ` (+ `/`), every `sᵢ` a list of tokens (static text and `{name}` placeholders); a base path
by its static segments: `basePathOf bs`.  What the theorems assume of them are the fields of
`PathOk params bs psegs` (RtVerif/Lemmas/C10URL.lean); `f10a_witness` and `example_pathOk` below show
concrete inputs that meet them. -/

/-- **`path.Join` inside the model (general form)**: for a clean rooted base path and ANY non-empty
pattern path, the joined path is what `Clean`'s stack machine makes of the pattern's segments on top
of the base path's: empty segments (duplicate slashes) and `.` are dropped, `..` pops, everything else
— a `{name}` placeholder in particular, which holds no `/` and is neither `.` nor `..` — is kept. -/
theorem join_clean_base (bs : List Bytes) (hbs : ∀ b ∈ bs, GoPath.Normal b) (pp : Bytes) (hpp : pp ≠ []) :
    GoPath.join (basePathOf bs) pp =
      GoPath.render true (((GoPath.segs pp).foldl (GoPath.step true) bs.reverse).reverse) := by
  unfold basePathOf
  rw [GoPath.join_eq_clean _ _ (by simp [GoPath.render]) hpp]
  unfold GoPath.clean GoPath.kept
  have hr : GoPath.isRooted (GoPath.render true bs ++ GoPath.slash :: pp) = true := by
    simp [GoPath.render, GoPath.isRooted]
  rw [hr, GoPath.segs_append_slash, List.foldl_append, foldl_base bs hbs]

theorem placeholder_segment_normal (a b n : Bytes) (h : GoPath.slash ∉ a ++ placeholder n ++ b) :
    GoPath.Normal (a ++ placeholder n ++ b) := by
  have hmem : lbrace ∈ a ++ placeholder n ++ b := by simp [placeholder]
  refine ⟨?_, ?_, ?_, h⟩
  · intro h0; rw [h0] at hmem; cases hmem
  · intro h0; rw [h0] at hmem; revert hmem; decide
  · intro h0; rw [h0] at hmem; revert hmem; decide

/-- **`path.Join` inside the model (patterns made of ordinary segments)**: the joined path is the
base path's segments followed by the pattern's, separated by single slashes, placeholders untouched;
a trailing slash of the pattern is dropped by `Join` (and reinstated afterwards by `keepsSlash`). -/
theorem join_pattern (bs : List Bytes) (hbs : ∀ b ∈ bs, GoPath.Normal b) (psegs : List (List Tok))
    (hps : ∀ s ∈ psegs, GoPath.Normal (render s)) (hne : psegs ≠ []) (trailing : Bool) :
    GoPath.join (basePathOf bs) (patternOf psegs trailing) = joinRooted (bs ++ psegs.map render) ∧
      keepsSlash (patternOf psegs trailing) = trailing := by
  have hl := normal_render hps
  have hne' : psegs.map render ≠ [] := by simpa using hne
  constructor
  · rw [join_clean_base bs hbs _ (by simp [patternOf, joinRooted_ne_nil hne']), patternOf,
      segs_joinRooted _ (fun x hx => (hl x hx).2.2.2) trailing, foldl_step_pattern _ hl trailing,
      List.reverse_append, List.reverse_reverse, List.reverse_reverse]
    exact render_true_eq _ (by simp [hne'])
  · have hlast := getLast_joinRooted _ hne' hl
    cases trailing with
    | false => simpa [keepsSlash, patternOf, slashIf] using fun _ _ => hlast
    | true => simp [keepsSlash, patternOf, slashIf, joinRooted_ne_nil hne', List.getLast?_append]

example : GoPath.join (basePathOf [[97, 112, 105]]) (patternOf [[.lit [112]], [.ph [105, 100]]] true) =
    [47, 97, 112, 105, 47, 112, 47, 123, 105, 100, 125] := by decide

theorem substSeq_joinRooted (params : List (Bytes × Bytes)) (segs : List (List Tok)) (hn : NamesOk params)
    (hw : ∀ s ∈ segs, ∀ t ∈ s, t.wf = true) :
    substSeq params (joinRooted (segs.map render)) = joinRooted (segs.map (encodeSeg params)) := by
  rw [← render_toksOf, substSeq_eq_substAll params _ hn (wf_toksOf _ hw), substAll_toksOf]

/-- **the string handed to `http.NewRequest`**: `/` + the segments of base path and pattern, every
placeholder replaced by its escaped value, + the pattern's trailing slash — whatever the order of the
parameter list. -/
theorem builtPath_eq {params : List (Bytes × Bytes)} {bs : List Bytes} {psegs : List (List Tok)}
    (h : PathOk params bs psegs) (trailing : Bool) (bu pu : GoURLParse.URL)
    (hb : bu.path = basePathOf bs) (hp : pu.path = patternOf psegs trailing) :
    builtPath bu pu params =
      joinRooted ((allSegs bs psegs).map (encodeSeg params)) ++ slashIf trailing := by
  obtain ⟨hj, hk⟩ := join_pattern bs h.base_normal psegs h.seg_normal h.nonempty trailing
  unfold builtPath urlPath
  rw [hb, hp, hj, hk, ← allSegs_render,
    substSeq_joinRooted params _ h.names fun s hs t ht => ((allSegs_ok h s hs).2 t ht).1]
  rfl

/-- **T1′ (the request URL carries exactly the pattern's segments)**.  Outside the two known classes
(F10a: the built string starts with `//`; F10b: it holds a byte net/url does not accept in a path),
`http.NewRequest`'s `url.Parse` of the built string succeeds and finds no scheme, no authority, no
query and no fragment; `EscapedPath()` is the built string itself; and the decoded `Path` is `/` +
the static segments and, in the place of every placeholder, the supplied VALUE — any bytes. -/
theorem request_path_exact {params : List (Bytes × Bytes)} {bs : List Bytes} {psegs : List (List Tok)}
    (h : PathOk params bs psegs) (trailing : Bool) (bu pu : GoURLParse.URL)
    (hb : bu.path = basePathOf bs) (hp : pu.path = patternOf psegs trailing)
    (ha : f10a (builtPath bu pu params) = false) (hv : f10b (builtPath bu pu params) = false) :
    ∃ rp, GoURLParse.parse (builtPath bu pu params) =
        some { path := joinRooted ((allSegs bs psegs).map (decodeSeg params)) ++ slashIf trailing, rawPath := rp } ∧
      GoURLParse.escapedPath
        { path := joinRooted ((allSegs bs psegs).map (decodeSeg params)) ++ slashIf trailing, rawPath := rp } =
        builtPath bu pu params := by
  have heq := builtPath_eq h trailing bu pu hb hp
  have hu := unescape_built params (allSegs bs psegs) (allSegs_tokOk h) trailing
  obtain ⟨s, r, hsr⟩ : ∃ s r, allSegs bs psegs = s :: r :=
    List.exists_cons_of_ne_nil (by simp [allSegs, h.nonempty])
  obtain ⟨t, ht⟩ : ∃ t, builtPath bu pu params = GoURLParse.slash :: t := by
    rw [heq, hsr]; exact ⟨_, rfl⟩
  rw [← heq, ht] at hu
  rw [ht] at ha hv ⊢
  exact GoURLParse.parse_rooted t _ (by simpa [f10b] using hv) ha hu

/-- **T1′, segment by segment**: split at `/`, the escaped path of the request has exactly the
segments of base path and pattern (after the empty one before the leading slash, and an empty one
after a kept trailing slash), and each of them decodes (`PathUnescape`) to the static text with the
supplied values in the place of the placeholders: a value never adds or removes a segment. -/
theorem request_segments {params : List (Bytes × Bytes)} {bs : List Bytes} {psegs : List (List Tok)}
    (h : PathOk params bs psegs) (trailing : Bool) (bu pu : GoURLParse.URL)
    (hb : bu.path = basePathOf bs) (hp : pu.path = patternOf psegs trailing) :
    GoPath.segs (builtPath bu pu params) =
      [] :: ((allSegs bs psegs).map (encodeSeg params) ++ if trailing then [[]] else []) ∧
    ∀ s ∈ allSegs bs psegs, GoURL.pathUnescape (encodeSeg params s) = some (decodeSeg params s) := by
  refine ⟨?_, ?_⟩
  · rw [builtPath_eq h trailing bu pu hb hp]
    exact segs_joinRooted _ (List.forall_mem_map.mpr (allSegs_enc_noslash h)) trailing
  · intro s hs
    exact (decodes_encodeSeg params s (allSegs_tokOk h s hs)).unescape

/-- **F10a, exact class**: `http.NewRequest` reads an authority out of the built string exactly when
the base path has no segment (`/`), the first segment of the pattern is empty once the values are in
(it consists of placeholders whose values are all empty), and it is followed by a segment that is not
empty itself, or by an empty last segment, or by nothing but a kept trailing slash. -/
theorem f10a_class {params : List (Bytes × Bytes)} {bs : List Bytes} {psegs : List (List Tok)}
    (h : PathOk params bs psegs) (trailing : Bool) (bu pu : GoURLParse.URL)
    (hb : bu.path = basePathOf bs) (hp : pu.path = patternOf psegs trailing) :
    f10a (builtPath bu pu params) = true ↔
      bs = [] ∧ ∃ s₁ rest, psegs = s₁ :: rest ∧ decodeSeg params s₁ = [] ∧
        (match rest with
         | [] => trailing = true
         | s₂ :: rest' => ¬ (decodeSeg params s₂ = [] ∧ (rest' ≠ [] ∨ trailing = true))) := by
  rw [builtPath_eq h trailing bu pu hb hp, f10a, authority_iff _ (decodeSeg params) (encodeSeg_eq_nil params) _
    (allSegs_enc_noslash h) trailing]
  cases bs with
  | nil =>
    simp only [allSegs, List.map_nil, List.nil_append, true_and]
    refine exists_congr fun s₁ => exists_congr fun rest => and_congr_right fun _ => and_congr_right fun _ => ?_
    cases rest <;> rfl
  | cons b bs' =>
    refine iff_of_false (fun ⟨_, _, he, hd, _⟩ => (h.base_normal b List.mem_cons_self).1 ?_) fun h' => nomatch h'.1
    rw [← (List.cons.inj he).1] at hd
    simpa [decodeSeg, decodeTok] using hd

/-- **F10a is real in the model**: for the base path `/`, the pattern `/{a}/pets` and `a = ""`, the
string handed to `http.NewRequest` is `//pets`; `url.Parse` reads `pets` as the HOST and the path of
the request is empty (the runtime then overwrites the host with its own: the request goes to the
root of the API). -/
theorem f10a_witness :
    builtPath { path := [47] } { path := [47, 123, 97, 125, 47, 112, 101, 116, 115] } [([97], [])] =
        [47, 47, 112, 101, 116, 115] ∧
      GoURLParse.parse [47, 47, 112, 101, 116, 115] = some { host := [112, 101, 116, 115] } ∧
      GoURLParse.escapedPath { host := [112, 101, 116, 115] } = [] ∧
      f10a [47, 47, 112, 101, 116, 115] = true := by
  have hok : PathOk [([97], [])] [] [[.ph [97]], [.lit [112, 101, 116, 115]]] :=
    .of_toks (by decide) (by decide) (by decide) (by decide)
  refine ⟨?_, by decide, by decide, by decide⟩
  rw [builtPath_eq hok false _ _ (by decide) (by decide)]
  decide

/-- **F10b, exact class**: once every placeholder has a value, the built string holds a byte net/url
does not accept in an encoded path exactly when the STATIC text of base path or pattern holds one
(`validEncodedByte` lists the accepted bytes: unreserved characters, `%`, and `! $ & ' ( ) * + , ; = : @ [ ]`
and `/`): values can never cause it. -/
theorem f10b_class {params : List (Bytes × Bytes)} {bs : List Bytes} {psegs : List (List Tok)}
    (h : PathOk params bs psegs) (trailing : Bool) (bu pu : GoURLParse.URL)
    (hb : bu.path = basePathOf bs) (hp : pu.path = patternOf psegs trailing) :
    f10b (builtPath bu pu params) = true ↔
      ∃ s ∈ allSegs bs psegs, ∃ b, Tok.lit b ∈ s ∧ ∃ c ∈ b, GoURLParse.validEncodedByte c = false := by
  rw [builtPath_eq h trailing bu pu hb hp, f10b, Bool.not_eq_true', ← Bool.not_eq_true, valid_built_iff h trailing]
  simp

theorem not_f10b_of_valid_static {params : List (Bytes × Bytes)} {bs : List Bytes} {psegs : List (List Tok)}
    (h : PathOk params bs psegs) (trailing : Bool) (bu pu : GoURLParse.URL)
    (hb : bu.path = basePathOf bs) (hp : pu.path = patternOf psegs trailing)
    (hst : ∀ s ∈ allSegs bs psegs, ∀ b, Tok.lit b ∈ s → ∀ c ∈ b, GoURLParse.validEncodedByte c = true) :
    f10b (builtPath bu pu params) = false := by
  rw [builtPath_eq h trailing bu pu hb hp, f10b, (valid_built_iff h trailing).mpr hst]
  rfl

/-- static text made of bytes that `escape(·, encodePath)` leaves alone is never in the F10b class -/
theorem not_f10b_of_plain_static {params : List (Bytes × Bytes)} {bs : List Bytes} {psegs : List (List Tok)}
    (h : PathOk params bs psegs) (trailing : Bool) (bu pu : GoURLParse.URL)
    (hb : bu.path = basePathOf bs) (hp : pu.path = patternOf psegs trailing)
    (hst : ∀ s ∈ allSegs bs psegs, ∀ b, Tok.lit b ∈ s → ∀ c ∈ b, GoURLParse.shouldEscape .path c = false) :
    f10b (builtPath bu pu params) = false :=
  not_f10b_of_valid_static h trailing bu pu hb hp fun s hs b hb c hc =>
    GoURLParse.plain_valid c (hst s hs b hb c hc)

/-- what a key of a `url.Values` transmits: its values when there is at least one -/
def transmitted : Option (List Bytes) → Option (List Bytes)
  | some (v :: r) => some (v :: r)
  | _ => none

/-- **T4′**: `RawQuery` is `Values.Encode` of the merged parameters, and `url.ParseQuery` reads it
back without error as exactly the map "caller over pattern over base path" (a key set without any
value is not transmitted) — any bytes as keys and values. -/
theorem rawQuery_round_trip (base pattern caller : Values) (hp : (pattern.map (·.1)).Nodup)
    (hc : (caller.map (·.1)).Nodup) :
    (GoQuery.parseQuery (GoQuery.encode (finalQuery base pattern caller))).ok = true ∧
    ∀ k, Values.get (GoQuery.parseQuery (GoQuery.encode (finalQuery base pattern caller))).values k =
      transmitted ((Values.get caller k).or ((Values.get pattern k).or (Values.get base k))) := by
  have hd := finalQuery_nodup base pattern caller hc
  obtain ⟨h1, h2⟩ := GoQuery.parse_encode (finalQuery base pattern caller) hd
  refine ⟨h1, fun k => ?_⟩
  rw [get_eq, h2 k, ← get_eq, query_precedence base pattern caller hp k]
  rfl

/-- **End to end (`build` = `Runtime.CreateHttpRequest`)**: for a base path and a pattern that
`url.Parse` reads as a clean rooted path / a pattern of ordinary segments (each possibly with a
query), every placeholder supplied, and outside the known classes F10a and F10b, the request is
built; its URL has the runtime's scheme and host, no user info, no opaque part, no fragment; its
`EscapedPath()` is `/` + the segments with the ESCAPED values, its `Path` the same with the values
themselves; its `RawQuery` is the encoded merge of the three query sources and parses back to
"caller over pattern over base path". -/
theorem build_exact {params : List (Bytes × Bytes)} {bs : List Bytes} {psegs : List (List Tok)}
    (h : PathOk params bs psegs) (trailing : Bool) (basePath pattern : Bytes) (bu pu : GoURLParse.URL)
    (hpb : GoURLParse.parse basePath = some bu) (hpp : GoURLParse.parse pattern = some pu)
    (hb : bu.path = basePathOf bs) (hp : pu.path = patternOf psegs trailing)
    (ha : f10a (builtPath bu pu params) = false) (hv : f10b (builtPath bu pu params) = false)
    (caller : Values) (hc : (caller.map (·.1)).Nodup) (scheme host : Bytes) :
    ∃ u, build basePath pattern params caller scheme host = some u ∧
      u.scheme = scheme ∧ u.host = host ∧ u.user = none ∧ u.opaq = [] ∧ u.fragment = [] ∧ u.forceQuery = false ∧
      GoURLParse.escapedPath u = joinRooted ((allSegs bs psegs).map (encodeSeg params)) ++ slashIf trailing ∧
      u.path = joinRooted ((allSegs bs psegs).map (decodeSeg params)) ++ slashIf trailing ∧
      u.rawQuery = GoQuery.encode (finalQuery (queryOf bu) (queryOf pu) caller) ∧
      (GoQuery.parseQuery u.rawQuery).ok = true ∧
      ∀ k, Values.get (GoQuery.parseQuery u.rawQuery).values k =
        transmitted ((Values.get caller k).or ((Values.get (queryOf pu) k).or (Values.get (queryOf bu) k))) := by
  obtain ⟨rp, hparse, hesc⟩ := request_path_exact h trailing bu pu hb hp ha hv
  obtain ⟨hq1, hq2⟩ := rawQuery_round_trip (queryOf bu) (queryOf pu) caller (parseQuery_nodup _) hc
  have hbuild : build basePath pattern params caller scheme host =
      some (finishURL { path := joinRooted ((allSegs bs psegs).map (decodeSeg params)) ++ slashIf trailing, rawPath := rp }
        bu pu caller scheme host) := by
    simp only [build, hpb, hpp, hparse]
  refine ⟨_, hbuild, rfl, rfl, rfl, rfl, rfl, rfl, ?_, rfl, rfl, hq1, hq2⟩
  rw [← builtPath_eq h trailing bu pu hb hp, ← hesc]
  rfl

/-- **End to end, from the strings the runtime holds**: the parse hypotheses of `build_exact` are
discharged for every base path `/b₁/…/bₘ[?query]` (clean, rooted — what `client.New` leaves — with
static segments of valid path bytes) and every pattern `/s₁/…/sₙ[/][?query]` of ordinary segments
whose static text consists of valid path bytes and whose placeholder names hold no `% ? #` or control
byte; the queries are arbitrary bytes without `#` and control bytes.  With valid static bytes the
class F10b is empty (`f10b_class`), so only F10a is excluded. -/
theorem build_exact_plain {params : List (Bytes × Bytes)} {bs : List Bytes} {psegs : List (List Tok)}
    (h : PathOk params bs psegs) (trailing : Bool) (bq pq : Bytes)
    (hbq : ∀ c ∈ bq, c ≠ 35 ∧ (c < 32 || c == 127) = false)
    (hpq : ∀ c ∈ pq, c ≠ 35 ∧ (c < 32 || c == 127) = false)
    (hst : ∀ s ∈ allSegs bs psegs, ∀ b, Tok.lit b ∈ s → ∀ c ∈ b, GoURLParse.validEncodedByte c = true)
    (hnm : ∀ s ∈ psegs, ∀ n, Tok.ph n ∈ s → ∀ c ∈ n, GoURLParse.PlainByte c)
    (ha : f10a (joinRooted ((allSegs bs psegs).map (encodeSeg params)) ++ slashIf trailing) = false)
    (caller : Values) (hc : (caller.map (·.1)).Nodup) (scheme host : Bytes) :
    ∃ u, build (basePathOf bs ++ GoURLParse.withQuery bq) (patternOf psegs trailing ++ GoURLParse.withQuery pq)
        params caller scheme host = some u ∧
      u.scheme = scheme ∧ u.host = host ∧ u.user = none ∧ u.opaq = [] ∧ u.fragment = [] ∧ u.forceQuery = false ∧
      GoURLParse.escapedPath u = joinRooted ((allSegs bs psegs).map (encodeSeg params)) ++ slashIf trailing ∧
      u.path = joinRooted ((allSegs bs psegs).map (decodeSeg params)) ++ slashIf trailing ∧
      (GoQuery.parseQuery u.rawQuery).ok = true ∧
      ∀ k, Values.get (GoQuery.parseQuery u.rawQuery).values k =
        transmitted ((Values.get caller k).or ((Values.get (GoQuery.parseQuery pq).values k).or
          (Values.get (GoQuery.parseQuery bq).values k))) := by
  obtain ⟨tb, hbe, hbp, hba⟩ := basePath_plain h fun b hb =>
    hst [Tok.lit b] (by simp [allSegs, hb]) b List.mem_cons_self
  obtain ⟨tp, hpe, hpp, hpa⟩ := pattern_plain h trailing (fun s hs => hst s (by simp [allSegs, hs])) hnm
  have hB := GoURLParse.parse_plain tb bq hbp hba hbq
  have hP := GoURLParse.parse_plain tp pq hpp hpa hpq
  rw [← hbe] at hB
  rw [← hpe] at hP
  obtain ⟨u, h1, h2, h3, h4, h5, h6, h7, h8, h9, _, h11, h12⟩ :=
    build_exact h trailing _ _ _ _ hB hP rfl rfl (by rw [builtPath_eq h trailing _ _ rfl rfl]; exact ha)
      (not_f10b_of_valid_static h trailing _ _ rfl rfl hst) caller hc scheme host
  exact ⟨u, h1, h2, h3, h4, h5, h6, h7, h8, h9, h11, h12⟩

/-- base path `/api`, pattern `/pets/{id}`, `id = "a/b"` meet the hypotheses -/
theorem example_pathOk : PathOk [([105, 100], [97, 47, 98])] [[97, 112, 105]] [[.lit [112, 101, 116, 115]], [.ph [105, 100]]] :=
  .of_toks (by decide) (by decide) (by decide) (by decide)

/-- `CreateHttpRequest` for base path `/api?x=1`, pattern `/pets/{id}?y=2`, `id = "a/b"` and the
caller's `x=9`: the request goes to `/api/pets/a%2Fb?x=9&y=2`, and its decoded path is `/api/pets/a/b`. -/
example : ∃ u, build [47, 97, 112, 105, 63, 120, 61, 49] [47, 112, 101, 116, 115, 47, 123, 105, 100, 125, 63, 121, 61, 50]
      [([105, 100], [97, 47, 98])] [([120], [[57]])] http [104] = some u ∧
    GoURLParse.escapedPath u = [47, 97, 112, 105, 47, 112, 101, 116, 115, 47, 97, 37, 50, 70, 98] ∧
    u.path = [47, 97, 112, 105, 47, 112, 101, 116, 115, 47, 97, 47, 98] ∧
    u.rawQuery = [120, 61, 57, 38, 121, 61, 50] := by
  obtain ⟨u, h1, _, _, _, _, _, _, h2, h3, h4, _⟩ := build_exact example_pathOk false
    [47, 97, 112, 105, 63, 120, 61, 49] [47, 112, 101, 116, 115, 47, 123, 105, 100, 125, 63, 121, 61, 50] _ _ rfl rfl
    (by decide) (by decide)
    (by rw [builtPath_eq example_pathOk false _ _ (by decide) (by decide)]; decide)
    (by rw [builtPath_eq example_pathOk false _ _ (by decide) (by decide)]; decide) [([120], [[57]])] (by decide) http [104]
  refine ⟨u, h1, ?_, ?_, ?_⟩
  · rw [h2]; decide
  · rw [h3]; decide
  · rw [h4]; decide

/-- the same request through `build_exact_plain`: nothing is assumed about `url.Parse` -/
example : ∃ u, build (basePathOf [[97, 112, 105]] ++ GoURLParse.withQuery [120, 61, 49])
      (patternOf [[.lit [112, 101, 116, 115]], [.ph [105, 100]]] false ++ GoURLParse.withQuery [121, 61, 50])
      [([105, 100], [97, 47, 98])] [([120], [[57]])] http [104] = some u ∧
    GoURLParse.escapedPath u = [47, 97, 112, 105, 47, 112, 101, 116, 115, 47, 97, 37, 50, 70, 98] ∧
    u.path = [47, 97, 112, 105, 47, 112, 101, 116, 115, 47, 97, 47, 98] := by
  -- the static text is valid because the built string is, and that `decide` evaluates
  have hst := (valid_built_iff example_pathOk false).mp (by decide)
  have hnm : ∀ s ∈ [[Tok.lit [112, 101, 116, 115]], [Tok.ph [105, 100]]], ∀ n, Tok.ph n ∈ s →
      ∀ c ∈ n, GoURLParse.PlainByte c := by
    intro s hs n hn
    simp only [List.mem_cons, List.not_mem_nil, or_false] at hs
    rcases hs with rfl | rfl <;> simp at hn
    subst hn
    decide
  obtain ⟨u, h1, _, _, _, _, _, _, h2, h3, _⟩ := build_exact_plain example_pathOk false [120, 61, 49] [121, 61, 50]
    (by decide) (by decide) hst hnm (by decide) [([120], [[57]])] (by decide) http [104]
  refine ⟨u, h1, ?_, ?_⟩
  · rw [h2]; decide
  · rw [h3]; decide

/-- `client.New` roots the base path and changes nothing else: a rooted base path (with whatever query
it carries) is held as given, and the result is always rooted. -/
theorem clientNew_base_path (b : Bytes) :
    (clientNewBasePath b).head? = some 47 ∧
    (b.head? = some 47 → clientNewBasePath b = b) ∧
    (b.head? ≠ some 47 → clientNewBasePath b = 47 :: b) ∧
    clientNewBasePath (clientNewBasePath b) = clientNewBasePath b := by
  unfold clientNewBasePath
  by_cases h : b.head? = some 47 <;> simp [h]

-- "api?x=//" is held as "/api?x=//" (the query text is not cleaned), "/a//b/" as given
example : clientNewBasePath [97, 112, 105, 63, 120, 61, 47, 47] = [47, 97, 112, 105, 63, 120, 61, 47, 47] ∧
    clientNewBasePath [47, 97, 47, 47, 98, 47] = [47, 97, 47, 47, 98, 47] := by decide

end RtVerif.C10
