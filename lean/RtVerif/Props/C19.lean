import RtVerif.Model.C19
import RtVerif.Lemmas.C19
/-
  1. `verify` is exact set comparison: `verify_none_iff`, `verify_lists`, `verify_sorted`,
     `verify_perm` (map iteration order is irrelevant).
  2. `validate` reports the first failing check of the regenerated list, with exactly the two
     differences (`validate_first_failure`), passes exactly when registrations coincide with the
     description (`validate_ok_iff`), and meets the Spec written from the property text
     (`validate_meets_spec`; `specV_exact` shows that Spec entails the "exactly when").
  3. Case variants of media types / methods and the order of the `Register*` calls do not matter
     (`build_case_variants`, `validate_call_order`).
  4. A validated API has every request-time lookup succeed (`valid_lookups`) and, over simple
     descriptions, answers every well-formed request without a registration failure
     (`valid_serves`); witnesses show each hypothesis is needed.
-/
namespace RtVerif.C19
open RtVerif Bytes

/-- `verify` passes exactly when registrations and expectations are equal as sets. -/
theorem verify_none_iff (s : String) (regs exps : List Bytes) :
    verify s regs exps = none ↔ ∀ x, x ∈ regs ↔ x ∈ exps := by
  have hc : verify s regs exps = none ↔ unregistered regs exps = [] ∧ unspecified regs exps = [] := by
    rw [verify_eq]
    split <;> simp [*]
  rw [hc, List.eq_nil_iff_forall_not_mem, List.eq_nil_iff_forall_not_mem]
  simp only [mem_unregistered, mem_unspecified, not_and, Decidable.not_not]
  exact ⟨fun h x => ⟨h.2 x, h.1 x⟩, fun h => ⟨fun x => (h x).2, fun x => (h x).1⟩⟩

theorem verify_some {s : String} {regs exps : List Bytes} {e : VErr} (h : verify s regs exps = some e) :
    e = ⟨s, unspecified regs exps, unregistered regs exps⟩ ∧
      (unregistered regs exps ≠ [] ∨ unspecified regs exps ≠ []) := by
  rw [verify_eq] at h
  split at h
  · cases h
  · cases h
    exact ⟨rfl, Decidable.not_and_iff_not_or_not.1 ‹_›⟩

/-- Otherwise the error names the section and its lists are exactly the two set differences. -/
theorem verify_lists {s : String} {regs exps : List Bytes} {e : VErr} (h : verify s regs exps = some e) :
    e.sect = s ∧
    (∀ x, x ∈ e.missingReg ↔ x ∈ exps ∧ x ∉ regs) ∧
    (∀ x, x ∈ e.missingSpec ↔ x ∈ regs ∧ x ∉ exps) ∧
    (e.missingReg ≠ [] ∨ e.missingSpec ≠ []) := by
  obtain ⟨rfl, hne⟩ := verify_some h
  exact ⟨rfl, fun _ => mem_unregistered, fun _ => mem_unspecified, hne⟩

/-- Both lists come out in Go string order, and no missing registration is named twice (nor a
superfluous one, when the registrations are map keys). -/
theorem verify_sorted {s : String} {regs exps : List Bytes} {e : VErr} (h : verify s regs exps = some e) :
    Sorted e.missingReg ∧ e.missingReg.Nodup ∧ Sorted e.missingSpec ∧ (regs.Nodup → e.missingSpec.Nodup) := by
  obtain ⟨rfl, -⟩ := verify_some h
  exact ⟨sorted_isort _, nodup_isort (nodup_dedup _), (sorted_isort _).filter _,
    fun hn => (nodup_isort hn).filter _⟩

/-- The result does not depend on the order in which Go iterates its maps. -/
theorem verify_perm {s : String} {regs regs' exps exps' : List Bytes}
    (hr : regs.Perm regs') (he : ∀ x, x ∈ exps ↔ x ∈ exps') :
    verify s regs exps = verify s regs' exps' := by
  have h1 : unspecified regs exps = unspecified regs' exps' := by
    unfold unspecified
    rw [isort_eq_of_perm hr]
    exact List.filter_congr fun x _ => by simp [he x]
  have h2 : unregistered regs exps = unregistered regs' exps' :=
    isort_eq_of_perm (dedup_perm_of_mem_iff fun x => by simp [he x, hr.mem_iff])
  rw [verify_eq, verify_eq, h1, h2]

theorem validateWith_ok_iff (a : Api) (d : Desc) (cs : List (String × String × String)) :
    validateWith a d cs = .ok ↔ ∀ c ∈ cs, checkOne a d c = .ok := by
  induction cs with
  | nil => simp [validateWith]
  | cons c t ih =>
    simp only [validateWith, List.mem_cons, forall_eq_or_imp]
    cases hc : checkOne a d c with
    | ok => simp [ih]
    | err e => simp
    | badFact w => simp

/-- `validate` returns the result of the FIRST check that does not pass: everything before it
passed, nothing after it was looked at. Holds for any list of checks. -/
theorem validate_first_failure (a : Api) (d : Desc) (cs : List (String × String × String)) (r : VResult)
    (h : validateWith a d cs = r) (hr : r ≠ .ok) :
    ∃ pre c post, cs = pre ++ c :: post ∧ (∀ c' ∈ pre, checkOne a d c' = .ok) ∧ checkOne a d c = r := by
  induction cs with
  | nil => exact absurd h.symm hr
  | cons c t ih =>
    by_cases hc : checkOne a d c = .ok
    · rw [validateWith, hc] at h
      obtain ⟨pre, c', post, e1, e2, e3⟩ := ih h
      exact ⟨c :: pre, c', post, by rw [e1]; rfl, List.forall_mem_cons.2 ⟨hc, e2⟩, e3⟩
    · refine ⟨[], c, t, rfl, by simp, ?_⟩
      rw [← h, validateWith]
      cases hc' : checkOne a d c <;> first | rfl | exact absurd hc' hc

/-- Every regenerated check is one of the five comparisons the property names, under its section
name (obligation on `Facts.validateChecks`: fails to compile if the code compares something else):
it runs `verify` on the registrations and expectations of that category. -/
theorem facts_known (a : Api) (d : Desc) :
    ∀ c ∈ Facts.validateChecks, ∃ cat, specCat a d c.1 = some cat ∧
      checkOne a d c = (match verify c.1 cat.regs cat.exps with
        | some e => .err e
        | none => .ok) := by
  intro c hc
  simp only [Facts.validateChecks, List.mem_cons, List.not_mem_nil, or_false] at hc
  rcases hc with rfl | rfl | rfl | rfl | rfl <;>
    exact ⟨_, by simp [specCat]; rfl, by simp [checkOne, regsOf, expsOf]; rfl⟩

/-- the section names of the five comparisons the property names -/
def specSections : List String := ["consumes", "produces", "operation", "auth scheme", "security definitions"]

/-- … all five are checked (obligation: fails if the code drops a check) and nothing else is -/
theorem facts_cover : (∀ s ∈ specSections, s ∈ checkOrder) ∧ ∀ s ∈ checkOrder, s ∈ specSections := by
  decide

/-- the remaining regenerated facts the model relies on -/
theorem facts_normalisation :
    Facts.registerConsumerNorm = "ToLower" ∧ Facts.registerProducerNorm = "ToLower" ∧
    Facts.registerOperationNorm = "ToUpper" ∧ Facts.registerAuthNorm = "" ∧
    Facts.opKeyFormat = "%s %s" :=
  ⟨rfl, rfl, rfl, rfl, rfl⟩

theorem catOk_iff_of_known {a : Api} {d : Desc} {c : String × String × String}
    (hc : c ∈ Facts.validateChecks) : checkOne a d c = .ok ↔ catOk a d c.1 = true := by
  obtain ⟨cat, h1, h2⟩ := facts_known a d c hc
  rw [h2, catOk, h1, setEq_iff, ← verify_none_iff c.1]
  cases verify c.1 cat.regs cat.exps <;> simp

theorem specCat_none {a : Api} {d : Desc} {s : String} (h : s ∉ specSections) : specCat a d s = none := by
  simp only [specSections, List.mem_cons, List.not_mem_nil, or_false, not_or] at h
  simp [specCat, h]

theorem coincide_iff_catOk (a : Api) (d : Desc) :
    (Coincide a d = true ∧ DescValid d = true) ↔ ∀ s ∈ specSections, catOk a d s = true := by
  simp only [specSections, List.mem_cons, List.not_mem_nil, or_false, forall_eq_or_imp, forall_eq, catOk,
    specCat, Coincide, DescValid, Bool.and_eq_true, setEq]
  constructor <;> intro h <;> simp_all

/-- **Exactness.** Validation succeeds exactly when the registered consumers, producers, operation
handlers and authenticators coincide with those the description requires, every declared security
definition is used (and every required scheme is declared). -/
theorem validate_ok_iff (a : Api) (d : Desc) :
    validate a d = .ok ↔ Coincide a d = true ∧ DescValid d = true := by
  unfold validate
  rw [validateWith_ok_iff, coincide_iff_catOk]
  constructor
  · intro h s hs
    obtain ⟨c, hc, rfl⟩ := List.mem_map.1 (facts_cover.1 s hs)
    exact (catOk_iff_of_known hc).1 (h c hc)
  · intro h c hc
    exact (catOk_iff_of_known hc).2 (h c.1 (facts_cover.2 c.1 (List.mem_map.2 ⟨c, hc, rfl⟩)))

def VResult.toOut : VResult → Option VOut
  | .ok => some .ok
  | .err e => some (.err e.sect e.missingReg e.missingSpec)
  | .badFact _ => none

theorem validate_failure {a : Api} {d : Desc} {r : VResult} (hv : validate a d = r) (hr : r ≠ .ok) :
    ∃ pre c post cat e, Facts.validateChecks = pre ++ c :: post ∧ (∀ c' ∈ pre, checkOne a d c' = .ok) ∧
      specCat a d c.1 = some cat ∧ verify c.1 cat.regs cat.exps = some e ∧ r = .err e := by
  obtain ⟨pre, c, post, hcs, hpre, hc⟩ := validate_first_failure a d _ _ hv hr
  obtain ⟨cat, h1, h2⟩ := facts_known a d c (by rw [hcs]; simp)
  rw [h2] at hc
  cases hver : verify c.1 cat.regs cat.exps with
  | none =>
    rw [hver] at hc
    exact absurd hc.symm hr
  | some e =>
    rw [hver] at hc
    exact ⟨pre, c, post, cat, e, hcs, hpre, h1, hver, hc.symm⟩

/-- **The model meets the Spec**, for every API object and every description: the result is `ok`
only if everything coincides, and otherwise it is the error of the first failing category (in the
order of the code's checks) naming every missing and every superfluous item. -/
theorem validate_meets_spec (a : Api) (d : Desc) :
    ∃ o, (validate a d).toOut = some o ∧ specV a d checkOrder o = true := by
  cases hv : validate a d with
  | ok =>
    refine ⟨.ok, rfl, ?_⟩
    have := (validate_ok_iff a d).1 hv
    simp [specV, this.1, this.2]
  | err e =>
    refine ⟨_, rfl, ?_⟩
    obtain ⟨pre, c, post, cat, e', hcs, hpre, h1, hver, he⟩ := validate_failure hv (by simp)
    cases he
    obtain ⟨hs, hmr, hms, hne⟩ := verify_lists hver
    simp only [specV, hs, h1, Bool.and_eq_true, decide_eq_true_eq, Bool.not_eq_true',
      Bool.and_eq_false_iff]
    have hord : checkOrder = pre.map (·.1) ++ c.1 :: post.map (·.1) := by simp [checkOrder, hcs]
    refine ⟨⟨⟨⟨?_, ?_⟩, ?_⟩, ?_⟩, hne.imp List.isEmpty_eq_false_iff.2 List.isEmpty_eq_false_iff.2⟩
    · rw [hord]
      simp
    · -- the categories in front of the failing one are those of the checks that passed
      rw [List.all_eq_true, hord]
      intro n hn
      obtain ⟨c', hc', rfl⟩ := List.mem_map.1
        (mem_takeWhile_prefix (fun x => x != c.1) (pre.map (·.1)) c.1 (post.map (·.1)) (by simp) n hn)
      exact (catOk_iff_of_known (by rw [hcs]; simp [hc'])).1 (hpre c' hc')
    · rw [setEq_iff]
      intro x
      rw [hmr x, mem_diff]
    · rw [setEq_iff]
      intro x
      rw [hms x, mem_diff]
  | badFact w =>
    obtain ⟨_, _, _, _, _, _, _, _, _, he⟩ := validate_failure hv (by simp)
    cases he

/-- The Spec entails the "exactly when" of the text: any result that meets it is `ok` iff the
registrations coincide with the (valid) description. -/
theorem specV_exact (a : Api) (d : Desc) (order : List String) (o : VOut) (h : specV a d order o = true) :
    o = .ok ↔ (Coincide a d = true ∧ DescValid d = true) := by
  cases o with
  | ok =>
    simp only [specV, Bool.and_eq_true] at h
    simp [h]
  | err s mr ms =>
    simp only [reduceCtorEq, false_iff]
    intro hco
    simp only [specV] at h
    split at h
    · exact absurd h (by simp)
    · rename_i c hcat
      simp only [Bool.and_eq_true, Bool.not_eq_true', Bool.and_eq_false_iff, setEq_iff] at h
      obtain ⟨⟨⟨_, hmr⟩, hms⟩, hne⟩ := h
      -- the named category is one of the five, so it coincides and both differences are empty
      have hs : s ∈ specSections :=
        Classical.byContradiction fun hn => by rw [specCat_none hn] at hcat; cases hcat
      have hc := (coincide_iff_catOk a d).1 hco s hs
      simp only [catOk, hcat, setEq_iff] at hc
      have e1 : mr = [] := List.eq_nil_iff_forall_not_mem.2 fun x hx =>
        (mem_diff.1 ((hmr x).1 hx)).2 ((hc x).2 (mem_diff.1 ((hmr x).1 hx)).1)
      have e2 : ms = [] := List.eq_nil_iff_forall_not_mem.2 fun x hx =>
        (mem_diff.1 ((hms x).1 hx)).2 ((hc x).1 (mem_diff.1 ((hms x).1 hx)).1)
      subst e1 e2
      simp at hne

/-- Over valid descriptions (every required scheme declared) the condition is literally the text's:
coincidence of the four registration kinds and "every declared security definition is used". -/
theorem validate_ok_iff_text (a : Api) (d : Desc) (hd : DescValid d = true) :
    validate a d = .ok ↔ Coincide a d = true := by
  rw [validate_ok_iff]
  simp [hd]

/-- A description requiring an undeclared scheme never validates, whatever is registered. -/
theorem undeclared_scheme_never_validates (a : Api) (d : Desc) (s : Bytes)
    (h1 : s ∈ d.reqSchemes) (h2 : s ∉ d.secDefs) : validate a d ≠ .ok := by
  intro h
  have := ((validate_ok_iff a d).1 h).2
  simp only [DescValid, subset_iff] at this
  exact h2 (this s h1)

/-- The API object after all `Register*` calls is the one the Spec speaks about (reading (1)):
the code's normalisation (regenerated facts) is lower-casing media types and upper-casing methods. -/
theorem build_eq (r : Regs) : build r = specApi r := by
  unfold build specApi
  rw [foldl_registerOperation, foldl_registerAuth, foldl_registerProducer, foldl_registerConsumer]

/-- **Case variants.** Registrations that differ only in the case of media types and of methods
build the same API object (hence validate and serve alike). Scheme names and paths are compared
as spelled. -/
theorem build_case_variants (r r' : Regs) (hj : r.jsonDefaults = r'.jsonDefaults)
    (hc : r.consumers.map toLower = r'.consumers.map toLower)
    (hp : r.producers.map toLower = r'.producers.map toLower)
    (ha : r.auths = r'.auths)
    (ho : r.operations.map (fun mp => (toUpper mp.1, mp.2)) = r'.operations.map (fun mp => (toUpper mp.1, mp.2))) :
    build r = build r' := by
  rw [build_eq, build_eq]
  unfold specApi
  rw [hj, hc, hp, ha, ho]

theorem checkOne_congr {a a' : Api} {d : Desc} (c : String × String × String)
    (h1 : a.consumers.Perm a'.consumers) (h2 : a.producers.Perm a'.producers)
    (h3 : a.auths.Perm a'.auths) (h4 : a.operations.Perm a'.operations) :
    checkOne a d c = checkOne a' d c :=
  regsOf_congr (β := VResult)
    (fun o => match o, expsOf d c.2.2 with
      | some regs, some exps =>
        match verify c.1 regs exps with
        | some e => .err e
        | none => .ok
      | _, _ => .badFact (c.2.1 ++ "/" ++ c.2.2))
    (fun h => by cases expsOf d c.2.2 <;> simp only [verify_perm h fun _ => Iff.rfl]) d c.2.1 h1 h2 h3 h4

/-- `validate` depends on the key sets only, not on the order the maps hold (or iterate) them in. -/
theorem validate_perm {a a' : Api} (d : Desc)
    (h1 : a.consumers.Perm a'.consumers) (h2 : a.producers.Perm a'.producers)
    (h3 : a.auths.Perm a'.auths) (h4 : a.operations.Perm a'.operations) :
    validate a d = validate a' d := by
  unfold validate
  generalize Facts.validateChecks = cs
  induction cs with
  | nil => rfl
  | cons c t ih => simp only [validateWith, checkOne_congr c h1 h2 h3 h4, ih]

/-- **Call order.** Permuting the `Register*` calls does not change the verdict of `Validate`. -/
theorem validate_call_order (r r' : Regs) (d : Desc) (hj : r.jsonDefaults = r'.jsonDefaults)
    (hc : r.consumers.Perm r'.consumers) (hp : r.producers.Perm r'.producers)
    (ha : r.auths.Perm r'.auths) (ho : r.operations.Perm r'.operations) :
    validate (build r) d = validate (build r') d := by
  obtain ⟨n1, n2, n3, n4⟩ := newApi_nodup r'.jsonDefaults
  apply validate_perm <;> rw [build_eq, build_eq] <;> unfold specApi <;> rw [hj] <;> simp only
  · exact foldl_addKey_perm _ n1 (hc.map _)
  · exact foldl_addKey_perm _ n2 (hp.map _)
  · exact foldl_addKey_perm _ n3 ha
  · exact foldl_addKey_perm _ n4 (ho.map _)

/-- method keys are upper-case (what `RegisterOperation` leaves in the map) -/
def Normalised (a : Api) : Prop := ∀ mp ∈ a.operations, toUpper mp.1 = mp.1

theorem mem_build_operations {r : Regs} {mp : Bytes × Bytes} :
    mp ∈ (build r).operations ↔ ∃ q ∈ r.operations, (toUpper q.1, q.2) = mp := by
  rw [build_eq]
  simp only [specApi, mem_foldl_addKey, List.mem_map]
  cases r.jsonDefaults <;> simp [newApi]

theorem build_normalised (r : Regs) : Normalised (build r) := by
  intro mp hmp
  obtain ⟨q, _, rfl⟩ := mem_build_operations.1 hmp
  exact toUpper_idem _

theorem build_tokens (r : Regs) (h : ∀ mp ∈ r.operations, (32 : UInt8) ∉ mp.1) :
    MethodsAreTokens (build r) = true := by
  simp only [MethodsAreTokens, List.all_eq_true, Bool.not_eq_true', contains_false_iff]
  intro mp hmp
  obtain ⟨q, hq, rfl⟩ := mem_build_operations.1 hmp
  exact toUpper_no_space (h q hq)

/-- both constructors of the untyped API keep their defaults registered, whatever is registered later -/
theorem build_defaults (r : Regs) : DefaultsRegistered (build r) = true := by
  have hno : (59 : UInt8) ∉ jsonMime := by decide
  rw [build_eq]
  cases hj : r.jsonDefaults <;>
    simp [DefaultsRegistered, specApi, newApi, hj, mem_foldl_addKey, contains_false_iff, hno]

/-- **Lookups.** In an API that passes validation, for every declared operation: the handler lookup
of `AddRoute` succeeds (the operation is routed), every declared parameter-free consumes / produces
type has its consumer / producer in the route's table, and every scheme named in a security
requirement has its authenticator in the route's table. -/
theorem valid_lookups (a : Api) (d : Desc) (op : Op)
    (hv : validate a d = .ok) (hop : OpHyp d op = true)
    (ht : MethodsAreTokens a = true) (hn : Normalised a) :
    handlerFor a op.method op.path = true ∧
    (∀ mt ∈ op.consumesFor, normalizeOffer mt = mt → mt ∈ routeConsumers a op) ∧
    (∀ mt ∈ op.producesFor, normalizeOffer mt = mt → mt ∈ routeProducers a op) ∧
    (∀ alt ∈ op.secReqs, altComplete a d alt = true) := by
  obtain ⟨hco, hdv⟩ := (validate_ok_iff a d).1 hv
  simp only [Coincide, Bool.and_eq_true, setEq_iff, subset_iff] at hco
  obtain ⟨⟨⟨⟨hcons, hprod⟩, hops⟩, hauth⟩, hdefs⟩ := hco
  simp only [DescValid, subset_iff] at hdv
  simp only [OpHyp, Bool.and_eq_true, subset_iff, List.all_eq_true, Bool.or_eq_true, decide_eq_true_eq,
    Bool.not_eq_true', contains_false_iff, beq_iff_eq] at hop
  obtain ⟨⟨⟨⟨⟨hcf, hpf⟩, hsr⟩, hkey⟩, hns⟩, hupper⟩ := hop
  refine ⟨?_, ?_, ?_, ?_⟩
  · have := (hops _).2 hkey
    simp only [List.mem_map] at this
    obtain ⟨mp, hmp, hk⟩ := this
    have hmp1 : (32 : UInt8) ∉ mp.1 := by
      simp only [MethodsAreTokens, List.all_eq_true, Bool.not_eq_true', contains_false_iff] at ht
      exact ht mp hmp
    simp only [opKey] at hk
    obtain ⟨e1, e2⟩ := key_inj (toUpper_no_space hmp1) (toUpper_no_space hns) hk
    simp only [handlerFor, decide_eq_true_eq]
    rw [← e1, ← e2, hn mp hmp]
    exact hmp
  · intro mt hmt hno
    exact mem_routeTable (mem_withDefault.2 (.inl hmt)) hno ((hcons mt).2 (hcf mt hmt))
  · intro mt hmt hno
    exact mem_routeTable (mem_withDefault.2 (.inl hmt)) hno ((hprod mt).2 (hpf mt hmt))
  · intro alt halt
    simp only [altComplete, List.all_eq_true, Bool.or_eq_true, decide_eq_true_eq]
    intro s hs
    rcases hsr alt halt s hs with h | h
    · exact Or.inl h
    · right
      simp only [altAuths, mem_isort, mem_dedup, List.mem_filter, Bool.and_eq_true, decide_eq_true_eq]
      exact ⟨hs, hdv s h, (hauth s).2 h⟩

/-- **Serving.** Over a description whose media types are lower-case, parameter-free and
wildcard-free, an API that passes validation answers a well-formed request to any declared
operation — body media type among the types the route admits (declared consumes, or the API
default), negotiated format among the types the route offers (declared produces, or the API
default) — without failing for lack of a handler, authenticator, consumer or producer. -/
theorem valid_serves (a : Api) (d : Desc) (op : Op) (ct : Option Bytes) (format : Bytes)
    (hv : validate a d = .ok) (hop : OpHyp d op = true)
    (ht : MethodsAreTokens a = true) (hn : Normalised a) (hdr : DefaultsRegistered a = true)
    (hs : Simple d = true)
    (hct : ∀ c, ct = some c → c ∈ routeConsumes a op)
    (hf : format ∈ routeProduces a op) :
    serveClass a d op ct format = .ok := by
  obtain ⟨h1, h2, h3, h4⟩ := valid_lookups a d op hv hop ht hn
  obtain ⟨sc, sp⟩ := simple_no_semicolon hs
  have hop' := hop
  simp only [OpHyp, Bool.and_eq_true, subset_iff] at hop'
  obtain ⟨⟨⟨⟨⟨hcf, hpf⟩, _⟩, _⟩, _⟩, _⟩ := hop'
  simp only [DefaultsRegistered, Bool.and_eq_true, Bool.or_eq_true, decide_eq_true_eq,
    Bool.not_eq_true', contains_false_iff] at hdr
  have hall : op.secReqs.all (altComplete a d) = true := List.all_eq_true.2 h4
  have hcons : consumerMissing a op ct = false := by
    cases ct with
    | none => rfl
    | some c =>
      have hc : c ∈ routeConsumers a op :=
        admitted_in_table (fun mt h => h2 mt h (normalizeOffer_of_no_semicolon (sc mt (hcf mt h)))) hdr.1 (hct c rfl)
      simp [consumerMissing, hc]
  have hprod : format ∈ routeProducers a op :=
    admitted_in_table (fun mt h => h3 mt h (normalizeOffer_of_no_semicolon (sp mt (hpf mt h)))) hdr.2 hf
  simp [serveClass, h1, hall, hcons, hprod]

/-- **Headline (second sentence of the property), for the API objects the untyped package builds.**
Whatever the `Register*` calls were (methods being tokens), if `Validate` passes over a simple
description then a well-formed request to a declared operation is answered `ok`. -/
theorem validated_api_serves (r : Regs) (d : Desc) (op : Op) (ct : Option Bytes) (format : Bytes)
    (hm : ∀ mp ∈ r.operations, (32 : UInt8) ∉ mp.1)
    (hv : validate (build r) d = .ok) (hop : OpHyp d op = true) (hs : Simple d = true)
    (hct : ∀ c, ct = some c → c ∈ routeConsumes (build r) op)
    (hf : format ∈ routeProduces (build r) op) :
    serveClass (build r) d op ct format = .ok :=
  valid_serves (build r) d op ct format hv hop (build_tokens r hm) (build_normalised r)
    (build_defaults r) hs hct hf

section witnesses

def bGET : Bytes := [71, 69, 84]
def bPets : Bytes := [47, 112]                         -- "/p"
def bTP : Bytes := [116, 47, 112]                      -- "t/p"
def bTPparam : Bytes := [116, 47, 112, 59, 99]         -- "t/p;c"
def bKey : Bytes := [107]                              -- "k"
def bGETpets : Bytes := [71, 69, 84, 32, 47, 112]      -- "GET /p"

/-- one operation `GET /p` consuming and producing `t/p`, secured by scheme `k` -/
def wDesc : Desc := ⟨[bTP], [bTP], [bKey], [bGETpets], [bKey]⟩
def wOp : Op := ⟨bGET, bPets, [bTP], [bTP], [[bKey]]⟩
/-- registered with case variants: `T/P`, method `get` -/
def wRegs : Regs := ⟨false, [[84, 47, 80]], [bTP], [bKey], [([103, 101, 116], bPets)]⟩

/-- the hypotheses of `valid_serves` are met by a concrete non-trivial API … -/
example : validate (build wRegs) wDesc = .ok ∧ OpHyp wDesc wOp = true ∧
    MethodsAreTokens (build wRegs) = true ∧ DefaultsRegistered (build wRegs) = true ∧
    Simple wDesc = true ∧ bTP ∈ routeConsumes (build wRegs) wOp ∧ bTP ∈ routeProduces (build wRegs) wOp := by
  rw [validate_ok_iff, build_eq]
  decide

/-- `validate_ok_iff_text` / `undeclared_scheme_never_validates`: a valid description, and one that is not -/
example : DescValid wDesc = true ∧ validate (build wRegs) wDesc = .ok ∧ Coincide (build wRegs) wDesc = true := by
  rw [validate_ok_iff, build_eq]
  decide
example : bTP ∈ ({ wDesc with reqSchemes := [bKey, bTP] } : Desc).reqSchemes ∧ bTP ∉ wDesc.secDefs := by decide

/-- `validate_call_order` / `build_case_variants`: a permuted, differently-cased call sequence -/
example :
    let r : Regs := ⟨true, [bTP, [97, 47, 98]], [], [bKey, bTP], [(bGET, bPets), ([112, 117, 116], bPets)]⟩
    let r' : Regs := ⟨true, [[65, 47, 66], [84, 47, 80]], [], [bTP, bKey], [([80, 85, 84], bPets), ([103, 101, 116], bPets)]⟩
    r.consumers.map toLower ≠ r'.consumers.map toLower ∧   -- not the same sequence …
    (build r).consumers ≠ (build r').consumers ∧            -- … nor the same key order …
    validate (build r) wDesc = validate (build r') wDesc := by  -- … yet the same verdict
  decide

/-- … and the omission of any one registration is reported in its category, by name -/
theorem omission_is_reported :
    validate (build { wRegs with auths := [] }) wDesc = .err ⟨"auth scheme", [], [bKey]⟩ ∧
    validate (build { wRegs with consumers := [] }) wDesc = .err ⟨"consumes", [], [bTP]⟩ ∧
    validate (build { wRegs with producers := [bTP, bTPparam] }) wDesc = .err ⟨"produces", [bTPparam], []⟩ ∧
    validate (build { wRegs with operations := [] }) wDesc = .err ⟨"operation", [], [bGETpets]⟩ ∧
    validate (build wRegs) { wDesc with secDefs := [bKey, bTP] } = .err ⟨"security definitions", [bTP], []⟩ := by
  decide

/-- "parameter-free" is needed: a description consuming `t/p;c` validates against the registration
`t/p;c`, yet the route's consumer table (keyed by normalised offers) holds nothing for the request's
media type `t/p` — the request fails with "no consumer registered". -/
theorem parameter_free_needed :
    let d : Desc := { wDesc with reqConsumes := [bTPparam] }
    let op : Op := { wOp with consumesFor := [bTPparam] }
    let a := build { wRegs with consumers := [bTPparam] }
    validate a d = .ok ∧ OpHyp d op = true ∧ Simple d = false ∧
      serveClass a d op (some bTP) bTP = .noconsumer := by
  simp only [validate_ok_iff, build_eq]
  decide

/-- "methods are tokens" is needed: `RegisterOperation("GET /X", "y")` has the same key as the
declared operation `GET` `/X y`, validation passes, the operation is not routed. -/
theorem method_token_needed :
    let d : Desc := ⟨[], [], [], [[71, 69, 84, 32, 47, 88, 32, 121]], []⟩
    let op : Op := ⟨bGET, [47, 88, 32, 121], [], [], []⟩
    let a := build ⟨false, [], [], [], [([71, 69, 84, 32, 47, 88], [121])]⟩
    validate a d = .ok ∧ OpHyp d op = true ∧ MethodsAreTokens a = false ∧
      serveClass a d op none [] = .noroute := by
  simp only [validate_ok_iff, build_eq]
  decide

end witnesses

end RtVerif.C19
