import RtVerif.Lemmas.C14
import RtVerif.Base.GoURL
/-
  Vocabulary: `pipeline i cb` = the client builds the request for input `i` (parameters already
  written, the operation's writer `i.op`, the runtime's default `i.dflt`), the transport hands it over,
  the server authenticator `i.srv` is called with parameter kind `i.pk` and application callback `cb`.
  `specOk` is the Spec of RtVerif/Model/C14.lean, written from the property text.
-/
namespace RtVerif.C14
open RtVerif Bytes

/-- `DecodeString (EncodeToString b) = b` for every byte string, std and URL alphabets. -/
theorem base64_roundtrip (url : Bool) (b : Bytes) : Base64.decode url (Base64.encode url b) = some b :=
  Base64.decode_encode url b

/-- support for the transport assumption on query strings and urlencoded bodies: every name and value
(any bytes) survives `url.QueryEscape` followed by `url.QueryUnescape` -/
theorem query_component_roundtrip (s : Bytes) : GoURL.queryUnescape (GoURL.queryEscape s) = some s :=
  GoURL.unescape_escape true s

/-- MAIN: for every request, writer configuration, authenticator, parameter kind and callback, what the
modelled client/transport/server pipeline does satisfies the Spec (client half: the effective writers'
credentials — and nothing else — are carried at their places, per the default rule; server half: the
callback gets exactly the carried credential and the required scopes, 'not applicable' exactly when
none is carried, principal and error are the callback's). -/
theorem pipeline_meets_spec (i : Input) (cb : Callback) : specOk i cb (pipeline i cb) = true :=
  pipeline_spec i cb

/-- The server half holds for EVERY request view net/http can produce (not only client-built ones). -/
theorem server_meets_spec (srv : Server) (pk : ParamKind) (cb : Callback) (v : View) (hwf : v.wf = true) :
    match serve srv pk cb v with
    | .out o => specServer srv pk cb v o = true
    | .panic => specScopes srv pk = none :=
  serve_spec srv pk cb v hwf

example : View.wf { auth := [([66, 101, 97, 114, 101, 114, 32, 116] : Bytes)], keyHdr := [], keyQuery := [], tokQuery := [], tokBody := [([98] : Bytes)],
                    ctype := sMultipart } = true := by decide

/-- the header value `client.BasicAuth` writes is recovered by `http.Request.BasicAuth` -/
theorem basic_value_recovered (u p : Bytes) (hu : u.contains 58 = false) :
    parseBasicAuth (basicValue u p) = some (u, p) := by
  rw [parseBasicAuth_eq_carried]; exact carriedBasic_basicValue u p hu

/-- Basic: any user without ':' and ANY password (colons, non-ASCII, empty) reach the callback exactly,
whatever else the parameters had put into the request, for all four `BasicAuth*` variants and both
accepted parameter kinds. -/
theorem basic_roundtrip (pre : CReq) (dflt : Option Writer) (u p : Bytes) (hu : u.contains 58 = false)
    (realm : Option Bytes) (ctx : Bool) (pk : ParamKind) (hpk : pk ≠ .other) (cb : Callback) :
    ∃ v, pipeline ⟨pre, some (.atom (.basic u p)), dflt, .basic realm ctx, pk⟩ cb =
      .done v (.out { applies := true, principal := (cb [u, p] []).1, err := (cb [u, p] []).2,
                      called := some ([u, p], []),
                      failedBasic := if (cb [u, p] []).2 then realmOf realm else [] }) := by
  -- the view is the one the pipeline hands over; what is claimed is the authenticator's result on it
  apply Exists.intro
  simp only [pipeline, authenticate, applyWriter, applyAtom, serve_basic hpk]
  congr 2
  -- the transport delivers the header that was set; trimming leaves it as it is; the parse recovers (u, p)
  simp only [serveBasic, observe, transport, values_setKey, ↓reduceIte, List.map, get1, List.headD]
  rw [basicValue_trim, basic_value_recovered u p hu]

example : ([117, 115, 195, 169, 114] : Bytes).contains 58 = false := by decide

/-- what the Spec means by "the request carries a Basic credential (u, p)": the Authorization value is
`Basic␠` in any letter case followed by the base64 (std alphabet, padded; CR/LF ignored, as Go does) of
`u:p`, where `u` is everything before the first colon -/
theorem basic_credential_meaning (a u p : Bytes) :
    carriedBasic a = some (u, p) ↔
      ∃ scheme enc, a = scheme ++ enc ∧ equalFold scheme [66, 97, 115, 105, 99, 32] = true ∧
        Base64.decode false enc = some (u ++ 58 :: p) ∧ u.contains 58 = false :=
  carriedBasic_iff a u p

/-- outside the quantifier: with a ':' in the user name the split moves to the first colon -/
theorem basic_colon_in_user_splits_early :
    parseBasicAuth (basicValue [97, 58, 98] [99]) = some ([97], [98, 58, 99]) := by decide

/-- API key in a header: a non-empty value without surrounding whitespace reaches the callback exactly
when the server's key name has the same canonical form as the client's (in particular: the same
valid field name in any letter case, `apikey_header_name_case`), for `header` in any case on the
server side. -/
theorem apikey_header_roundtrip (pre : CReq) (dflt : Option Writer) (n n' inn' v : Bytes)
    (hn : canon n' = canon n) (hin : (toLower inn' == sHeader) = true)
    (hv : v ≠ []) (hf : fieldValue v = true) (ctx : Bool) (pk : ParamKind) (hpk : pk ≠ .other) (cb : Callback) :
    ∃ w, pipeline ⟨pre, some (.atom (.apiKey n false v)), dflt, .apiKey n' inn' ctx, pk⟩ cb =
      .done w (.out { applies := true, principal := (cb [v] []).1, err := (cb [v] []).2, called := some ([v], []) }) := by
  apply Exists.intro
  simp only [pipeline, authenticate, applyWriter, applyAtom, serve_apiKey true hpk hin (by simp)]
  congr 2
  simp only [serveApiKey, observe, transport, hn, values_setKey, ↓reduceIte, List.map, get1, List.headD]
  rw [trimOWS_of_fieldValue v hf]
  simp [hv]

example : canon ([120, 45, 97, 112, 105, 45, 75, 69, 89] : Bytes) = canon ([88, 45, 65, 112, 105, 45, 75, 101, 121] : Bytes) ∧ (toLower ([72, 101, 97, 100, 101, 114] : Bytes) == sHeader) = true ∧
    fieldValue ([107, 32, 49] : Bytes) = true := by decide

/-- valid header field names that differ only in letter case have the same canonical form -/
theorem apikey_header_name_case (a b : Bytes) (ha : a.all isTokenByte = true) (h : equalFold a b = true) :
    canon a = canon b := canon_equalFold a b ha h

example : ([120, 45, 97, 112, 105, 45, 107, 101, 121] : Bytes).all isTokenByte = true ∧ equalFold ([120, 45, 97, 112, 105, 45, 107, 101, 121] : Bytes) ([88, 45, 65, 80, 73, 45, 75, 101, 121] : Bytes) = true := by decide

/-- API key in the query: any non-empty value (any bytes) reaches the callback exactly when the server
looks the same parameter name up. -/
theorem apikey_query_roundtrip (pre : CReq) (dflt : Option Writer) (n inn' v : Bytes)
    (hin : (toLower inn' == sQuery) = true) (hv : v ≠ []) (ctx : Bool) (pk : ParamKind) (hpk : pk ≠ .other)
    (cb : Callback) :
    ∃ w, pipeline ⟨pre, some (.atom (.apiKey n true v)), dflt, .apiKey n inn' ctx, pk⟩ cb =
      .done w (.out { applies := true, principal := (cb [v] []).1, err := (cb [v] []).2, called := some ([v], []) }) := by
  have hnh : (toLower inn' == sHeader) = false := by
    rw [beq_iff_eq.mp hin]; decide
  apply Exists.intro
  simp only [pipeline, authenticate, applyWriter, applyAtom, serve_apiKey false hpk hnh fun _ => hin]
  congr 2
  simp [serveApiKey, observe, transport, values_setKey, get1, hv]

/-- Bearer: a non-empty token without surrounding whitespace written by `BearerToken` reaches the callback
exactly, together with the required scopes unchanged — whatever `access_token` the query or the form
body also carry (header precedence through the whole pipeline). -/
theorem bearer_roundtrip (pre : CReq) (dflt : Option Writer) (t name : Bytes) (ht : t ≠ []) (hf : fieldValue t = true)
    (ctx : Bool) (scopes : List Bytes) (cb : Callback) :
    ∃ v, pipeline ⟨pre, some (.atom (.bearer t)), dflt, .bearer name ctx, .scopedReq scopes⟩ cb =
      .done v (.out { applies := true, principal := (cb [t] scopes).1, err := (cb [t] scopes).2,
                      called := some ([t], scopes), oauthName := name }) := by
  apply Exists.intro
  simp only [pipeline, authenticate, applyWriter, applyAtom, serve]
  congr 2
  have hh : bearerFromHeader ctx (bearerValue t) = t := by
    simp [bearerFromHeader, bearerPrefix_eq, clientBearerPrefix_eq, bearerValue_eq, hasPrefix]
  simp [serveBearer, bearerToken, tokenAfterQuery, observe, transport, values_setKey, bearerValue_trim t ht hf, get1, hh, ht]

example : fieldValue ([97, 32, 98, 32, 32, 99, 195, 169] : Bytes) = true := by decide

/-- `applies = false` ⇔ the request carries no credential of the authenticator's kind (for every
view; parameter kinds the property speaks about). -/
theorem not_applicable_iff_no_credential (srv : Server) (pk : ParamKind) (cb : Callback) (v : View) (o : SOut)
    (hwf : v.wf = true) (hpk : (specScopes srv pk).isSome = true) (hs : serve srv pk cb v = .out o) :
    o.applies = false ↔ specCred srv v = none := by
  have h := serve_spec srv pk cb v hwf
  rw [hs] at h
  simp only [specServer, Bool.and_eq_true] at h
  obtain ⟨_, h2⟩ := h
  cases hsc : specScopes srv pk with
  | none => rw [hsc] at hpk; cases hpk
  | some sc => cases hc : specCred srv v <;> simp_all

example : (specScopes (.bearer [] false) (.scopedReq [[97]])).isSome = true := by decide

/-- The authenticator never returns a principal (or error) other than the callback's: either the
callback was not called and the result is (false, nil, nil), or it was called once with `(a, s)` and
the result is (true, its principal, its error). -/
theorem principal_is_callbacks (srv : Server) (pk : ParamKind) (cb : Callback) (v : View) (o : SOut)
    (hs : serve srv pk cb v = .out o) :
    (o.called = none ∧ o.applies = false ∧ o.principal = [] ∧ o.err = false) ∨
    (∃ a s, o.called = some (a, s) ∧ o.applies = true ∧ o.principal = (cb a s).1 ∧ o.err = (cb a s).2) := by
  rcases serve_out hs with rfl | ⟨_, rfl⟩ | ⟨b, rfl⟩ | ⟨_, _, _, rfl⟩
  · exact .inl ⟨rfl, rfl, rfl, rfl⟩
  · unfold serveBasic
    split
    · exact .inr ⟨_, _, rfl, rfl, rfl, rfl⟩
    · exact .inl ⟨rfl, rfl, rfl, rfl⟩
  · simp only [serveApiKey]
    generalize (if b = true then get1 v.keyHdr else get1 v.keyQuery) = token
    split
    · exact .inl ⟨rfl, rfl, rfl, rfl⟩
    · exact .inr ⟨_, _, rfl, rfl, rfl, rfl⟩
  · unfold serveBearer
    split
    · exact .inl ⟨rfl, rfl, rfl, rfl⟩
    · exact .inr ⟨_, _, rfl, rfl, rfl, rfl⟩

/-- The required scopes of the operation are handed to the callback unchanged. -/
theorem scopes_unchanged (name : Bytes) (ctx : Bool) (scopes : List Bytes) (cb : Callback) (v : View) (o : SOut)
    (a s : List Bytes) (hs : serve (.bearer name ctx) (.scopedReq scopes) cb v = .out o)
    (hc : o.called = some (a, s)) : s = scopes := by
  simp only [serve, SrvResult.out.injEq] at hs
  subst hs
  unfold serveBearer at hc
  split at hc
  · cases hc
  · simp only [Option.some.injEq, Prod.mk.injEq] at hc; exact hc.2.symm

/-- the token the modelled `BearerAuth`/`BearerAuthCtx` settle on is the one named by the property's
precedence rule (`specBearer`: header, else query, else form body) -/
theorem bearer_token_precedence (ctx : Bool) (v : View) (hwf : v.wf = true) :
    (if (bearerToken ctx v).isEmpty then none else some (bearerToken ctx v)) = specBearer v :=
  bearerToken_spec ctx v hwf

/-- 1. a Bearer credential in the Authorization header wins over everything else -/
theorem bearer_header_first (v : View) (t : Bytes) (h : carriedBearer (get1 v.auth) = some t) : specBearer v = some t := by
  simp [specBearer, h, firstSome]

/-- 2. without one, a non-empty `access_token` query parameter wins over the form body -/
theorem bearer_query_second (v : View) (t : Bytes) (h : carriedBearer (get1 v.auth) = none)
    (hq : nonEmptyFirst v.tokQuery = some t) : specBearer v = some t := by
  simp [specBearer, h, hq, firstSome]

/-- 3. without either, the form body's `access_token` (urlencoded or multipart) is the token; if that is
missing too the request carries no bearer credential -/
theorem bearer_form_third (v : View) (h : carriedBearer (get1 v.auth) = none) (hq : nonEmptyFirst v.tokQuery = none) :
    specBearer v = nonEmptyFirst v.tokBody := by
  simp only [specBearer, h, hq, firstSome]
  cases nonEmptyFirst v.tokBody <;> rfl

/-- other schemes in `Authorization` (anything not starting with `Bearer␠`, e.g. `Basic …`, and also the
lower-case spelling `bearer …`) carry no bearer credential: the lookup moves on to query and form -/
theorem bearer_other_scheme_ignored (ctx : Bool) (h : Bytes) (hp : hasPrefix h [66, 101, 97, 114, 101, 114, 32] = false) :
    carriedBearer h = none ∧ bearerFromHeader ctx h = [] := by
  constructor
  · simp only [carriedBearer, hasPrefix] at hp ⊢; simp [hp]
  · simp only [bearerFromHeader, bearerPrefix_eq, clientBearerPrefix_eq, hp, Bool.false_eq_true, ↓reduceIte]

example : hasPrefix ([66, 97, 115, 105, 99, 32, 100, 84, 112, 119] : Bytes) [66, 101, 97, 114, 101, 114, 32] = false ∧
    hasPrefix ([98, 101, 97, 114, 101, 114, 32, 97, 98, 99] : Bytes) [66, 101, 97, 114, 101, 114, 32] = false := by decide

/-- F14a (repaired in the code by reading `PostFormValue`): under the `FormValue` reading (mode 1) an
empty `access_token` in the query hides the token of a multipart body — the Spec's token is not found. -/
theorem formValue_reading_misses_multipart_token :
    ∃ v : View, v.wf = true ∧ specBearer v = some [116] ∧ formLookup 1 v = [] ∧ formLookup 0 v = [116] :=
  ⟨{ auth := [], keyHdr := [], keyQuery := [], tokQuery := [[]], tokBody := [[116]], ctype := sMultipart }, by decide⟩

/-- an operation with a writer of its own (even `PassThroughAuth`) never gets the default -/
theorem own_writer_excludes_default (w : Writer) (dflt : Option Writer) (r : CReq) :
    authenticate (some w) dflt r = applyWriter r w := rfl

/-- no writer of its own and no (non-empty) Authorization header set by the parameters: the default applies -/
theorem default_applied (d : Writer) (r : CReq) (h : get1 (values r.header sAuthorization) = []) :
    authenticate none (some d) r = applyWriter r d := by
  simp [authenticate, authKey_eq, h]

/-- an Authorization header already set: the default steps aside and the request is left as it is -/
theorem default_skipped (d : Writer) (r : CReq) (h : get1 (values r.header sAuthorization) ≠ []) :
    authenticate none (some d) r = some r := by
  simp [authenticate, authKey_eq, h]

/-- no default configured: nothing is added -/
theorem no_default_nothing_added (r : CReq) : authenticate none none r = some r := rfl

/-- the Spec's default rule, as an equivalence: the default's writers are the ones in effect iff the
operation has none of its own and no Authorization header is set (for a default that writes anything) -/
theorem default_in_effect_iff (pre : CReq) (op : Option Writer) (d : Writer) (srv : Server) (pk : ParamKind)
    (hd : d.atoms ≠ []) (hop : ∀ w, op = some w → w.atoms ≠ d.atoms) :
    specEffective ⟨pre, op, some d, srv, pk⟩ = d.atoms ↔
      (op = none ∧ nonEmptyFirst (values pre.header sAuthorization) = none) := by
  cases op with
  | some w =>
    simp only [specEffective, reduceCtorEq, false_and, iff_false]
    exact hop w rfl
  | none =>
    simp only [specEffective, true_and]
    cases h : nonEmptyFirst (values pre.header sAuthorization) with
    | none => simp
    | some x => simp only [Option.isSome_some, ↓reduceIte, reduceCtorEq, iff_false]; exact fun e => hd e.symm

example : (Writer.atom (.bearer [116])).atoms ≠ [] := by decide

end RtVerif.C14
