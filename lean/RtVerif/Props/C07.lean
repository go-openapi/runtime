import RtVerif.Model.C07
import RtVerif.Lemmas.C07
import RtVerif.Lemmas.C07Mono
/-
  The model (`negotiateContentType`, a transcription of the Go double loop with its `bestQ`,
  `bestWild` bookkeeping) is shown equal to the declarative `specChoice` for every Accept header,
  offer list and default; `specChoice` is then characterised: the result is an offer or the
  default, it is a *maximal* candidate for (quality, specificity), every candidate in front of it
  is strictly worse, ranges with q = 0 are never candidates, and an absent header selects the
  first offer.
-/
namespace RtVerif.C07
open RtVerif Bytes

/-- The Go double loop computes the declarative choice — all headers, offers, defaults. -/
theorem negotiate_eq_spec (specs : List Spec) (offers : List Bytes) (d : Bytes) :
    negotiateContentType specs offers d = specChoice specs offers d := by
  cases offers with
  | nil => rfl
  | cons o os =>
    simp only [negotiateContentType, specChoice]
    split
    · rfl
    · rw [foldl_stepOffer]
      cases firstMax (candidates specs (o :: os)) <;> rfl

/-- Same, from header lines (parsing is total: `parseAccept` is a terminating function). -/
theorem negotiate_header_eq_spec (lines offers : List Bytes) (d : Bytes) :
    negotiateContentType (parseAccept lines) offers d = specChoice (parseAccept lines) offers d :=
  negotiate_eq_spec _ _ _

theorem firstMax_eq_none {l : List Cand} : firstMax l = none ↔ l = [] := by
  cases l with
  | nil => simp [firstMax]
  | cons c cs => rw [firstMax_cons]; cases firstMax cs <;> simp [pick]; split <;> simp

theorem firstMax_spec {l : List Cand} {m : Cand} (h : firstMax l = some m) :
    ∃ pre post, l = pre ++ m :: post ∧ (∀ c ∈ pre, m.better c = true) ∧ ∀ c ∈ l, c.better m = false := by
  have irrefl : ∀ x : Cand, x.better x = false := fun x => by
    rw [Bool.eq_false_iff, ne_eq, better_iff]; omega
  induction l generalizing m with
  | nil => cases h
  | cons c cs ih =>
    rw [firstMax_cons] at h
    cases hm : firstMax cs with
    | none =>
      rw [hm] at h
      cases h
      rw [firstMax_eq_none.mp hm]
      exact ⟨[], [], rfl, nofun, by simpa using irrefl c⟩
    | some m' =>
      obtain ⟨pre, post, rfl, hpre, hmax⟩ := ih hm
      rw [hm, pick] at h
      split at h <;> cases h
      · -- the later maximum is strictly better than `c`: it stays, with `c` in front of it
        rename_i hbc
        refine ⟨c :: pre, post, rfl, List.forall_mem_cons.mpr ⟨hbc, hpre⟩,
          List.forall_mem_cons.mpr ⟨?_, hmax⟩⟩
        rw [better_iff] at hbc
        rw [Bool.eq_false_iff, ne_eq, better_iff]
        omega
      · -- otherwise `c` wins: nothing behind it is better than `m'`, which is not better than `c`
        rename_i hbc
        exact ⟨[], _, rfl, nofun, List.forall_mem_cons.mpr
          ⟨irrefl c, fun x hx => not_better_trans (Bool.eq_false_iff.mpr hbc) (hmax x hx)⟩⟩

theorem mem_candidates {specs : List Spec} {offers : List Bytes} {c : Cand}
    (h : c ∈ candidates specs offers) :
    c.raw ∈ offers ∧ ∃ sp ∈ specs, sp.q.isZero = false ∧ c.q = sp.q ∧
      matchWild sp.value (normalizeOffer c.raw) = some c.wild := by
  simp only [candidates, List.mem_flatMap, candsFor, List.mem_filterMap] at h
  obtain ⟨o, ho, sp, hsp, hc⟩ := h
  split at hc
  · cases hc
  · rename_i hz
    simp only [Option.map_eq_some_iff] at hc
    obtain ⟨w, hw, rfl⟩ := hc
    exact ⟨ho, sp, hsp, by simpa using hz, rfl, hw⟩

theorem specChoice_of_firstMax {specs : List Spec} {offers : List Bytes} {m : Cand} (hs : specs ≠ [])
    (hm : firstMax (candidates specs offers) = some m) (d : Bytes) :
    specChoice specs offers d = m.raw := by
  cases offers with
  | nil => cases hm
  | cons o os => simp [specChoice, hs, hm]

theorem specChoice_default {specs : List Spec} {offers : List Bytes}
    (h : offers = [] ∨ (specs ≠ [] ∧ candidates specs offers = [])) (d : Bytes) :
    specChoice specs offers d = d := by
  rcases h with rfl | ⟨hs, hc⟩
  · rfl
  · cases offers with
    | nil => rfl
    | cons o os => simp [specChoice, hs, hc, firstMax]

theorem specChoice_offer {specs : List Spec} {offers : List Bytes} (ho : offers ≠ [])
    (h : ¬(specs ≠ [] ∧ candidates specs offers = [])) :
    ∃ o ∈ offers, ∀ d, specChoice specs offers d = o := by
  by_cases hs : specs = []
  · cases offers with
    | nil => exact absurd rfl ho
    | cons o os => exact ⟨o, by simp, fun d => by simp [specChoice, hs]⟩
  · cases hm : firstMax (candidates specs offers) with
    | none => exact absurd ⟨hs, firstMax_eq_none.mp hm⟩ h
    | some m =>
      obtain ⟨pre, post, hl, -⟩ := firstMax_spec hm
      have hmem : m ∈ candidates specs offers := by simp [hl]
      exact ⟨m.raw, (mem_candidates hmem).1, specChoice_of_firstMax hs hm⟩

/-- T1: the answer is one of the offers, or the stated default. -/
theorem specChoice_mem (specs : List Spec) (offers : List Bytes) (d : Bytes) :
    specChoice specs offers d = d ∨ specChoice specs offers d ∈ offers := by
  by_cases h : offers = [] ∨ (specs ≠ [] ∧ candidates specs offers = [])
  · exact Or.inl (specChoice_default h d)
  · obtain ⟨o, ho, hd⟩ := specChoice_offer (fun e => h (Or.inl e)) (fun e => h (Or.inr e))
    exact Or.inr (hd d ▸ ho)

theorem negotiate_mem (specs : List Spec) (offers : List Bytes) (d : Bytes) :
    negotiateContentType specs offers d = d ∨ negotiateContentType specs offers d ∈ offers := by
  rw [negotiate_eq_spec]; exact specChoice_mem specs offers d

/-- T2/T3: with an Accept header and at least one offer, the chosen offer is matched by a range
with q > 0, nothing acceptable is strictly better, and an equally good candidate never sits in
front of it; if nothing is acceptable the default is returned. -/
theorem negotiate_best (specs : List Spec) (offers : List Bytes) (d : Bytes)
    (hs : specs ≠ []) (ho : offers ≠ []) :
    (candidates specs offers = [] ∧ negotiateContentType specs offers d = d) ∨
    ∃ m pre post, candidates specs offers = pre ++ m :: post ∧
      negotiateContentType specs offers d = m.raw ∧
      (∀ c ∈ candidates specs offers, c.better m = false) ∧
      (∀ c ∈ pre, m.better c = true) := by
  rw [negotiate_eq_spec]
  cases hm : firstMax (candidates specs offers) with
  | none =>
    have hc := firstMax_eq_none.mp hm
    exact Or.inl ⟨hc, specChoice_default (Or.inr ⟨hs, hc⟩) d⟩
  | some m =>
    obtain ⟨pre, post, hl, hpre, hmax⟩ := firstMax_spec hm
    exact Or.inr ⟨m, pre, post, hl, specChoice_of_firstMax hs hm d, hmax, hpre⟩

/-- T3: a range with quality 0 never contributes a candidate. -/
theorem zero_q_never_selects {specs : List Spec} {offers : List Bytes} {c : Cand}
    (h : c ∈ candidates specs offers) : c.q.isZero = false := by
  obtain ⟨_, sp, _, hz, hq, _⟩ := mem_candidates h
  rw [hq]; exact hz

/-- T3: no Accept header ⇒ the first offer. -/
theorem no_accept_first_offer (o : Bytes) (os : List Bytes) (d : Bytes) :
    negotiateContentType (parseAccept []) (o :: os) d = o := by
  simp [parseAccept, negotiateContentType]

/-- The accumulated numerator and denominator fit Go's `int` (the reason for the digit cap). -/
theorem cap_fits_int : 10 ^ Facts.maxQDigits < 2 ^ 63 := by decide

/-- … and it is not lower than the precision a float64 q-value carries: the reading "digits beyond what the
q-value's own type can hold are not compared" allows a cap of 15 fractional digits, not a coarser one
(with fewer, q=0.1234 and q=0.1239 would tie and the smaller could win the tie-break). -/
theorem cap_keeps_float_precision : 15 ≤ Facts.maxQDigits := by decide

theorem digitsLoop_bound (cap : Nat) (s : Bytes) (i n k : Nat) (hk : k ≤ cap) (hik : i < cap → k = i)
    (hn : n < 10 ^ k) :
    (digitsLoop cap s i n k).1.2 ≤ cap ∧ (digitsLoop cap s i n k).1.1 < 10 ^ (digitsLoop cap s i n k).1.2 := by
  induction s generalizing i n k with
  | nil => exact ⟨hk, hn⟩
  | cons b r ih =>
    simp only [digitsLoop]
    split
    · rename_i hd
      split
      · -- one more digit: `n·10 + d < 10^(k+1)` as `d ≤ 9`
        rename_i hlt
        obtain rfl := hik hlt
        have := digit_le_nine hd
        exact ih _ _ _ hlt (fun _ => rfl) (by rw [Nat.pow_succ]; omega)
      · rename_i hge
        exact ih _ _ _ hk (fun h => absurd (Nat.lt_of_succ_lt h) hge) hn
    · exact ⟨hk, hn⟩

/-- Every q-value the parser produces has at most `cap` digits and a numerator below `10^digits`;
hence numerator and denominator stay below 2^63. -/
theorem fracPart_wf (int : Nat) (s : Bytes) (q : Q) (h : (fracPart int s).1 = some q) :
    q.digits ≤ Facts.maxQDigits ∧ q.num < 10 ^ q.digits := by
  unfold fracPart at h
  split at h
  · rename_i t
    simp only [Option.some.injEq] at h
    subst h
    exact digitsLoop_bound Facts.maxQDigits t 0 0 0 (Nat.zero_le _) (fun _ => rfl) (by simp)
  · simp only [Option.some.injEq] at h
    subst h; simp

/-- `units` is the exact value: `units / 10^cap = int + num / 10^digits` (cross-multiplied). -/
theorem units_exact (q : Q) (h : q.digits ≤ Facts.maxQDigits) :
    q.units * 10 ^ q.digits = (q.int * 10 ^ q.digits + q.num) * 10 ^ Facts.maxQDigits := by
  unfold Q.units
  have hp : 10 ^ Facts.maxQDigits = 10 ^ (Facts.maxQDigits - q.digits) * 10 ^ q.digits := by
    rw [← Nat.pow_add]; congr 1; omega
  generalize 10 ^ (Facts.maxQDigits - q.digits) = A at hp
  generalize 10 ^ q.digits = B at hp
  generalize 10 ^ Facts.maxQDigits = C at hp
  subst hp
  simp only [Nat.mul_add, Nat.mul_comm, Nat.mul_left_comm]

/-- the q-value `expectQuality` produces for `<int>.<ds>` (`fracPart` is its tail after the integer digit) -/
def parsedQ (int : Nat) (ds : Bytes) : Q :=
  ⟨int, (digitsLoop Facts.maxQDigits ds 0 0 0).1.1, (digitsLoop Facts.maxQDigits ds 0 0 0).1.2⟩

theorem fracPart_dot (int : Nat) (ds : Bytes) : (fracPart int (46 :: ds)).1 = some (parsedQ int ds) := rfl

/-- **T5**: a q-value whose digits denote a smaller number never outranks one denoting a larger
number — for digit strings of ANY length (the first `maxQualityDigits` digits are kept, and keeping
a prefix is a floor, which is monotone). `numOf a / 10^|a| ≤ numOf b / 10^|b|` is cross-multiplied. -/
theorem q_value_monotone (int : Nat) (a b : Bytes) (ha : allDigits a = true) (hb : allDigits b = true)
    (h : numOf a * 10 ^ b.length ≤ numOf b * 10 ^ a.length) :
    Q.le (parsedQ int a) (parsedQ int b) = true := by
  have := fracUnits_mono a b ha hb h
  simp only [fracUnits] at this
  simp only [Q.le, Q.units, parsedQ]
  exact decide_eq_true (Nat.add_le_add_left this _)

/-- non-vacuity: 67 fractional digits (the F07a witness) against `0.5` -/
example : allDigits (List.replicate 66 48 ++ [49]) = true ∧ allDigits [53] = true ∧
    numOf (List.replicate 66 48 ++ [49]) * 10 ^ [53].length ≤ numOf [53] * 10 ^ (List.replicate 66 48 ++ [49]).length := by
  decide

def encPick (offer : Bytes) (sp : Spec) : Option Cand :=
  if sp.value == star || sp.value == offer then some ⟨offer, sp.q, 0⟩ else none

/-- the state of the encoding loop that holds candidate `o`; before a range has matched: `identity` -/
def encOf : Option Cand → Bytes × Option Q
  | none => (identity, none)
  | some c => (c.raw, some c.q)

/-- The encoding loop replaces its incumbent only for a higher quality: that is `pick`, as all its
candidates are equally specific. -/
theorem encStep_encOf (offer : Bytes) (sp : Spec) {o : Option Cand} (hw : ∀ c ∈ o, c.wild = 0) :
    encStep offer (encOf o) sp = encOf (pick o (encPick offer sp)) ∧
      ∀ c ∈ pick o (encPick offer sp), c.wild = 0 := by
  unfold encStep encPick
  cases hm : (sp.value == star || sp.value == offer)
  case false => simpa using hw
  cases o with
  | none => simp [qGtBest, pick, encOf]
  | some b =>
    have hb := hw b rfl
    simp only [qGtBest, pick, Cand.better, Q.lt, encOf, Bool.and_true]
    by_cases h : b.q.units < sp.q.units <;> simp [h, hb]

theorem foldl_encStep (specs : List Spec) (offers : List Bytes) :
    offers.foldl (fun st o => specs.foldl (encStep o) st) (identity, none) =
      encOf (firstMax (encCands specs offers)) :=
  (foldl_pick (fun st o => st = encOf o ∧ ∀ c ∈ o, c.wild = 0) _ _ (fun _ _ o h => by
    rw [filterMap_eq_flatMap]
    exact foldl_pick (fun st o => st = encOf o ∧ ∀ c ∈ o, c.wild = 0) _ _
      (fun _ _ sp h => by rw [h.1, firstMax_toList]; exact encStep_encOf o sp h.2) specs h)
    offers (o := none) ⟨rfl, nofun⟩).1

/-- `NegotiateContentEncoding` computes its documented choice. -/
theorem encoding_eq_spec (specs : List Spec) (offers : List Bytes) :
    negotiateContentEncoding specs offers = specEncoding specs offers := by
  unfold negotiateContentEncoding specEncoding
  rw [foldl_encStep]
  cases firstMax (encCands specs offers) <;> rfl

end RtVerif.C07
