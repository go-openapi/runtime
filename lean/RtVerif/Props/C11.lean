import RtVerif.Lemmas.C11
/-
  `Env` (producers, http.DetectContentType, the random boundary, the serialisation of parts by
  mime/multipart) is universally quantified everywhere: nothing below depends on what the standard
  library does with the values the client code hands to it.

    T0  the regenerated facts say what the model assumes (form media types, sniffing window, how the
        window is filled and what is sniffed)
    T1  per payload kind: the bytes sent and the Content-Type header
    T2  ∀ k: every GetBody result is exactly what is subsequently sent (state machine and whole build);
        no build leaves a pipe nobody writes to as the body (the F11d repair)
    T3  the parts of the multipart document: every field value and every file exactly once, with field
        name, base file name, declared-or-sniffed type, full content; independent of map iteration
        order and of how the upload chops its reads
    S   the Spec holds for every input outside the recorded classes F11b, F11c; each class is real; the
        former class F11d (value payload under multipart/form-data) now satisfies the Spec
-/
namespace RtVerif.C11
open RtVerif Bytes

/-! ## T0 — facts -/

/-- the sniffing code fills the whole window and sniffs only the bytes it read (the F11a repair) -/
theorem facts_sniffing :
    Facts.c11SniffWindow = windowLit ∧ Facts.c11ReadCall = "io.ReadFull(fi, buf)" ∧ Facts.c11SniffArg = "buf[:size]" := by
  decide

theorem facts_mimes : Facts.c11MultipartMime = multipartLit ∧ Facts.c11URLEncodedMime = urlencodedLit := by
  decide

/-- an environment for the witnesses: every media type has a producer that writes `x`, everything
sniffs as `t`, the boundary is `B`, a document is the boundary followed by the part bodies -/
def witnessEnv : Env := ⟨fun _ => some (some [120]), fun _ => [116], [66], fun b ps => b ++ ps.flatMap (·.body)⟩

/-! ## T1 — what is sent, by payload kind -/

/-- no payload, no form data: no body, and `buildHTTP` sets no Content-Type -/
theorem nil_payload (env : Env) (i : Input) (hp : i.payload = .none) (hf : hasForm i = false)
    (hg : gatePasses env i.mediaType = true) :
    ∃ b, build env i = .built b ∧ b.header = none ∧ b.sent = .nobody ∧ b.parts = none := by
  obtain ⟨b, hb, hh, hs, hps, _⟩ := build_of_choose hg (choose_nil env i hp hf)
  exact ⟨b, hb, hh.trans (finalHeader_nobody i _ rfl), hs, hps⟩

example : ∃ b, build ⟨fun _ => some none, fun _ => [], [], fun _ _ => []⟩
    ⟨[71, 69, 84], [97], .none, [], [], some 2⟩ = .built b ∧ b.sent = .nobody :=
  (nil_payload _ _ rfl rfl rfl).imp fun _ h => ⟨h.1, h.2.2.1⟩

/-- a value: exactly the bytes the registered producer wrote, under the chosen media type — every
media type, `multipart/form-data` included (the F11d repair: no hypothesis on the media type) -/
theorem value_payload (env : Env) (i : Input) (enc : Bytes) (hp : i.payload = .value) (hf : hasForm i = false)
    (hprod : env.produce i.mediaType = some (some enc)) :
    ∃ b, build env i = .built b ∧ b.header = some i.mediaType ∧ b.sent = .bytes enc ∧ b.parts = none := by
  have hg : gatePasses env i.mediaType = true := by simp [gatePasses, hprod]
  obtain ⟨b, hb, hh, hs, hps, _⟩ := build_of_choose hg (choose_value env i enc hp hf hprod)
  exact ⟨b, hb, hh.trans (finalHeader_mediaType i _ rfl), hs, hps⟩

example : ∃ b, build ⟨fun _ => some (some [123, 125]), fun _ => [], [], fun _ _ => []⟩
    ⟨[80, 85, 84], [97, 47, 98], .value, [], [], some 3⟩ = .built b ∧ b.sent = .bytes [123, 125] :=
  (value_payload _ _ _ rfl rfl rfl).imp fun _ h => ⟨h.1, h.2.2.1⟩

/-- the same under exactly `multipart/form-data`, with an auth writer asking three times -/
example : ∃ b, build ⟨fun _ => some (some [123, 125]), fun _ => [], [], fun _ _ => []⟩
    ⟨[80, 85, 84], multipartLit, .value, [], [], some 3⟩ = .built b ∧ b.sent = .bytes [123, 125] ∧
      b.gets = [[123, 125], [123, 125], [123, 125]] :=
  ⟨_, rfl, rfl, rfl⟩

/-- a producer that fails: its error is returned, nothing is sent -/
theorem value_producer_error (env : Env) (i : Input) (hp : i.payload = .value) (hf : hasForm i = false)
    (hprod : env.produce i.mediaType = some none) : build env i = .produceError := by
  have hg : gatePasses env i.mediaType = true := by simp [gatePasses, hprod]
  simp [build, hg, choose_value_error env i hp hf hprod]

example : build ⟨fun _ => some none, fun _ => [], [], fun _ _ => []⟩ ⟨[80], [97, 47, 98], .value, [], [], some 1⟩ = .produceError :=
  value_producer_error _ _ rfl rfl rfl

/-- a reader payload (io.Reader or io.ReadCloser): exactly its bytes, under the chosen media type —
whether or not, and however often, the auth writer looked at the body -/
theorem reader_payload (env : Env) (i : Input) (data : Bytes)
    (hp : i.payload = .reader data ∨ i.payload = .readCloser data) (hf : hasForm i = false)
    (hg : gatePasses env i.mediaType = true) :
    ∃ b, build env i = .built b ∧ b.header = some i.mediaType ∧ b.sent = .bytes data ∧ b.parts = none := by
  obtain ⟨cl, hc⟩ := choose_reader env i data hp hf
  obtain ⟨b, hb, hh, hs, hps, _⟩ := build_of_choose hg hc
  exact ⟨b, hb, hh.trans (finalHeader_mediaType i _ rfl), hs, hps⟩

example : ∃ b, build ⟨fun _ => some none, fun _ => [], [], fun _ _ => []⟩
    ⟨[80, 85, 84], [97, 47, 98], .readCloser [1, 2, 3], [], [], some 5⟩ = .built b ∧ b.sent = .bytes [1, 2, 3] :=
  (reader_payload _ _ _ (Or.inr rfl) rfl rfl).imp fun _ h => ⟨h.1, h.2.2.1⟩

/-- form fields without files, media type not `multipart/form-data`: the body is `Values.Encode()` of
the fields, under the chosen media type … -/
theorem form_urlencoded (env : Env) (i : Input) (hf : hasForm i = true) (hm : isMultipart i = false)
    (hg : gatePasses env i.mediaType = true) :
    ∃ b, build env i = .built b ∧ b.header = some i.mediaType ∧ b.sent = .bytes (encodeForm i.fields) ∧
      b.parts = none := by
  obtain ⟨b, hb, hh, hs, hps, _⟩ := build_of_choose hg (choose_urlencoded env i hf hm)
  exact ⟨b, hb, hh.trans (finalHeader_mediaType i _ rfl), hs, hps⟩

example : ∃ b, build witnessEnv ⟨[80], urlencodedLit, .none, [([98], [[32], [38]]), ([97], [[61]])], [], some 2⟩ = .built b ∧
    b.sent = .bytes [97, 61, 37, 51, 68, 38, 98, 61, 43, 38, 98, 61, 37, 50, 54] :=   -- a=%3D&b=+&b=%26
  (form_urlencoded _ _ rfl rfl rfl).imp fun _ h => ⟨h.1, h.2.2.1⟩

/-- … and that body is the URL-encoding of the fields: `url.ParseQuery` accepts it and yields, under
every name, exactly that field's values in their order (for all names and values, any bytes). -/
theorem urlencoded_body_decodes (fields : List (Bytes × List Bytes)) :
    isURLEncodingOf (encodeForm fields) fields = true := by
  unfold isURLEncodingOf
  rw [parseQuery_encodeForm]
  simp only [sameForm, List.all_eq_true, beq_iff_eq]
  intro k _
  rw [valuesOf_pairsOf, fieldValues_sortKV]

/-- files, or the media type `multipart/form-data`: the body is the multipart document of the part
list, under a header that carries the document's own boundary -/
theorem multipart_document (env : Env) (i : Input) (hf : hasForm i = true) (hm : isMultipart i = true)
    (hg : gatePasses env i.mediaType = true) :
    ∃ b, build env i = .built b ∧ b.header = some (mangleContentType i.mediaType env.boundary) ∧
      b.sent = .bytes (env.mpDoc env.boundary (allParts env i)) ∧ b.parts = some (allParts env i) := by
  obtain ⟨b, hb, hh, hs, hps, _⟩ := build_of_choose hg (choose_multipart env i hf hm)
  exact ⟨b, hb, hh.trans (finalHeader_nonempty i _ _ rfl (mangle_nonempty _ _)), hs, hps⟩

example : ∃ b, build witnessEnv ⟨[80], multipartLit, .none, [([97], [[49]])], [([102], [⟨[100, 47, 120], none, [104, 105], 1⟩])], some 1⟩ = .built b ∧
    b.parts = some [⟨[97], none, none, [49]⟩, ⟨[102], some [120], some [116], [104, 105]⟩] :=
  (multipart_document _ _ rfl rfl rfl).imp fun _ h => ⟨h.1, h.2.2.2⟩

/-- unless the chosen media type is (any spelling of) the url-encoded one, that header is
`multipart/form-data; boundary=<boundary>` -/
theorem multipart_header (mt boundary : Bytes) (h : toLower mt ≠ urlencodedLit) :
    mangleContentType mt boundary = multipartHeaderLit ++ boundary ∧
      baseMediaType (mangleContentType mt boundary) = multipartLit := by
  rw [mangle_of_not_urlencoded mt boundary h]
  exact ⟨rfl, baseMediaType_multipartHeader boundary⟩

example : toLower multipartLit ≠ urlencodedLit := by decide

/-! ## T2 — what the auth writer saw is what is sent -/

/-- The closure on its own: starting from a streaming body (buffer contents `buf`, stream contents
`c`), any number `k+1` of calls all return `buf ++ c`, after which the body *is* the buffer holding
`buf ++ c`; the stream is read (and closed) exactly once. -/
theorem getBody_stream_stable (k : Nat) (buf c : Bytes) (cl : Bool) :
    ∃ st, getBodies true (k + 1) { buf := buf, body := .stream c cl } = some (st, List.replicate (k + 1) (buf ++ c)) ∧
      sentOf st = .bytes (buf ++ c) ∧ st.copied = true ∧ st.closed = cl :=
  ⟨_, getBodies_stream k buf c cl, rfl, rfl, rfl⟩

/-- without the override (`body` is nil or `r.buf`) every call returns the buffer, which is the body -/
theorem getBody_buffer_stable (k : Nat) (buf : Bytes) :
    getBodies false k { buf := buf, body := .buffer } = some ({ buf := buf, body := .buffer }, List.replicate k buf) :=
  getBodies_plain k _

/-- For every input, every environment and every number of calls: if a request is built, the auth
writer got as many results as it asked for and each is exactly the bytes the request will send. -/
theorem getBody_is_what_is_sent (env : Env) (i : Input) (b : Built) (h : build env i = .built b) :
    b.gets.length = i.auth.getD 0 ∧ ∀ g ∈ b.gets, sameAsSent b.sent g = true := by
  rcases build_cases env i with ⟨_, hno⟩ | ⟨c, hg, hc⟩
  · exact absurd h (hno b)
  · obtain ⟨b', hb', _, _, _, _, hg⟩ := build_of_choose hg hc
    cases hb'.symm.trans h
    exact hg

example : ∃ b, build ⟨fun _ => some none, fun _ => [], [66], fun bd ps => bd ++ ps.flatMap (·.body)⟩
    ⟨[80], multipartLit, .none, [([97], [[1], [2]])], [], some 3⟩ = .built b ∧ b.gets = [[66, 1, 2], [66, 1, 2], [66, 1, 2]] :=
  ⟨_, rfl, rfl⟩

/-- For every input and every environment: the build never ends in a `GetBody()` call that does not
return, and the body of a built request is never a pipe nobody writes to — the pipe is opened only
where the multipart goroutine is started (`opensPipe`; this is what F11d violated). -/
theorem build_never_hangs (env : Env) (i : Input) :
    build env i ≠ .hang ∧ ∀ b, build env i = .built b → b.sent ≠ .never := by
  rcases build_cases env i with ⟨hh, hno⟩ | ⟨c, hg, hc⟩
  · exact ⟨hh, fun b h => absurd h (hno b)⟩
  · obtain ⟨b', hb', _, _, _, hnever, _⟩ := build_of_choose hg hc
    rw [hb']
    exact ⟨nofun, fun b h => by cases h; exact hnever⟩

/-! ## T3 — the parts -/

/-- `io.ReadFull` over an upload that delivers at most `chunk` bytes per `Read` (any `chunk`, `0` = no
limit) returns the first 512 bytes — the whole file when it is shorter — and leaves the rest. -/
theorem sniff_window_filled (chunk : Nat) (content : Bytes) :
    readFull chunk Facts.c11SniffWindow Facts.c11SniffWindow content = (content.take windowLit, content.drop windowLit) :=
  readFull_spec chunk _ _ content (Nat.le_refl _)

/-- The part written for an upload: field name, base of the file's name, the declared type or else
the type sniffed from its first ≤ 512 bytes, and the complete content — whatever the chunking. -/
theorem file_part (env : Env) (fn : Bytes) (f : FileIn) :
    filePart env fn f =
      ⟨fn, some (GoPath.base f.name),
       some (match f.declared with | some d => d | none => env.sniff (f.content.take windowLit)), f.content⟩ := by
  unfold filePart
  cases f.declared with
  | some d => rfl
  | none =>
    simp only [sniff_window_filled, List.take_append_drop]

/-- The goroutine writes exactly the parts the property lists: one per form-field value, one per file. -/
theorem parts_are_fields_and_files (env : Env) (i : Input) : allParts env i = expectedParts env.sniff i := by
  have h : ∀ fn, filePart env fn = expectedFilePart env.sniff fn := fun fn => funext (file_part env fn)
  simp only [allParts, expectedParts, fieldParts, fileParts, h]

/-- "exactly once": as multisets, whatever order Go's map iteration delivers fields and files in. -/
theorem parts_order_independent (env : Env) (i j : Input) (hfields : i.fields.Perm j.fields) (hfiles : i.files.Perm j.files) :
    (allParts env i).Perm (allParts env j) := by
  unfold allParts fieldParts fileParts
  exact List.Perm.append (hfields.flatMap_right _) (hfiles.flatMap_right _)

example : (allParts witnessEnv ⟨[], [], .none, [([97], [[1]]), ([98], [[2]])], [], none⟩).Perm
    (allParts witnessEnv ⟨[], [], .none, [([98], [[2]]), ([97], [[1]])], [], none⟩) :=
  parts_order_independent _ _ _ (List.Perm.swap _ _ _) (List.Perm.refl _)

theorem parts_length (env : Env) (i : Input) :
    (allParts env i).length = (i.fields.map (·.2.length)).sum + (i.files.map (·.2.length)).sum := by
  simp [allParts, fieldParts, fileParts, List.length_flatMap]

theorem field_value_is_a_part (env : Env) (i : Input) (n v : Bytes) (vs : List Bytes)
    (h : (n, vs) ∈ i.fields) (hv : v ∈ vs) : (⟨n, none, none, v⟩ : Part) ∈ allParts env i := by
  simp only [allParts, fieldParts, List.mem_append, List.mem_flatMap, List.mem_map]
  exact Or.inl ⟨(n, vs), h, v, hv, rfl⟩

theorem file_is_a_part (env : Env) (i : Input) (n : Bytes) (f : FileIn) (fs : List FileIn)
    (h : (n, fs) ∈ i.files) (hf : f ∈ fs) : expectedFilePart env.sniff n f ∈ allParts env i := by
  rw [parts_are_fields_and_files]
  simp only [expectedParts, List.mem_append, List.mem_flatMap, List.mem_map]
  exact Or.inr ⟨(n, fs), h, f, hf, rfl⟩

/-- Byte level, relative to the one thing assumed of mime/multipart — that some reader `parse` inverts
its writer: the bytes sent parse, with the boundary announced in the header, into exactly the
required parts (every field value and every file once). -/
theorem multipart_bytes_decode (env : Env) (parse : Bytes → Bytes → Option (List Part))
    (hinv : ∀ bd ps, parse bd (env.mpDoc bd ps) = some ps)
    (i : Input) (hf : hasForm i = true) (hm : isMultipart i = true) (hg : gatePasses env i.mediaType = true) :
    ∃ b bytes, build env i = .built b ∧ b.sent = .bytes bytes ∧
      b.header = some (mangleContentType i.mediaType env.boundary) ∧
      ∃ ps, parse env.boundary bytes = some ps ∧ ps.Perm (expectedParts env.sniff i) := by
  obtain ⟨b, hb, hh, hs, _⟩ := multipart_document env i hf hm hg
  exact ⟨b, _, hb, hs, hh, _, hinv _ _, by rw [parts_are_fields_and_files]⟩

/-- "base file name": a name `dir/file` (any directory part) is sent as `file` … -/
theorem base_removes_directories (d f : Bytes) (hf : GoPath.slash ∉ f) (hne : f ≠ []) :
    GoPath.base (d ++ GoPath.slash :: f) = f := by
  have hp : d ++ GoPath.slash :: f ≠ [] := by simp
  have hd := GoPath.dropTrailingSlashes_id _ hp (by
    rw [List.getLast_append_right (List.cons_ne_nil _ _), List.getLast_cons hne]
    exact fun e => hf (e ▸ List.getLast_mem hne))
  simp only [GoPath.base, hp, if_false, hd, GoPath.split_dir_file d f hf, hne]

/-- … and a name without directories as it is (backslashes and quotes are ordinary bytes). -/
theorem base_of_plain_name (f : Bytes) (hf : GoPath.slash ∉ f) (hne : f ≠ []) : GoPath.base f = f := by
  have hd := GoPath.dropTrailingSlashes_id f hne fun e => hf (e ▸ List.getLast_mem hne)
  simp only [GoPath.base, hne, if_false, hd, GoPath.split_noslash f hf]

example : GoPath.base [100, 105, 114, 47, 115, 117, 98, 47, 113, 34, 117, 92, 116] = [113, 34, 117, 92, 116] :=
  base_removes_directories [100, 105, 114, 47, 115, 117, 98] [113, 34, 117, 92, 116] (by decide) (by decide)

/-- `escapeQuotes` (request.go) is undone by mime's quoted-string reader: a field or file name with
quotes and backslashes (no CR/LF) comes back byte for byte, and the rest of the header line is intact. -/
theorem escapeQuotes_round_trip (s rest : Bytes) (h : ∀ c ∈ s, c ≠ 13 ∧ c ≠ 10) :
    unquote (escapeQuotes s ++ 34 :: rest) = some (s, rest) := by
  induction s with
  | nil => simp [escapeQuotes, unquote]
  | cons c r ih =>
    have hr := ih fun x hx => h x (List.mem_cons_of_mem _ hx)
    have hc := h c List.mem_cons_self
    have hcons : escapeQuotes (c :: r) = (if c == 92 then [92, 92] else if c == 34 then [92, 34] else [c]) ++ escapeQuotes r :=
      List.flatMap_cons ..
    rw [hcons]
    by_cases h92 : c = 92
    · subst h92
      simp [unquote, isTSpecial, hr]
    · by_cases h34 : c = 34
      · subst h34
        simp [unquote, isTSpecial, hr]
      · simp [unquote, h92, h34, hr, hc.1, hc.2]

example : unquote (escapeQuotes [67, 58, 92, 100, 34, 120] ++ 34 :: [59]) = some ([67, 58, 92, 100, 34, 120], [59]) :=
  escapeQuotes_round_trip _ _ (by decide)

/-! ## S — the Spec -/

example : known witnessEnv ⟨[80], multipartLit, .none, [([97], [[49]])], [([102], [⟨[100, 47, 120], none, [104, 105], 1⟩])], some 2⟩ = none := by
  decide

example : known witnessEnv ⟨[80], [97, 47, 98], .readCloser [1, 2], [], [], some 3⟩ = none := by decide

/-- "however many times it asks": the auth half of the Spec holds of every built request -/
theorem authOk_built {env : Env} {i : Input} {b : Built} (h : build env i = .built b) :
    authOk i (resultOf (.built b)) = true := by
  obtain ⟨hl, hall⟩ := getBody_is_what_is_sent _ _ _ h
  unfold authOk resultOf
  cases ha : i.auth with
  | none => simp [ha] at hl; simp [hl]
  | some k => simp [ha] at hl; simp [hl]; exact hall

/-- The property holds for every input outside the recorded classes, for every environment. -/
theorem spec_holds_outside_known (env : Env) (i : Input) (hk : known env i = none) :
    specOk env.sniff (env.produce i.mediaType) i (resultOf (build env i)) = true := by
  cases hg : gatePasses env i.mediaType
  · -- the gate refuses the media type: nothing is sent, and nothing is registered for it
    rw [build_gate_error env i hg, gate_fails_unregistered env _ hg]
    unfold specOk
    cases kindOf i <;> simp [resultOf, failed]
  · match hkind : kindOf i, kindOf_inv i with
    | .mixed, _ => simp [specOk, hkind]
    | .nil, ⟨hp, hf⟩ =>
      obtain ⟨b, hb, hh, hs, hps⟩ := nil_payload env i hp hf hg
      rw [hb]
      simp only [specOk, hkind, bodyOk, authOk_built hb]
      simp [resultOf, hs]
    | .value, ⟨hp, hf⟩ =>
      cases hprod : env.produce i.mediaType with
      | none => simp [specOk, hkind]
      | some e =>
        cases e with
        | none =>
          rw [value_producer_error env i hp hf hprod]
          simp [specOk, hkind, resultOf, failed]
        | some enc =>
          obtain ⟨b, hb, hh, hs, hps⟩ := value_payload env i enc hp hf hprod
          rw [hb]
          simp only [specOk, hkind, bodyOk, authOk_built hb]
          simp [resultOf, hs, hps, hh, headerIs]
    | .reader data, ⟨hp, hf⟩ =>
      obtain ⟨b, hb, hh, hs, hps⟩ := reader_payload env i data hp hf hg
      rw [hb]
      simp only [specOk, hkind, bodyOk, authOk_built hb]
      simp [resultOf, hs, hps, hh, headerIs]
    | .formOnly, ⟨hp, hf, hfiles⟩ =>
      by_cases hmt : i.mediaType = multipartLit
      · -- multipart/form-data: a multipart document of the field values
        have hm : isMultipart i = true := by simp [isMultipart, facts_multipart, hmt]
        obtain ⟨b, hb, hh, hs, hps⟩ := multipart_document env i hf hm hg
        have hhd := multipart_header i.mediaType env.boundary (by rw [hmt]; decide)
        rw [hb]
        simp only [specOk, hkind, bodyOk, authOk_built hb]
        simp [resultOf, hs, hps, hh, multipartShape, urlencodedShape, headerNames, hhd.2, parts_are_fields_and_files, isPerm_refl]
      · -- otherwise url-encoded; outside F11c the media type names that encoding
        have hm : isMultipart i = false := by
          simp only [isMultipart, hfiles, facts_multipart]
          simpa using fun h => hmt h.symm
        have hbase : baseMediaType i.mediaType = urlencodedLit := Decidable.byContradiction fun hb => by
          -- otherwise the gate passed because a producer is registered, and the input is in F11c
          have hreg : (env.produce i.mediaType).isSome = true := by
            simp only [gatePasses, facts_multipart, facts_urlencoded, Bool.or_eq_true, beq_iff_eq] at hg
            rcases hg with (hg | hg) | hg
            · exact hg
            · exact absurd hg hmt
            · rw [hg] at hb
              exact absurd baseMediaType_urlencoded hb
          simp only [known, hkind] at hk
          simp [hmt, hb, hreg] at hk
        obtain ⟨b, hb, hh, hs, hps⟩ := form_urlencoded env i hf hm hg
        rw [hb]
        simp only [specOk, hkind, bodyOk, authOk_built hb]
        simp [resultOf, hs, hps, hh, urlencodedShape, headerNames, hbase, urlencoded_body_decodes]
    | .withFiles, ⟨hp, hf, hfiles⟩ =>
      have hm : isMultipart i = true := by simp [isMultipart, hfiles]
      have hlow : toLower i.mediaType ≠ urlencodedLit := by
        intro h
        simp [known, hkind, h] at hk
      obtain ⟨b, hb, hh, hs, hps⟩ := multipart_document env i hf hm hg
      have hhd := multipart_header i.mediaType env.boundary hlow
      rw [hb]
      simp only [specOk, hkind, bodyOk, authOk_built hb]
      simp [resultOf, hs, hps, hh, multipartShape, headerNames, hhd.2, parts_are_fields_and_files, isPerm_refl]

/-! ## the recorded findings are real (in the model; the corpus replays them on the code) -/

/-- one upload `a` = "hi" under field `f`, media type application/x-www-form-urlencoded -/
def witnessF11b : Input := ⟨[80, 79, 83, 84], urlencodedLit, .none, [], [([102], [⟨[97], none, [104, 105], 0⟩])], none⟩
/-- one field `a=1`, media type `a/b` (registered) -/
def witnessF11c : Input := ⟨[80, 79, 83, 84], [97, 47, 98], .none, [([97], [[49]])], [], none⟩
/-- the former F11d witness: a value payload under multipart/form-data (registered), with and without
GetBody calls -/
def witnessF11d (auth : Option Nat) : Input := ⟨[80, 79, 83, 84], multipartLit, .value, [], [], auth⟩

theorem finding_F11b_real :
    known witnessEnv witnessF11b = some .F11b ∧
      specOk witnessEnv.sniff (witnessEnv.produce witnessF11b.mediaType) witnessF11b (resultOf (build witnessEnv witnessF11b)) = false := by
  decide

theorem finding_F11c_real :
    known witnessEnv witnessF11c = some .F11c ∧
      specOk witnessEnv.sniff (witnessEnv.produce witnessF11c.mediaType) witnessF11c (resultOf (build witnessEnv witnessF11c)) = false := by
  decide

/-- Regression of F11d on the repaired code: the former witness is outside every recorded class, the
request is built, what is sent is the producer's output (`x`) under `multipart/form-data`, every
GetBody result — any number of calls — is that output, and the Spec holds. -/
theorem finding_F11d_repaired (auth : Option Nat) :
    known witnessEnv (witnessF11d auth) = none ∧
      (∃ b, build witnessEnv (witnessF11d auth) = .built b ∧ b.header = some multipartLit ∧ b.sent = .bytes [120] ∧
        b.gets.length = auth.getD 0 ∧ ∀ g ∈ b.gets, g = [120]) ∧
      specOk witnessEnv.sniff (witnessEnv.produce (witnessF11d auth).mediaType) (witnessF11d auth)
        (resultOf (build witnessEnv (witnessF11d auth))) = true := by
  have hk : known witnessEnv (witnessF11d auth) = none := rfl
  refine ⟨hk, ?_, spec_holds_outside_known _ _ hk⟩
  obtain ⟨b, hb, hh, hs, _⟩ := value_payload witnessEnv (witnessF11d auth) [120] rfl rfl rfl
  obtain ⟨hl, hall⟩ := getBody_is_what_is_sent _ _ b hb
  refine ⟨b, hb, hh, hs, hl, ?_⟩
  intro g hg
  have := hall g hg
  rw [hs] at this
  simpa [sameAsSent] using this

end RtVerif.C11
