import RtVerif.Model.C20
import RtVerif.Lemmas.GoPath
import RtVerif.Lemmas.C20
/-
  Interception.  `spec_mw_*`, `ui_mw_*`: a middleware answers exactly the requests whose cleaned
  path is its document path; every other request reaches `next` as it was received, or is answered
  404 when there is no `next`.  `spec_mw_meets_spec` / `ui_mw_meets_spec`: the model satisfies the
  Spec predicates the driver evaluates on the real code's observations, for every option
  combination, request and method.

  Agreement.  `handler_spec_path_agrees`: for every absolute spec location (absolute URL or
  absolute path, non-empty document name) the composed API handler serves the document at
  `clean` of the location's path; `page_refers_to_served_document`: the page names that location
  and a request for the location's path is answered with the document;
  `operations_stay_reachable`: requests whose cleaned path is neither document path arrive at the
  router unmodified.  `handler_meets_spec` packages this as the Spec predicate.

  Escaping.  html/template is external; `ui_pages_use_html_template` is the obligation over the
  regenerated import table, `interception_conditions_pinned` / `document_path_expressions_pinned`
  pin the source expressions the model transcribes.
-/
namespace RtVerif.C20
open RtVerif Bytes GoPath

/-- Every UI page (Redoc, RapiDoc, SwaggerUI, OAuth2 callback) is rendered with `html/template`
and nothing else (regenerated import table; the escaping itself is html/template's). -/
theorem ui_pages_use_html_template :
    Facts.c20TemplateImports.length = 4 ∧
      ∀ f ∈ Facts.c20TemplateImports, f.2 = ["html/template"] := by decide

/-- The interception test in `serveUI` and in `Spec` is the exact comparison the model makes. -/
theorem interception_conditions_pinned :
    Facts.c20ServeUICond = "path.Clean(r.URL.Path) == pth" ∧
      Facts.c20SpecCond = "path.Clean(r.URL.Path) == pth" := ⟨rfl, rfl⟩

/-- The document paths are computed by the expressions the model transcribes. -/
theorem document_path_expressions_pinned :
    Facts.c20PthExprs =
      [("Redoc", "path.Join(opts.BasePath, opts.Path)"),
       ("RapiDoc", "path.Join(opts.BasePath, opts.Path)"),
       ("SwaggerUI", "path.Join(opts.BasePath, opts.Path)"),
       ("SwaggerUIOAuth2Callback", "opts.OAuthCallbackURL"),
       ("Spec", "path.Join(basePath, o.Path, o.Document)")] := rfl

/-- The document is served as JSON, pages as HTML. -/
theorem content_types_pinned : ctJSON = jsonCT ∧ ctHTML = htmlCT := ⟨ctJSON_eq, ctHTML_eq⟩

/-- The default UI spec URL is the default location of the spec middleware: `/` + default document
(so that the two middlewares agree when no option is given). -/
theorem default_locations_agree :
    Facts.c20DocsURL = slash :: Facts.c20SpecDocument ∧ Facts.c20SpecPath = [] := ⟨rfl, rfl⟩

/-! ## Path algebra the middlewares rest on (proved in Lemmas/GoPath.lean for all byte strings;
restated here so that the audit of this module lists them) -/

/-- `path.Clean` is idempotent: a document path computed by `path.Join` is matched by a request
for that very path. -/
theorem gopath_clean_idem (p : Bytes) : clean (clean p) = clean p := clean_idem p

/-- `path.Clean` keeps rootedness and never returns the empty string. -/
theorem gopath_clean_rooted_nonempty (p : Bytes) :
    isRooted (clean p) = isRooted p ∧ clean p ≠ [] := ⟨clean_rooted p, clean_ne_nil p⟩

/-- Shape of a cleaned path: split at `/` it is an initial empty segment exactly when rooted, then
`k` segments `..` (`k = 0` when rooted) and ordinary segments — none empty, none `.`; or just
`/` resp. `.`; and it ends in `/` only if it is `/`. -/
theorem gopath_clean_shape (p : Bytes) :
    (∃ (k : Nat) (ns : List Bytes), (∀ s ∈ ns, Normal s) ∧ (isRooted p = true → k = 0) ∧
      segs (clean p) =
        (if isRooted p then [[]] else []) ++
          (if List.replicate k dotdot ++ ns = [] then (if isRooted p then [[]] else [dot])
           else List.replicate k dotdot ++ ns)) ∧
      (clean p ≠ [slash] → (clean p).getLast? ≠ some slash) :=
  ⟨segs_clean p, clean_no_trailing_slash p⟩

/-- `path.Join` of non-empty parts, and `Join ∘ Split`. -/
theorem gopath_join_split (a b p : Bytes) :
    (a ≠ [] → b ≠ [] → join a b = clean (a ++ slash :: b)) ∧
      (p ≠ [] → join (split p).1 (split p).2 = clean p) :=
  ⟨join_eq_clean a b, join_split' p⟩

example : clean [47, 97, 47, 46, 46, 47, 46, 46, 47, 98, 47, 46, 47, 99, 47, 47] = [47, 98, 47, 99] := by
  decide  -- /a/../../b/./c// ↦ /b/c

/-- A request whose cleaned path is the document path is answered with exactly the spec bytes. -/
theorem spec_mw_answers (bp b : Bytes) (next : Option Handler) (opts : List SpecOption) (r : Req)
    (h : clean r.path = specDocPath bp opts) : specMW bp b next opts r = .spec b := by
  simp [specMW, h]

/-- Any other request is handed to `next` exactly as received… -/
theorem spec_mw_passes_on (bp b : Bytes) (n : Handler) (opts : List SpecOption) (r : Req)
    (h : clean r.path ≠ specDocPath bp opts) : specMW bp b (some n) opts r = n r := by
  simp [specMW, h]

/-- …or answered 404 when there is no `next`. -/
theorem spec_mw_not_found (bp b : Bytes) (opts : List SpecOption) (r : Req)
    (h : clean r.path ≠ specDocPath bp opts) :
    specMW bp b none opts r = .notFound ctSpec404 := by
  simp [specMW, h]

/-- With a recording `next`: answered by the middleware iff the cleaned path is the document
path, and the method plays no role. -/
theorem spec_mw_iff (bp b : Bytes) (opts : List SpecOption) (r : Req) :
    (specMW bp b (some terminal) opts r = .spec b ↔ clean r.path = specDocPath bp opts) ∧
      (clean r.path ≠ specDocPath bp opts → specMW bp b (some terminal) opts r = .next r) := by
  by_cases hc : clean r.path = specDocPath bp opts
  · simp [spec_mw_answers bp b _ opts r hc, hc]
  · simp [spec_mw_passes_on bp b terminal opts r hc, hc, terminal]

example : specMW [] [123, 125] (some terminal) [] ⟨[71, 69, 84], Facts.c20DocsURL ++ [47, 46]⟩
    = .spec [123, 125] := by decide

/-- The model meets the Spec predicate of stream `S`: all base paths, options, bodies, requests. -/
theorem spec_mw_meets_spec (bp b : Bytes) (opts : List SpecOption) (hasNext : Bool) (r : Req) :
    specSpec bp opts b hasNext r
      (obsOf (specMW bp b (if hasNext then some terminal else none) opts r)) = true := by
  unfold specSpec specRule
  rw [cfgSpecPath_eq]
  by_cases hc : clean r.path = specDocPath bp opts
  · simp [spec_mw_answers bp b _ opts r hc, hc, obsOf, ctJSON_eq]
  · cases hasNext with
    | true => simp [spec_mw_passes_on bp b terminal opts r hc, hc, obsOf, terminal]
    | false => simp [spec_mw_not_found bp b opts r hc, hc, obsOf]

theorem ui_mw_answers (k : Kind) (o : Opts) (next : Option Handler) (r : Req)
    (h : clean r.path = uiDocPath k (ensureDefaults k o)) :
    uiMW k o next r = .page ⟨k, ensureDefaults k o⟩ := by
  simp [uiMW, serveUI, h]

theorem ui_mw_passes_on (k : Kind) (o : Opts) (n : Handler) (r : Req)
    (h : clean r.path ≠ uiDocPath k (ensureDefaults k o)) : uiMW k o (some n) r = n r := by
  simp [uiMW, serveUI, h]

theorem ui_mw_not_found (k : Kind) (o : Opts) (r : Req)
    (h : clean r.path ≠ uiDocPath k (ensureDefaults k o)) :
    uiMW k o none r = .notFound ctUI404 := by
  simp [uiMW, serveUI, h]

/-- Redoc, RapiDoc, SwaggerUI and the OAuth2 callback answer iff the cleaned path is the document
path; everything else reaches the recording `next` unchanged. -/
theorem ui_mw_iff (k : Kind) (o : Opts) (r : Req) :
    ((∃ p, uiMW k o (some terminal) r = .page p) ↔
        clean r.path = uiDocPath k (ensureDefaults k o)) ∧
      (clean r.path ≠ uiDocPath k (ensureDefaults k o) → uiMW k o (some terminal) r = .next r) := by
  by_cases hc : clean r.path = uiDocPath k (ensureDefaults k o)
  · simp [ui_mw_answers k o _ r hc, hc]
  · simp [ui_mw_passes_on k o terminal r hc, hc, terminal]

example : uiMW .swaggerui { basePath := [47, 97, 47] } (some terminal)
    ⟨[80, 85, 84], [47, 47, 97, 47, 46, 47, 100, 111, 99, 115, 47]⟩
      = .page ⟨.swaggerui, ensureDefaults .swaggerui { basePath := [47, 97, 47] }⟩ := by decide

/-- The model meets the Spec predicate of stream `M`: all kinds, options, requests. -/
theorem ui_mw_meets_spec (k : Kind) (o : Opts) (hasNext : Bool) (r : Req) :
    specUI k o hasNext r (obsOf (uiMW k o (if hasNext then some terminal else none) r)) = true := by
  unfold specUI specRule
  rw [cfgUIPath_eq]
  by_cases hc : clean r.path = uiDocPath k (ensureDefaults k o)
  · simp [ui_mw_answers k o _ r hc, hc, obsOf, ctHTML_eq]
  · cases hasNext with
    | true => simp [ui_mw_passes_on k o terminal r hc, hc, obsOf, terminal]
    | false => simp [ui_mw_not_found k o r hc, hc, obsOf]

/-- A document path is always a cleaned path or empty, so a request for the document path itself
is answered (except for an un-cleaned custom OAuth2 callback URL, which is used verbatim). -/
theorem ui_doc_path_is_clean (k : Kind) (hk : k ≠ .oauth2) (o : Opts) :
    clean (uiDocPath k (ensureDefaults k o)) = uiDocPath k (ensureDefaults k o) := by
  rw [uiDocPath_of_ne hk]
  have hb : (ensureDefaults k o).basePath ≠ [] := by
    rw [ensureDefaults_basePath]
    unfold orDefault
    split <;> simp_all [rootB]
  -- a non-empty first element makes `path.Join` return a cleaned path
  have : joinRaw [(ensureDefaults k o).basePath, (ensureDefaults k o).path] ≠ [] := by
    by_cases hp : (ensureDefaults k o).path = [] <;> simp [joinRaw, hb, hp]
  simp only [join, joinList, this, if_false]
  exact clean_idem _

/-- `Spec(dir, …, WithSpecDocument(file))` for `(dir, file) = path.Split(q)` serves at `clean q`. -/
theorem specDocPath_of_split (q : Bytes) (hr : isRooted q = true) (hf : (split q).2 ≠ []) :
    specDocPath (if (split q).1 = dot then [] else (split q).1) [.document (split q).2]
      = clean q := by
  obtain ⟨d, hd⟩ := split_of_rooted hr
  have hnd : (split q).1 ≠ dot := by rw [hd]; exact snoc_slash_ne_dot d
  have hne : (split q).1 ≠ [] := by simp [hd]
  rw [if_neg hnd]
  have hdoc : specOptionsWithDefaults [.document (split q).2]
      = ⟨Facts.c20SpecPath, (split q).2⟩ := by
    simp [specOptionsWithDefaults, SpecOption.apply, hf, defaultSpecOpts]
  simp only [specDocPath, hdoc, hne, if_false, specPath_default_nil]
  rw [join3_nil_mid]
  exact join_split q hf

/-- **UI and spec URL agree.**  If the effective spec location is absolute (absolute URL or
absolute path whose last element is not empty) with URL path `p`, the composed handler serves the
spec document at `clean p` — whatever the API base path, UI path, title and flavour. -/
theorem handler_spec_path_agrees (cb ti : Bytes) (opts : List UIOption) (p : Bytes)
    (h : locPath (effectiveLoc opts) = some p) :
    handlerSpecPath urlPath cb ti opts = clean p := by
  unfold handlerSpecPath uiOptionsForHandler
  simp only
  rw [specURL_ctx]
  by_cases hu : (uiOptionsWithDefaults opts).specURL = []
  · -- no spec URL configured: the page names the default location
    have hl : effectiveLoc opts = Facts.c20DocsURL := by simp [effectiveLoc, orDefault, hu]
    rw [hl] at h
    have hd := default_loc_agrees
    rw [h] at hd
    simp only [Option.map_some, Option.some.injEq] at hd
    rw [hu, urlPath_nil, hd]
    rfl
  · have hl : effectiveLoc opts = (uiOptionsWithDefaults opts).specURL := by
      simp [effectiveLoc, orDefault, hu]
    rw [hl] at h
    unfold locPath at h
    split at h
    · rename_i q hq
      split at h
      · rename_i hc
        simp only [Option.some.injEq] at h
        subst h
        simp only [Bool.and_eq_true, decide_eq_true_eq] at hc
        obtain ⟨⟨_, hr⟩, hf⟩ := hc
        rw [hq]
        exact specDocPath_of_split q hr hf
      · exact absurd h (by simp)
    · exact absurd h (by simp)

example : locPath [104, 116, 116, 112, 115, 58, 47, 47, 104, 47, 118, 49, 47, 97, 46, 106]
    = some [47, 118, 49, 47, 97, 46, 106] := by decide   -- https://h/v1/a.j ↦ /v1/a.j

example : locPath [47, 115, 47, 46, 46, 47, 97, 37, 50, 48, 98, 46, 106, 63, 120, 35, 102]
    = some [47, 115, 47, 46, 46, 47, 97, 32, 98, 46, 106] := by decide   -- /s/../a%20b.j?x#f

theorem wantedSpecPath_eq (cb ti : Bytes) (opts : List UIOption) :
    wantedSpecPath cb ti opts = handlerSpecPath urlPath cb ti opts := by
  unfold wantedSpecPath
  cases h : locPath (effectiveLoc opts) with
  | none => rfl
  | some p => exact (handler_spec_path_agrees cb ti opts p h).symm

theorem apiHandler_unfold (k : Kind) (cb ti raw : Bytes) (opts : List UIOption) (router : Handler)
    (r : Req) :
    apiHandler k cb ti raw opts router r =
      if clean r.path = handlerSpecPath urlPath cb ti opts then .spec raw
      else if clean r.path = handlerUIPath k cb ti opts then
        .page ⟨k, handlerUIOpts k cb ti opts⟩
      else router r := by
  rfl

/-- **The page references the very document served.**  For an absolute location with path `p`:
a request for `p` (any method; also any path that cleans to `clean p`) is answered with exactly
the raw spec, and every page the handler serves names the configured location. -/
theorem page_refers_to_served_document (k : Kind) (cb ti raw : Bytes) (opts : List UIOption)
    (router : Handler) (p : Bytes) (h : locPath (effectiveLoc opts) = some p) :
    (∀ m, apiHandler k cb ti raw opts router ⟨m, p⟩ = .spec raw) ∧
      (∀ r pg, apiHandler k cb ti raw opts router r = .page pg →
        router r ≠ .page pg → pg.opts.specURL = effectiveLoc opts) := by
  constructor
  · intro m
    rw [apiHandler_unfold]
    simp [handler_spec_path_agrees cb ti opts p h]
  · intro r pg hpg hr
    rw [apiHandler_unfold] at hpg
    split at hpg
    · exact absurd hpg (by simp)
    · split at hpg
      · simp only [Answer.page.injEq] at hpg
        subst hpg
        exact handlerUIOpts_specURL k cb ti opts
      · exact absurd hpg hr

/-- **API operations other than the two document paths remain reachable**: such a request arrives
at the router exactly as received (method, path). -/
theorem operations_stay_reachable (k : Kind) (cb ti raw : Bytes) (opts : List UIOption)
    (router : Handler) (r : Req)
    (h1 : clean r.path ≠ handlerSpecPath urlPath cb ti opts)
    (h2 : clean r.path ≠ handlerUIPath k cb ti opts) :
    apiHandler k cb ti raw opts router r = router r := by
  rw [apiHandler_unfold]
  simp [h1, h2]

example : apiHandler .redoc [47, 97] [84] [123, 125] [] terminal ⟨[71, 69, 84], [47, 97, 47, 112]⟩
    = .next ⟨[71, 69, 84], [47, 97, 47, 112]⟩ := by decide

/-- The model of the three API handlers meets the Spec predicate of stream `H`. -/
theorem handler_meets_spec (k : Kind) (hk : k ≠ .oauth2) (cb ti raw : Bytes)
    (opts : List UIOption) (r : Req) :
    specHandler cb ti opts r (hobsOf raw (apiHandler k cb ti raw opts terminal r)) = true := by
  unfold specHandler
  rw [wantedSpecPath_eq, ← handlerUIPath_eq k hk cb ti opts, apiHandler_unfold]
  by_cases h1 : clean r.path = handlerSpecPath urlPath cb ti opts
  · simp [h1, hobsOf, ctJSON_eq]
  · by_cases h2 : clean r.path = handlerUIPath k cb ti opts
    · simp only [if_neg h1, if_pos h2]
      simp [hobsOf, ctHTML_eq, handlerUIOpts_specURL]
    · simp [h1, h2, hobsOf, terminal]

/-- **Option values are escaped, once**: the page a UI middleware serves carries the title option (the
default title when none is given) — stream `M`'s title clause holds of the model. -/
theorem ui_mw_page_title (k : Kind) (o : Opts) (next : Option Handler) (r : Req) (p : Page)
    (hnext : ∀ n, next = some n → ∀ q, n r ≠ .page q)
    (h : uiMW k o next r = .page p) : p.opts.title = wantedTitle o.title := by
  by_cases hc : clean r.path = uiDocPath k (ensureDefaults k o)
  · rw [ui_mw_answers k o next r hc] at h
    cases h
    exact ensureDefaults_title k o
  · cases next with
    | none => simp [ui_mw_not_found k o r hc] at h
    | some n => exact absurd (ui_mw_passes_on k o n r hc ▸ h) (hnext n rfl p)

example : (ensureDefaults .redoc { title := [60, 98, 62] }).title = wantedTitle [60, 98, 62] := by decide

theorem handlerUIOpts_title (k : Kind) (cb ti : Bytes) (opts : List UIOption) :
    (handlerUIOpts k cb ti opts).title = handlerTitle cb ti opts := by
  rw [handlerUIOpts, ensureDefaults_title]
  rfl

/-- The composed handler's page shows the API's title, or the title option: stream `H`'s title clause
holds of the model. -/
theorem handler_meets_title_spec (k : Kind) (cb ti raw : Bytes) (opts : List UIOption) (r : Req) :
    specHandlerTitle cb ti opts (hobsOf raw (apiHandler k cb ti raw opts terminal r)) = true := by
  have hsu : (wSpec == wUI) = false := by decide
  have hnu : (wNext == wUI) = false := by decide
  unfold specHandlerTitle
  rw [apiHandler_unfold]
  by_cases h1 : clean r.path = handlerSpecPath urlPath cb ti opts
  · simp [h1, hobsOf, hsu]
  · by_cases h2 : clean r.path = handlerUIPath k cb ti opts
    · simp only [if_neg h1, if_pos h2]
      simp [hobsOf, handlerUIOpts_title]
    · simp [h1, h2, hobsOf, terminal, hnu]

/-- bytes that `url.Parse` neither splits at, decodes nor rejects -/
abbrev PlainPathByte (c : UInt8) : Prop := c ≠ 35 ∧ c ≠ 63 ∧ c ≠ 37 ∧ isCTL c = false

/-- Without `#`, `?` and control bytes `url.Parse` has nothing to cut off or reject up front: the
scheme scan and `parseRest` work on the whole string. -/
theorem urlPath_plain {u : Bytes} (h : ∀ x ∈ u, x ≠ 35 ∧ x ≠ 63 ∧ isCTL x = false) (hne : u ≠ [42]) :
    urlPath u = match schemeScan 0 u with
      | .missing => .err
      | .noScheme => parseRest false u
      | .at i => parseRest true (u.drop (i + 1)) := by
  have h35 : beforeB 35 u = u := takeWhile_eq_self fun x hx => by simpa using (h x hx).1
  have hfrag : afterB 35 u = [] := by
    unfold afterB
    rw [dropWhile_eq_nil fun x hx => by simpa using (h x hx).1]
    rfl
  have hctl : u.any isCTL = false := List.any_eq_false.2 fun x hx => by simp [(h x hx).2.2]
  have h63 : ∀ v : Bytes, (∀ x ∈ v, x ∈ u) → beforeB 63 v = v := fun v hv =>
    takeWhile_eq_self fun x hx => by simpa using (h x (hv x hx)).2.1
  unfold urlPath parseNoFrag
  rw [h35, hfrag]
  simp only [hctl, hne, Bool.false_eq_true, if_false]
  cases schemeScan 0 u with
  | missing => rfl
  | noScheme =>
    simp only [h63 u fun _ hx => hx]
    cases parseRest false u <;> rfl
  | «at» i =>
    simp only [h63 (u.drop (i + 1)) fun _ hx => List.mem_of_mem_drop hx]
    cases parseRest true (u.drop (i + 1)) <;> rfl

/-- An absolute path `/x…` (second byte not `/`) of plain bytes is its own URL path: `url.Parse`
neither splits, decodes nor rejects it, so the handler serves the spec at `clean` of the string
the page shows. -/
theorem urlPath_abs_path (c : UInt8) (rest : Bytes) (hc : c ≠ slash)
    (hp : ∀ x ∈ slash :: c :: rest, PlainPathByte x) :
    urlPath (slash :: c :: rest) = .ok (slash :: c :: rest) := by
  have hesc : unescapePath (slash :: c :: rest) = some (slash :: c :: rest) :=
    unescapePath_plain _ (fun x hx => (hp x hx).2.2.1)
  have hscan : schemeScan 0 (slash :: c :: rest) = .noScheme := by
    simp [schemeScan, slash, isAlpha, isDigit]
  have hpre : ([slash, slash] : Bytes).isPrefixOf (slash :: c :: rest) = false := by
    have : (slash == c) = false := by simpa using fun e => hc e.symm
    simp [List.isPrefixOf, this]
  rw [urlPath_plain (fun x hx => ⟨(hp x hx).1, (hp x hx).2.1, (hp x hx).2.2.2⟩) (by simp), hscan]
  simp [parseRest, isRooted, hpre, hesc]

example : urlPath [47, 97, 47, 98, 46, 106] = .ok [47, 97, 47, 98, 46, 106] :=
  urlPath_abs_path 97 [47, 98, 46, 106] (by decide) (by decide)

/-- Consequence for plain absolute paths: the page shows `loc`, the document is served at
`clean loc`. -/
theorem plain_abs_path_served_at_clean (cb ti : Bytes) (opts : List UIOption) (c : UInt8)
    (rest : Bytes) (hc : c ≠ slash) (hp : ∀ x ∈ slash :: c :: rest, PlainPathByte x)
    (hloc : effectiveLoc opts = slash :: c :: rest) (hdoc : (split (slash :: c :: rest)).2 ≠ []) :
    handlerSpecPath urlPath cb ti opts = clean (effectiveLoc opts) := by
  rw [hloc]
  apply handler_spec_path_agrees
  rw [hloc]
  simp [locPath, urlPath_abs_path c rest hc hp, isRooted, hdoc]

/-- no byte of `scheme://host/path` is `#`, `?` or a control byte -/
theorem abs_url_plain {scheme host rest : Bytes} (hsa : ∀ x ∈ scheme, isAlpha x = true)
    (hh : ∀ x ∈ host, isHostByte x = true) (hp : ∀ x ∈ slash :: rest, PlainPathByte x) :
    ∀ x ∈ scheme ++ 58 :: slash :: slash :: (host ++ slash :: rest),
      x ≠ 35 ∧ x ≠ 63 ∧ isCTL x = false := by
  have hsl : ∀ x ∈ slash :: rest, x ≠ 35 ∧ x ≠ 63 ∧ isCTL x = false :=
    fun x hx => ⟨(hp x hx).1, (hp x hx).2.1, (hp x hx).2.2.2⟩
  exact List.forall_mem_append.2 ⟨fun x h => (host_plain x (by simp [isHostByte, hsa x h])).1,
    List.forall_mem_cons.2 ⟨by decide, List.forall_mem_cons.2 ⟨by decide, List.forall_mem_cons.2 ⟨by decide,
      List.forall_mem_append.2 ⟨fun x h => (host_plain x (hh x h)).1, hsl⟩⟩⟩⟩⟩

/-- An absolute URL `scheme://host/path` with a plain path: `url.Parse(..).Path` is the path. -/
theorem urlPath_abs_url (scheme host : Bytes) (rest : Bytes) (hs : scheme ≠ [])
    (hsa : ∀ x ∈ scheme, isAlpha x = true) (hh : ∀ x ∈ host, isHostByte x = true)
    (hp : ∀ x ∈ slash :: rest, PlainPathByte x) :
    urlPath (scheme ++ 58 :: slash :: slash :: (host ++ slash :: rest)) = .ok (slash :: rest) := by
  have hscan := schemeScan_alpha scheme (slash :: slash :: (host ++ slash :: rest)) hsa 0
    (by have := List.length_pos_iff.mpr hs; omega)
  have hne : scheme ++ 58 :: slash :: slash :: (host ++ slash :: rest) ≠ [42] := by
    cases scheme with
    | nil => exact absurd rfl hs
    | cons a t => cases t <;> simp
  have hauth : beforeB slash (host ++ slash :: rest) = host :=
    takeWhile_append_cons rest (fun x hx => by simpa using (host_plain x (hh x hx)).2) (by simp)
  have hsimple : simpleAuthority host = true := by
    simp [simpleAuthority, takeWhile_eq_self hh]
  have hesc : unescapePath (slash :: rest) = some (slash :: rest) :=
    unescapePath_plain _ (fun x hx => (hp x hx).2.2.1)
  rw [urlPath_plain (abs_url_plain hsa hh hp) hne, hscan]
  simp [parseRest, isRooted, List.isPrefixOf, hauth, hsimple, hesc]

example : urlPath [104, 116, 116, 112, 115, 58, 47, 47, 104, 46, 105, 111, 47, 118, 49, 47, 97, 46, 106]
    = .ok [47, 118, 49, 47, 97, 46, 106] :=
  urlPath_abs_url [104, 116, 116, 112, 115] [104, 46, 105, 111] [118, 49, 47, 97, 46, 106]
    (by decide) (by decide) (by decide) (by decide)

/-- Consequence for absolute URLs: the document is served at `clean` of the URL's path. -/
theorem abs_url_served_at_clean_path (cb ti : Bytes) (opts : List UIOption)
    (scheme host rest : Bytes) (hs : scheme ≠ [])
    (hsa : ∀ x ∈ scheme, isAlpha x = true) (hh : ∀ x ∈ host, isHostByte x = true)
    (hp : ∀ x ∈ slash :: rest, PlainPathByte x)
    (hloc : effectiveLoc opts = scheme ++ 58 :: slash :: slash :: (host ++ slash :: rest))
    (hdoc : (split (slash :: rest)).2 ≠ []) :
    handlerSpecPath urlPath cb ti opts = clean (slash :: rest) := by
  apply handler_spec_path_agrees
  rw [hloc]
  have hsch : hasScheme (scheme ++ 58 :: slash :: slash :: (host ++ slash :: rest)) = true := by
    unfold hasScheme beforeB
    rw [takeWhile_eq_self fun x hx => by simpa using (abs_url_plain hsa hh hp x hx).1,
      schemeScan_alpha scheme _ hsa 0 (by have := List.length_pos_iff.mpr hs; omega)]
  simp [locPath, urlPath_abs_url scheme host rest hs hsa hh hp, hsch, isRooted, hdoc]

/-- Not proved as theorems (covered by stream `U` and the `decide` examples above): what
`url.Parse` yields for locations with a port, a query, a fragment or percent escapes.  The
agreement theorem `handler_spec_path_agrees` does not depend on it: it is stated for whatever
path the URL model yields. -/
def FullStatement_urlPath_general : Prop :=
  ∀ (scheme host port p q f : Bytes), scheme ≠ [] → (∀ x ∈ scheme, isAlpha x = true) →
    (∀ x ∈ host, isHostByte x = true) → (∀ x ∈ port, isDigit x = true) → isRooted p = true →
    (∀ x ∈ p, x ≠ 35 ∧ x ≠ 63 ∧ isCTL x = false) → (∀ x ∈ q, x ≠ 35 ∧ isCTL x = false) →
    (∃ p', unescapePath p = some p') → (unescapePath f).isSome →
    urlPath (scheme ++ [58, 47, 47] ++ host ++ 58 :: port ++ p ++ 63 :: q ++ 35 :: f)
      = (match unescapePath p with | some p' => .ok p' | none => .err)

end RtVerif.C20
