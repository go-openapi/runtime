import RtVerif.Model.C05DA
import RtVerif.Lemmas.C05DALookup
import RtVerif.Lemmas.C05DACheck
import RtVerif.Lemmas.C05DABuild2
/-
  The BASE/CHECK double array refines the trie model of C05.  Whatever `Router.Build` (model
  `routerBuild`, with the concrete `findBase`) accepts, the arrays it leaves represent the implicit trie
  of the sorted parameterised records (`Repr`, the Prop form of the decidable check `reprB` the driver
  applies to the REAL arrays); on ANY arrays that represent a trie node, `doubleArray.lookup` (greedy
  walk, then BACKTRACKING) returns what the DFS `C05.look` returns, however the arrays were allocated.
  Together: `Router.Build` + `Router.Lookup` on the arrays = `C05.build` + `C05.lookup` on the trie,
  and the C05 theorems hold of the array router.
-/
namespace RtVerif.C05DA
open RtVerif Bytes
open RtVerif.C05 (Rec cParam cWild cTerm cSep sortRecs leafOf weight look NulFree)

/-- **Refinement of `lookup`** (independent of the allocator): on arrays that represent the trie
node `rs` at the element `idx`, `doubleArray.lookup` returns the leaf (names, value) and the
parameter texts the DFS returns, or misses when the DFS misses; no panic, no fuel exhaustion. -/
theorem lookup_refines (bc : BC) (node : Array (Option Node)) (fuel : Nat) (rs : List Rec) (idx : Nat)
    (path : Bytes) (vals : List Bytes) (hR : Repr bc node idx rs) (hT : TermAll rs)
    (hf : weight rs < fuel) :
    lookupF bc node fuel path vals idx =
      match look rs path vals with
      | some f => .found (some ⟨f.r.names, f.r.val⟩) f.vals
      | none => .miss := by
  rw [lookupF_spec bc node fuel rs idx path vals hR hT hf]
  cases look rs path vals <;> rfl

/-- The decidable check the driver applies to the REAL arrays (read through the hook
`Router.VerifDump`) is sufficient: arrays that pass it — however they were allocated — answer every
lookup as the trie does. -/
theorem checked_arrays_refine (bc : BC) (node : Array (Option Node)) (f fuel : Nat) (rs : List Rec)
    (path : Bytes) (hchk : reprB bc node f rootIndex rs = true) (hT : TermAll rs) (hf : weight rs < fuel) :
    lookupF bc node fuel path [] rootIndex =
      match look rs path [] with
      | some r => .found (some ⟨r.r.names, r.r.val⟩) r.vals
      | none => .miss :=
  lookup_refines bc node fuel rs rootIndex path [] (reprB_sound bc node f rootIndex rs hchk) hT hf

/-- **Refinement of the router**: for every record list both `Build`s accept and every path, the
double-array router answers exactly as the trie router: the same value with the same parameter names
and texts, or the same miss. -/
theorem router_refines (recs : List (Bytes × Nat)) (rt : Router) (t : C05.Table) (path : Bytes)
    (hda : routerBuild recs = .ok rt) (hb : C05.build recs = .ok t) :
    routerLookup rt path = ofC05 (C05.lookup t path) := by
  obtain ⟨hst, hpar, hbad⟩ := C05.build_ok hb
  have h := routerBuild_good (trieBuild_ok hb).1
  rw [hda] at h
  obtain ⟨_, hst', hfuel, hcase⟩ := h
  unfold routerLookup C05.lookup
  rw [hst, hst']
  cases hs : C05.staticLookup (recs.filter fun kv => !C05.isParamKey kv.1) path with
  | some v => rfl
  | none =>
    simp only
    rcases hcase with ⟨hp, _, hnode⟩ | ⟨hp, hrepr, hnode⟩
    · rw [hnode, hpar, hp, show sortRecs [] = [] from rfl, look_nil]
      rfl
    · have hT : TermAll t.params := fun r hr => by
        rw [hpar, C05.mem_sortRecs] at hr
        exact termAll_paramRecs hbad r hr
      have hfuel' : weight t.params < rt.fuel := by
        rw [hfuel, hpar, C05.weight_sortRecs]; exact Nat.lt_succ_self _
      rw [if_neg (by simp; omega), lookupF_spec rt.bc rt.node _ t.params rootIndex path [] (hpar ▸ hrepr) hT hfuel']
      cases hl : look t.params path [] with
      | none => rfl
      | some f =>
        have har := C05.lookup_arity recs t path f.r.val f.r.names f.vals hb (by simp only [C05.lookup, hst, hs, hl])
        simp only [ofLook, ofC05]
        rw [if_neg (by omega), har, List.take_length]

/-- **Totality of the array `Build`** (the fuel of the model suffices, no Go panic is reachable):
whatever the trie model accepts, `Router.Build` on the arrays accepts too — `findBase` terminates,
`build` terminates, `makeSiblings` never reports an unsorted table, no index is out of range, no name is
reported duplicated — unless it refuses the table for its size (more than `MaxSize` records, or a
BASE beyond `MaxSize`). -/
theorem routerBuild_total (recs : List (Bytes × Nat)) (t : C05.Table) (hb : C05.build recs = .ok t) :
    (∃ rt, routerBuild recs = .ok rt) ∨ routerBuild recs = .error .tooManyRecords ∨
      routerBuild recs = .error .tooManyElems := by
  obtain ⟨hbad, hclean⟩ := trieBuild_ok hb
  have h := routerBuild_good hbad
  cases hr : routerBuild recs with
  | ok rt => exact Or.inl ⟨rt, rfl⟩
  | error e =>
    rw [hr] at h
    rcases h with rfl | rfl | ⟨_, hd⟩
    · exact Or.inr (Or.inl rfl)
    · exact Or.inr (Or.inr rfl)
    · rw [hclean] at hd; cases hd

/-- **Every outcome of the array `Build` is one the Go code can produce without crashing**, for
ALL record lists: a router, or one of its four errors; the model's `panic`, `fuel` and the
"BUG: routing table hasn't been sorted" outcomes are unreachable. -/
theorem routerBuild_outcomes (recs : List (Bytes × Nat)) :
    (∃ rt, routerBuild recs = .ok rt) ∨ routerBuild recs = .error .reserved ∨
      routerBuild recs = .error .tooManyRecords ∨ routerBuild recs = .error .tooManyElems ∨
      routerBuild recs = .error .dupName := by
  cases hbad : hasBad recs with
  | true => exact Or.inr (Or.inl (routerBuild_reserved hbad))
  | false =>
    have h := routerBuild_good hbad
    cases hr : routerBuild recs with
    | ok rt => exact Or.inl ⟨rt, rfl⟩
    | error e =>
      rw [hr] at h
      rcases h with rfl | rfl | ⟨rfl, _⟩
      · exact Or.inr (Or.inr (Or.inl rfl))
      · exact Or.inr (Or.inr (Or.inr (Or.inl rfl)))
      · exact Or.inr (Or.inr (Or.inr (Or.inr rfl)))

/-- **What the array `Build` accepts, the trie `Build` accepts**: `makeNode` has refused every
duplicated parameter name `C05.build` scans for. -/
theorem trie_accepts (recs : List (Bytes × Nat)) (rt : Router) (hda : routerBuild recs = .ok rt) :
    ∃ t, C05.build recs = .ok t := by
  cases hbad : hasBad recs with
  | true => rw [routerBuild_reserved hbad] at hda; cases hda
  | false =>
    have h := routerBuild_good hbad
    rw [hda] at h
    exact ⟨_, by rw [trieBuild_eq, hbad, h.1]; rfl⟩

/-- **The refinement, from the array side alone**: for every record list the array `Build` accepts
there is the trie table `C05.build` makes of it, and on every path the array router answers as the
trie router. -/
theorem router_refines' (recs : List (Bytes × Nat)) (rt : Router) (hda : routerBuild recs = .ok rt) :
    ∃ t, C05.build recs = .ok t ∧ ∀ path, routerLookup rt path = ofC05 (C05.lookup t path) := by
  obtain ⟨t, hb⟩ := trie_accepts recs rt hda
  exact ⟨t, hb, fun path => router_refines recs rt t path hda hb⟩

/-- the two `Build`s refuse the same tables for the same reason (sizes apart) -/
theorem build_errors_agree (recs : List (Bytes × Nat)) :
    (routerBuild recs = .error .reserved ↔ C05.build recs = .errReserved) ∧
    (routerBuild recs = .error .dupName → C05.build recs = .errDupName) := by
  rw [trieBuild_eq]
  cases hbad : hasBad recs with
  | true => rw [routerBuild_reserved hbad]; exact ⟨⟨fun _ => rfl, fun _ => rfl⟩, nofun⟩
  | false =>
    have h := routerBuild_good hbad
    refine ⟨⟨fun hr => ?_, by cases hasDupLeaf recs <;> exact nofun⟩, fun hr => ?_⟩
    · rw [hr] at h
      rcases h with h | h | ⟨h, _⟩ <;> cases h
    · rw [hr] at h
      rcases h with h | h | ⟨_, hd⟩
      · cases h
      · cases h
      · rw [hd]; rfl

/-- `C05.lookup_spec` for the double-array router: its answer satisfies the very predicate
`specLookup` (sound, complete for non-empty texts, static first, literal < parameter < wildcard). -/
theorem lookup_spec_da (recs : List (Bytes × Nat)) (rt : Router) (t : C05.Table) (path : Bytes)
    (hda : routerBuild recs = .ok rt) (hb : C05.build recs = .ok t) :
    ∃ o, routerLookup rt path = ofC05 o ∧ C05.specLookup recs path o = true :=
  ⟨C05.lookup t path, router_refines recs rt t path hda hb, C05.lookup_spec recs t path hb⟩

/-- no index out of range in `Router.Lookup`'s name-filling loop, no nil node, no panic at all:
the double-array router returns `found` or `notFound` -/
theorem lookup_total_da (recs : List (Bytes × Nat)) (rt : Router) (t : C05.Table) (path : Bytes)
    (hda : routerBuild recs = .ok rt) (hb : C05.build recs = .ok t) :
    routerLookup rt path ≠ .panic ∧ routerLookup rt path ≠ .fuel := by
  rw [router_refines recs rt t path hda hb]
  cases C05.lookup t path <;> simp [ofC05]

/-- `C05.lookup_arity` (T5) for the double-array router. -/
theorem lookup_arity_da (recs : List (Bytes × Nat)) (rt : Router) (t : C05.Table) (path : Bytes)
    (v : Nat) (names vals : List Bytes)
    (hda : routerBuild recs = .ok rt) (hb : C05.build recs = .ok t)
    (h : routerLookup rt path = .found v names vals) : vals.length = names.length := by
  rw [router_refines recs rt t path hda hb] at h
  cases hl : C05.lookup t path with
  | notFound => rw [hl] at h; cases h
  | found v' names' vals' =>
    rw [hl] at h
    simp only [ofC05, Out.found.injEq] at h
    obtain ⟨_, rfl, rfl⟩ := h
    exact C05.lookup_arity recs t path _ _ _ hb hl

/-- order independence (C05 T6) at the double-array level: for records with pairwise distinct keys,
two permutations that both `Build`s accept give routers that answer every path alike (although the
arrays themselves may differ). -/
theorem route_perm_da (recs recs' : List (Bytes × Nat)) (rt rt' : Router) (t t' : C05.Table)
    (path : Bytes) (hp : recs.Perm recs') (hnd : (recs.map (·.1)).Nodup)
    (hda : routerBuild recs = .ok rt) (hb : C05.build recs = .ok t)
    (hda' : routerBuild recs' = .ok rt') (hb' : C05.build recs' = .ok t') :
    routerLookup rt path = routerLookup rt' path := by
  rw [router_refines recs rt t path hda hb, router_refines recs' rt' t' path hda' hb']
  have := C05.route_perm recs recs' path hp hnd
  unfold C05.route at this
  rw [hb, hb'] at this
  simp only [Sum.inl.injEq] at this
  rw [this]

/-- The layout of `baseCheck` (22 bits of BASE above 2 flag bits above 8 bits of CHECK), `MaxSize`,
`rootIndex`, and the bodies of `nextIndex`, `isFree`, `IsEmpty`, `Base`, `Check`, `IsSingleParam`,
`IsWildcardParam`, `IsAnyParam` are what `Elem.encode`, `maxSize`, `rootIndex`, `nextIndex`, `isFree`,
`Elem.isEmpty`, … were written from: a change of any of them in router.go breaks this theorem. -/
theorem code_facts :
    Facts.dencoFlagsBits = 10 ∧ Facts.dencoCheckBits = 8 ∧ Facts.dencoMaxSize = maxSize ∧
    Facts.dencoRootIndex = rootIndex ∧ Facts.dencoParamTypeSingle = 256 ∧
    Facts.dencoParamTypeWildcard = 512 ∧ Facts.dencoParamTypeAny = 768 ∧
    -- base ^ int(c)
    Facts.dencoNextIndexExpr = [98, 97, 115, 101, 32, 94, 32, 105, 110, 116, 40, 99, 41] ∧
    -- i != rootIndex && da.bc[i].IsEmpty()
    Facts.dencoIsFreeExpr = [105, 32, 33, 61, 32, 114, 111, 111, 116, 73, 110, 100, 101, 120, 32, 38, 38, 32,
      100, 97, 46, 98, 99, 91, 105, 93, 46, 73, 115, 69, 109, 112, 116, 121, 40, 41] ∧
    -- bc&0xfffffcff == 0
    Facts.dencoIsEmptyExpr = [98, 99, 38, 48, 120, 102, 102, 102, 102, 102, 99, 102, 102, 32, 61, 61, 32, 48] ∧
    -- int(bc >> flagsBits)
    Facts.dencoBaseExpr = [105, 110, 116, 40, 98, 99, 32, 62, 62, 32, 102, 108, 97, 103, 115, 66, 105, 116, 115, 41] ∧
    -- byte(bc)
    Facts.dencoCheckExpr = [98, 121, 116, 101, 40, 98, 99, 41] ∧
    -- bc&paramTypeSingle == paramTypeSingle
    Facts.dencoIsSingleExpr = [98, 99, 38, 112, 97, 114, 97, 109, 84, 121, 112, 101, 83, 105, 110, 103, 108, 101,
      32, 61, 61, 32, 112, 97, 114, 97, 109, 84, 121, 112, 101, 83, 105, 110, 103, 108, 101] ∧
    -- bc&paramTypeWildcard == paramTypeWildcard
    Facts.dencoIsWildcardExpr = [98, 99, 38, 112, 97, 114, 97, 109, 84, 121, 112, 101, 87, 105, 108, 100, 99, 97,
      114, 100, 32, 61, 61, 32, 112, 97, 114, 97, 109, 84, 121, 112, 101, 87, 105, 108, 100, 99, 97, 114, 100] ∧
    -- bc&paramTypeAny != 0
    Facts.dencoIsAnyExpr = [98, 99, 38, 112, 97, 114, 97, 109, 84, 121, 112, 101, 65, 110, 121, 32, 33, 61, 32, 48] := by
  decide

/-! ## non-vacuity: a concrete table meets the hypotheses (evaluated by the kernel; larger tables
are evaluated by the compiled driver on every run: the tags `elems…` of the evidence) -/

/-- "/:a" (value 0) and the static "/b" (value 1) -/
def exRecs : List (Bytes × Nat) := [([47, 58, 97], 0), ([47, 98], 1)]

/-- the one evaluation: `Router.Build` accepts `exRecs`, and the router answers three paths as expected -/
theorem exRecs_routed : (match routerBuild exRecs with
    | .ok rt =>
      routerLookup rt [47, 120] == .found 0 [[97]] [[120]] &&
      routerLookup rt [47, 98] == .found 1 [] [] &&
      routerLookup rt [47] == .notFound
    | _ => false) = true := by decide

set_option maxRecDepth 100000 in
example : (match routerBuild exRecs with | .ok _ => true | .error _ => false) = true := by
  have h := exRecs_routed
  cases hr : routerBuild exRecs with
  | error e => rw [hr] at h; cases h
  | ok rt => rfl

/- the trie `Build` walks 256 possible edges per level; its acceptance follows from `trie_accepts` -/
set_option maxRecDepth 100000 in
example : (match C05.build exRecs with | .ok _ => true | _ => false) = true := by
  have h := exRecs_routed
  cases hr : routerBuild exRecs with
  | error e => rw [hr] at h; cases h
  | ok rt => obtain ⟨t, ht⟩ := trie_accepts _ _ hr; rw [ht]

set_option maxRecDepth 100000 in
example : (match routerBuild exRecs with
    | .ok rt =>
      routerLookup rt [47, 120] == .found 0 [[97]] [[120]] &&
      routerLookup rt [47, 98] == .found 1 [] [] &&
      routerLookup rt [47] == .notFound
    | _ => false) = true := exRecs_routed

end RtVerif.C05DA
