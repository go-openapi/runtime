import RtVerif.Model.C06
import RtVerif.Lemmas.C06
/-
  All statements are for EVERY API configuration (`consumes` list, default, registrations), EVERY
  request head and EVERY parser `pmt` satisfying `PmtOK` (what is assumed of
  `mime.ParseMediaType`: the type it returns parses to itself, is not empty and holds no `;` — each
  clause is re-checked on every harness case against the real function).  `WF api` is the
  property's own quantifier: consumes entries are spelled in lower case.

  The WHOLE functions (`typedFull` = `Context.BindValidRequest`: gate, response-format check, binder;
  `untypedFull` = `validateRequest`/`BindAndValidate`) are treated for every parsed Accept header,
  produces list and binder (nil / succeeding / failing).
-/
namespace RtVerif.C06
open RtVerif Bytes

/-- The property: the reflective gate (behind `Context.BindAndValidate`) meets the Spec. -/
theorem untyped_meets_spec {pmt : Pmt} (hp : PmtOK pmt) {api : Api} (hwf : WF api = true) (h : ReqHead) :
    Spec pmt api h (gateUntyped pmt api h) = true := by
  rw [gateUntyped_eq_nf pmt api h hp.nonempty]
  exact gateNF_meets_spec hp hwf h

/-- T4 — the two binding entry points accept or refuse the same requests and pick the same
consumer. Needs only that the parser never returns an empty type: for an empty type the reflective
gate skips the consumer lookup while the typed one answers 500. -/
theorem typed_eq_untyped {pmt : Pmt} (hne : ∀ x t, pmt x = some t → t ≠ []) (api : Api) (h : ReqHead) :
    gateTyped pmt api h = gateUntyped pmt api h := by
  rw [gateTyped_eq_nf, gateUntyped_eq_nf pmt api h hne]

/-- The gate of generated servers (`Context.BindValidRequest`) meets the Spec. -/
theorem typed_meets_spec {pmt : Pmt} (hp : PmtOK pmt) {api : Api} (hwf : WF api = true) (h : ReqHead) :
    Spec pmt api h (gateTyped pmt api h) = true := by
  rw [typed_eq_untyped hp.nonempty]
  exact untyped_meets_spec hp hwf h

/-- What is seen downstream (consumer that decodes, handler) meets the Spec too. -/
theorem model_obs_meets_spec {pmt : Pmt} (hp : PmtOK pmt) {api : Api} (hwf : WF api = true) (h : ReqHead) :
    SpecObs pmt api h (modelObs (gateUntyped pmt api h)) = true := by
  unfold SpecObs modelObs
  rw [untyped_meets_spec hp hwf h]
  cases gateUntyped pmt api h <;> simp [consumerRan, handlerRan]

/-- DESIGN §2.2 shape; `Known` is empty for C06 (F06a was repaired). -/
theorem holds_outside_known {pmt : Pmt} (hp : PmtOK pmt) {api : Api} (hwf : WF api = true) (h : ReqHead)
    (_ : Known api h = none) : Spec pmt api h (gateUntyped pmt api h) = true :=
  untyped_meets_spec hp hwf h

/-- T1 — a consumer is selected only for a body-carrying request whose lower-cased, parameter-free
type is admitted by `consumes ∪ {default}` (directly or through a wildcard entry), and it is the
consumer registered for exactly that type. (No `WF` needed.) -/
theorem consumer_only_for_admitted {pmt : Pmt} (hp : PmtOK pmt) (api : Api) (h : ReqHead) (k : Nat)
    (hk : gateUntyped pmt api h = .consumer k) :
    carriesBody h = true ∧ ∃ t, mediaType pmt h = some t ∧ admitted (allConsumes api) t = true ∧
      regLookup api.registered t = some k := by
  rw [gateUntyped_eq_nf pmt api h hp.nonempty, gateNF] at hk
  split at hk
  · rename_i hb
    refine ⟨hb, ?_⟩
    split at hk
    · cases hk
    · rename_i t hx
      rw [validate_eq_admitted hp api hx] at hk
      split at hk
      · rename_i ha
        split at hk <;> cases hk
        rename_i hc
        exact ⟨t, hx, ha, routeConsumer_some hc⟩
      · cases hk
  · cases hk

/-- T2 (415) — a body-carrying request whose type is not admitted is answered 415 and neither a
consumer nor the handler runs. -/
theorem refused_415 {pmt : Pmt} (hp : PmtOK pmt) (api : Api) (h : ReqHead) (t : Bytes)
    (hb : carriesBody h = true) (ht : mediaType pmt h = some t)
    (hna : admitted (allConsumes api) t = false) :
    gateUntyped pmt api h = .e415 ∧ consumerRan (gateUntyped pmt api h) = none ∧
      handlerRan (gateUntyped pmt api h) = false := by
  have : gateUntyped pmt api h = .e415 := by
    rw [gateUntyped_eq_nf pmt api h hp.nonempty, gateNF]
    simp only [hb, ↓reduceIte, ht, validate_eq_admitted hp api ht, hna, Bool.false_eq_true]
  rw [this]
  exact ⟨rfl, rfl, rfl⟩

/-- T2 (400) — a body-carrying request whose Content-Type cannot be parsed is answered 400 and
neither a consumer nor the handler runs. (No hypothesis on the parser.) -/
theorem refused_400 (pmt : Pmt) (api : Api) (h : ReqHead)
    (hb : carriesBody h = true) (ht : mediaType pmt h = none) :
    gateUntyped pmt api h = .e400 ∧ gateTyped pmt api h = .e400 ∧
      consumerRan (gateUntyped pmt api h) = none ∧ handlerRan (gateUntyped pmt api h) = false := by
  have hu : gateUntyped pmt api h = .e400 := by
    unfold gateUntyped untypedRaw
    simp [hasBody_eq_carries, hb, uStep1, runtimeContentType_eq, ht, uStep2, uStep3, observe, GateOut.ofErr]
  have ht' : gateTyped pmt api h = .e400 := by
    rw [gateTyped_eq_nf, gateNF]; simp [hb, ht]
  rw [hu, ht']
  exact ⟨rfl, rfl, rfl, rfl⟩

/-- T3 — a request without a body is not subjected to the check (whatever its Content-Type, the
consumes list and the parser), no consumer decodes anything and the handler runs. -/
theorem no_body_not_checked (pmt : Pmt) (api : Api) (h : ReqHead) (hb : carriesBody h = false) :
    gateUntyped pmt api h = .skipped ∧ gateTyped pmt api h = .skipped ∧
      consumerRan (gateUntyped pmt api h) = none ∧ handlerRan (gateUntyped pmt api h) = true := by
  have hu : gateUntyped pmt api h = .skipped := by
    unfold gateUntyped untypedRaw; simp [hasBody_eq_carries, hb, observe]
  have ht : gateTyped pmt api h = .skipped := by
    rw [gateTyped_eq_nf, gateNF]; simp [hb]
  rw [hu, ht]
  exact ⟨rfl, rfl, rfl, rfl⟩

/-- Positive direction: a body-carrying request whose type is spelled in `consumes ∪ {default}`
and registered is decoded by that registration (by both entry points). -/
theorem listed_and_registered_is_decoded {pmt : Pmt} (hp : PmtOK pmt) {api : Api} (hwf : WF api = true)
    (h : ReqHead) (t : Bytes) (k : Nat) (hb : carriesBody h = true) (ht : mediaType pmt h = some t)
    (hl : listedAsSpelled (allConsumes api) t = true) (hr : regLookup api.registered t = some k) :
    gateUntyped pmt api h = .consumer k ∧ gateTyped pmt api h = .consumer k := by
  have hadm : admitted (allConsumes api) t = true :=
    List.any_eq_true.mpr ⟨t, by simpa [listedAsSpelled] using hl, by simp [entryAdmits, equalFold]⟩
  have key : gateNF pmt api h = .consumer k := by
    rw [gateNF]
    simp only [hb, ↓reduceIte, ht, validate_eq_admitted hp api ht, hadm,
      routeConsumer_of_listed hwf (hp.nosemi _ _ (mediaType_eq pmt h ▸ ht)) hl hr]
  rw [gateTyped_eq_nf, gateUntyped_eq_nf pmt api h hp.nonempty]
  exact ⟨key, key⟩

/-- Neither gate lets a body through without a consumer (which would make the binder call
`Consume` on a nil interface). -/
theorem never_passes_without_consumer {pmt : Pmt} (hne : ∀ x t, pmt x = some t → t ≠ []) (api : Api)
    (h : ReqHead) :
    gateUntyped pmt api h ≠ .passNoConsumer ∧ gateTyped pmt api h ≠ .passNoConsumer := by
  rw [gateTyped_eq_nf, gateUntyped_eq_nf pmt api h hne]
  exact ⟨gateNF_ne_pass pmt api h, gateNF_ne_pass pmt api h⟩

/-- "x all methods": the gate does not look at the method. -/
theorem gate_ignores_method (pmt : Pmt) (api : Api) (h : ReqHead) (m : Bytes) :
    gateUntyped pmt api { h with method := m } = gateUntyped pmt api h ∧
      gateTyped pmt api { h with method := m } = gateTyped pmt api h := ⟨rfl, rfl⟩

/-- "ignoring parameters such as charset", case, whitespace: two requests whose headers the parser
maps to the same result, and which both carry a body (or both do not), get the same outcome. -/
theorem gate_depends_only_on_parsed_type {pmt : Pmt} (hne : ∀ x t, pmt x = some t → t ≠ []) (api : Api)
    (h h' : ReqHead) (hb : carriesBody h = carriesBody h')
    (ht : mediaType pmt h = mediaType pmt h') :
    gateUntyped pmt api h = gateUntyped pmt api h' := by
  rw [gateUntyped_eq_nf pmt api h hne, gateUntyped_eq_nf pmt api h' hne, gateNF, gateNF, hb, ht]

/-- The Spec pins the outcome, except for an admitted registered type that is not itself spelled in
the list (admitted through a wildcard only), where 500 and the registered consumer are both accepted. -/
theorem spec_functional (pmt : Pmt) (api : Api) (h : ReqHead) (o₁ o₂ : GateOut)
    (h₁ : Spec pmt api h o₁ = true) (h₂ : Spec pmt api h o₂ = true) :
    o₁ = o₂ ∨ ∃ t, mediaType pmt h = some t ∧ listedAsSpelled (allConsumes api) t = false ∧
      (regLookup api.registered t).isSome = true := by
  -- in every case but the one named, the Spec is met by exactly one outcome `x`
  refine Or.imp_left (fun ⟨x, hx⟩ => (hx o₁ h₁).trans (hx o₂ h₂).symm)
    (?_ : (∃ x, ∀ o, Spec pmt api h o = true → o = x) ∨ _)
  unfold Spec
  cases carriesBody h
  · exact Or.inl ⟨.skipped, fun o ho => by simpa using ho⟩
  cases hm : mediaType pmt h with
  | none => exact Or.inl ⟨.e400, fun o ho => by simpa using ho⟩
  | some t =>
    dsimp only
    cases ha : admitted (allConsumes api) t
    · exact Or.inl ⟨.e415, fun o ho => by simpa using ho⟩
    cases hr : regLookup api.registered t with
    | none => exact Or.inl ⟨.e500NoConsumer, fun o ho => by cases o <;> simp_all⟩
    | some k =>
      cases hl : listedAsSpelled (allConsumes api) t with
      | false => exact Or.inr ⟨t, rfl, hl, by rw [hr]; rfl⟩
      | true => exact Or.inl ⟨.consumer k, fun o ho => by cases o <;> simp_all⟩

/-! ### non-vacuity: a concrete parser meeting `PmtOK`, and concrete non-trivial inputs -/

def bTextPlain : Bytes := [116, 101, 120, 116, 47, 112, 108, 97, 105, 110]          -- "text/plain"
def bTextPlainSpelled : Bytes := [84, 101, 120, 116, 47, 80, 108, 97, 105, 110, 59, 32, 99, 104, 97, 114, 115, 101, 116, 61, 117, 116, 102, 45, 56]   -- "Text/Plain; charset=utf-8"
def bJson : Bytes := [97, 112, 112, 108, 105, 99, 97, 116, 105, 111, 110, 47, 106, 115, 111, 110]               -- "application/json"
def bTextStar : Bytes := [116, 101, 120, 116, 47, 42]           -- "text/*"
def bPost : Bytes := [80, 79, 83, 84]               -- "POST"

/-- a three-line table standing for the parser -/
def tablePmt : Pmt := fun x =>
  if x == bTextPlainSpelled then some bTextPlain
  else if x == bTextPlain then some bTextPlain
  else if x == bJson then some bJson
  else none

theorem tablePmt_ok : PmtOK tablePmt := by
  have key : ∀ x t, tablePmt x = some t → t = bTextPlain ∨ t = bJson := by
    intro x t h
    unfold tablePmt at h
    split at h
    · exact Or.inl (Option.some.inj h).symm
    · split at h
      · exact Or.inl (Option.some.inj h).symm
      · split at h
        · exact Or.inr (Option.some.inj h).symm
        · cases h
  constructor
  · intro x t h; rcases key x t h with rfl | rfl <;> decide
  · intro x t h; rcases key x t h with rfl | rfl <;> decide
  · intro x t h; rcases key x t h with rfl | rfl <;> decide

/-- consumes `text/plain`; default `application/json`; registrations json (0), text/plain (1) -/
def exApi : Api := ⟨[bTextPlain], bJson, [bJson, bTextPlain]⟩
/-- consumes `text/*` only; the same registrations -/
def exWildApi : Api := ⟨[bTextStar], [], [bJson, bTextPlain]⟩
/-- POST, `Content-Type: Text/Plain; charset=utf-8`, chunked body -/
def exReq : ReqHead := ⟨bPost, [bTextPlainSpelled], -1, [], true⟩
/-- the same with a JSON label and Content-Length 7 -/
def exJsonReq : ReqHead := ⟨bPost, [bJson], 7, [55], false⟩
/-- an unparsable label -/
def exBadReq : ReqHead := ⟨bPost, [[47, 106]], 7, [55], false⟩

example : WF exApi = true ∧ WF exWildApi = true := by decide
-- T1 / the positive direction: the spelled header reaches consumer 1 by both entry points
example : gateUntyped tablePmt exApi exReq = .consumer 1 ∧ gateTyped tablePmt exApi exReq = .consumer 1 := by
  decide
example : carriesBody exReq = true ∧ mediaType tablePmt exReq = some bTextPlain ∧
    listedAsSpelled (allConsumes exApi) bTextPlain = true ∧
    regLookup exApi.registered bTextPlain = some 1 := by decide
-- the API default is part of the list: JSON is decoded by consumer 0
example : gateUntyped tablePmt exApi exJsonReq = .consumer 0 := by decide
-- T2: JSON is not admitted by `text/*` -> 415; an unparsable label -> 400
example : carriesBody exJsonReq = true ∧ mediaType tablePmt exJsonReq = some bJson ∧
    admitted (allConsumes exWildApi) bJson = false ∧
    gateUntyped tablePmt exWildApi exJsonReq = .e415 := by decide
example : carriesBody exBadReq = true ∧ mediaType tablePmt exBadReq = none ∧
    gateTyped tablePmt exApi exBadReq = .e400 := by decide
-- T3: Content-Length: 0 -> not checked although the label is not admitted
example : carriesBody { exJsonReq with contentLength := 0, clHeader := [48], streamHasData := true } = false ∧
    gateUntyped tablePmt exWildApi { exJsonReq with contentLength := 0, clHeader := [48], streamHasData := true }
      = .skipped := by decide
-- the case `spec_functional` leaves open is real: admitted through `text/*` only -> 500, and the
-- Spec accepts it
example : gateUntyped tablePmt exWildApi exReq = .e500NoConsumer ∧
    Spec tablePmt exWildApi exReq .e500NoConsumer = true ∧
    admitted (allConsumes exWildApi) bTextPlain = true := by decide
-- the Spec is not vacuous: it rejects every other outcome on that request but the registered consumer
example : Spec tablePmt exWildApi exReq .e415 = false ∧ Spec tablePmt exWildApi exReq .skipped = false ∧
    Spec tablePmt exWildApi exReq (.consumer 0) = false ∧ Spec tablePmt exApi exReq .e500NoConsumer = false := by
  decide

/-- The whole of `Context.BindValidRequest` meets the Spec: for every API, request head, parsed
Accept header, produces list `t.produces` holding the declared types (as a set, no empty entry) and
every binder (nil, succeeding, failing). -/
theorem typedFull_meets_spec {pmt : Pmt} (hp : PmtOK pmt) {api : Api} (hwf : WF api = true) (h : ReqHead)
    (t : TailIn) (declared : List Bytes) (hmem : ∀ x, x ∈ t.produces ↔ x ∈ declared)
    (hnn : ([] : Bytes) ∉ t.produces) :
    SpecFull pmt api h t.specs declared t.binder (obsOfFull (typedFull pmt api h t)) = true :=
  full_meets_spec (typedFull_view pmt api h t) (typed_meets_spec hp hwf h) declared
    (tailPass_eq_admits t declared hmem hnn)

/-- The whole of `validateRequest` / `Context.BindAndValidate` meets the Spec (its binder is the
route's own parameter binder: it is always there and, on these routes, succeeds). -/
theorem untypedFull_meets_spec {pmt : Pmt} (hp : PmtOK pmt) {api : Api} (hwf : WF api = true) (h : ReqHead)
    (t : TailIn) (declared : List Bytes) (hmem : ∀ x, x ∈ t.produces ↔ x ∈ declared)
    (hnn : ([] : Bytes) ∉ t.produces) :
    SpecFull pmt api h t.specs declared (some .ok) (obsOfFull (untypedFull pmt api h t)) = true :=
  full_meets_spec (untypedFull_view pmt api h t hp.nonempty) (untyped_meets_spec hp hwf h) declared
    (tailPass_eq_admits t declared hmem hnn)

/-- The same for the configuration itself: `route.Produces` as the router builds it from an
operation's produces list and the API's default type (lower case, no empty entry), judged against
"its produces list plus the API's default type". -/
theorem typedFull_meets_spec_route {pmt : Pmt} (hp : PmtOK pmt) {api : Api} (hwf : WF api = true) (h : ReqHead)
    (specs : List C07.Spec) (opProduces : List Bytes) (dprod : Bytes) (hwfp : WFp opProduces dprod = true)
    (b : Option BinderRes) :
    SpecFull pmt api h specs (declaredTypes opProduces dprod) b
      (obsOfFull (typedFull pmt api h ⟨specs, routeProduces opProduces dprod, b⟩)) = true :=
  typedFull_meets_spec hp hwf h ⟨specs, routeProduces opProduces dprod, b⟩ _
    (routeProduces_mem hwfp) (routeProduces_no_empty hwfp)

/-- The two entry points agree on the whole function: the checks give the same answer (same refusal
code or none) whatever binder is handed in, the gate is seen alike, and with a succeeding binder the
same binder/consumer activity follows. (Only the parser's non-empty result is needed.) -/
theorem full_entry_points_agree {pmt : Pmt} (hne : ∀ x t, pmt x = some t → t ≠ []) (api : Api) (h : ReqHead)
    (t : TailIn) :
    checksVerdict (obsOfFull (typedFull pmt api h t)) = checksVerdict (obsOfFull (untypedFull pmt api h t)) ∧
    gateSeen h (obsOfFull (typedFull pmt api h t)) = gateSeen h (obsOfFull (untypedFull pmt api h t)) ∧
    (t.binder = some .ok →
      (obsOfFull (typedFull pmt api h t)).binderRan = (obsOfFull (untypedFull pmt api h t)).binderRan ∧
      (obsOfFull (typedFull pmt api h t)).decoded = (obsOfFull (untypedFull pmt api h t)).decoded ∧
      ((obsOfFull (typedFull pmt api h t)).codes = [] ↔ (obsOfFull (untypedFull pmt api h t)).codes = [])) := by
  obtain ⟨hs, hv⟩ := typedFull_view pmt api h t
  obtain ⟨hs', hv'⟩ := untypedFull_view pmt api h t hne
  rw [← typed_eq_untyped hne api h] at hs' hv'
  refine ⟨?_, hs.trans hs'.symm, ?_⟩ <;>
    rcases hv with ⟨hp, ho⟩ | ⟨e, es, sel, hg, ho⟩ <;>
    rcases hv' with ⟨hp', ho'⟩ | ⟨e', es', sel', hg', ho'⟩ <;> rw [ho, ho']
  -- what the checks answer
  · unfold checksVerdict tailObs
    cases tailPass t <;> rcases t.binder with _ | _ | c <;> rfl
  · rw [hg'] at hp; cases e' <;> cases hp
  · rw [hg] at hp'; cases e <;> cases hp'
  · rw [hg] at hg'; cases e <;> cases e' <;> cases hg' <;> rfl
  -- what follows with a succeeding binder
  · intro hb; rw [hb]; exact ⟨rfl, rfl, Iff.rfl⟩
  · rw [hg'] at hp; cases e' <;> cases hp
  · rw [hg] at hp'; cases e <;> cases hp'
  · exact fun _ => ⟨rfl, rfl, by simp⟩

/-- "The binder runs iff no check failed": the binder handed to `BindValidRequest` is called exactly
when there is one, the content-type gate let the request through (or did not apply) and the
response-format check did (no produces list, or the negotiation found a format). -/
theorem binder_runs_iff (pmt : Pmt) (api : Api) (h : ReqHead) (t : TailIn) :
    (typedFull pmt api h t).binderRan = true ↔
      t.binder.isSome = true ∧ handlerRan (gateTyped pmt api h) = true ∧
        (t.produces = [] ∨ noFormat t.specs t.produces = false) := by
  rw [show (typedFull pmt api h t).binderRan = (obsOfFull (typedFull pmt api h t)).binderRan from rfl,
    ← tailPass_iff]
  rcases (typedFull_view pmt api h t).2 with ⟨hp, ho⟩ | ⟨e, es, sel, hg, ho⟩ <;> rw [ho]
  · unfold tailObs
    cases tailPass t <;> rcases t.binder with _ | _ | c <;> simp [hp]
  · rw [hg]; cases e <;> simp [GateOut.ofErr, handlerRan]

/-- 406 characterised: `BindValidRequest` answers 406 (an error of its own, not the binder's)
exactly when the gate let the request through, the route declares types, and the negotiation over
them with the default `""` yields nothing. The request body plays no part. -/
theorem e406_iff (pmt : Pmt) (api : Api) (h : ReqHead) (t : TailIn) :
    ((obsOfFull (typedFull pmt api h t)).codes = [406] ∧ (obsOfFull (typedFull pmt api h t)).asIs = false) ↔
      handlerRan (gateTyped pmt api h) = true ∧ t.produces ≠ [] ∧ noFormat t.specs t.produces = true := by
  rw [← tailPass_eq_false_iff]
  rcases (typedFull_view pmt api h t).2 with ⟨hp, ho⟩ | ⟨e, es, sel, hg, ho⟩ <;> rw [ho]
  · unfold tailObs
    cases tailPass t <;> rcases t.binder with _ | _ | c <;> simp [hp]
  · rw [hg]; cases e <;> simp [GateOut.ofErr, handlerRan, Err.code]

/-- … which, for declared types without an empty entry, says: the Accept header admits none of the
types the operation declares (C07's statement about the API handler). -/
theorem e406_iff_admits_none (pmt : Pmt) (api : Api) (h : ReqHead) (t : TailIn)
    (declared : List Bytes) (hmem : ∀ x, x ∈ t.produces ↔ x ∈ declared) (hnn : ([] : Bytes) ∉ t.produces) :
    ((obsOfFull (typedFull pmt api h t)).codes = [406] ∧ (obsOfFull (typedFull pmt api h t)).asIs = false) ↔
      handlerRan (gateTyped pmt api h) = true ∧ declared ≠ [] ∧ acceptAdmits t.specs declared = false := by
  rw [e406_iff, ← tailPass_eq_false_iff, tailPass_eq_admits t declared hmem hnn]
  cases declared <;> simp

/-- Error order and shape (generated entry point): the answer is nil, the binder's own error, or ONE
error of the checks — 400/415/500 from the gate, else 406. -/
theorem typed_answer_shape (pmt : Pmt) (api : Api) (h : ReqHead) (t : TailIn) :
    ((obsOfFull (typedFull pmt api h t)).asIs = false ∧
      ((obsOfFull (typedFull pmt api h t)).codes = [] ∨ (obsOfFull (typedFull pmt api h t)).codes = [400] ∨
       (obsOfFull (typedFull pmt api h t)).codes = [415] ∨ (obsOfFull (typedFull pmt api h t)).codes = [500] ∨
       (obsOfFull (typedFull pmt api h t)).codes = [406])) ∨
    (∃ c, t.binder = some (.fail c) ∧ (obsOfFull (typedFull pmt api h t)).asIs = true ∧
      (obsOfFull (typedFull pmt api h t)).codes = [c] ∧ (obsOfFull (typedFull pmt api h t)).binderRan = true) := by
  rw [typedFull_eq, fullOf_obs]
  rcases typedRaw_errs pmt api h with he | ⟨e, he⟩ <;> rw [he]
  · unfold tailObs
    cases tailPass t <;> rcases t.binder with _ | _ | c <;> simp
  · cases e <;> simp [FErr.code, Err.code]

/-- Error order (reflective entry point): the errors of the gate come first and 406 stands alone —
it is only ever the sole error. -/
theorem untyped_406_stands_alone {pmt : Pmt} (hne : ∀ x t, pmt x = some t → t ≠ []) (api : Api) (h : ReqHead)
    (t : TailIn) (h406 : 406 ∈ (obsOfFull (untypedFull pmt api h t)).codes) :
    (obsOfFull (untypedFull pmt api h t)).codes = [406] ∧
      handlerRan (gateUntyped pmt api h) = true ∧ (obsOfFull (untypedFull pmt api h t)).binderRan = false := by
  rcases (untypedFull_view pmt api h t hne).2 with ⟨hp, ho⟩ | ⟨e, es, sel, hg, ho⟩ <;> rw [ho] at h406 ⊢
  · unfold tailObs at h406 ⊢
    cases htp : tailPass t <;> simp [htp, hp] at h406 ⊢
  · -- the gate's codes are 400, 415, 500
    exfalso
    simp only [List.mem_cons, List.mem_map] at h406
    rcases h406 with h406 | ⟨e', _, h406⟩
    · cases e <;> cases h406
    · cases e' <;> cases h406

/-- The binder's own error is returned AS IS: `BindValidRequest` returns the very value of a failing
binder exactly when that binder ran; it is never folded into the composite of the checks. -/
theorem binder_error_as_is (pmt : Pmt) (api : Api) (h : ReqHead) (t : TailIn) (c : Nat) :
    (typedFull pmt api h t).ret = .asIs c ↔
      t.binder = some (.fail c) ∧ (typedFull pmt api h t).binderRan = true := by
  unfold typedFull
  generalize tRespCheck (rawErrs (typedRaw pmt api h)) t = res
  generalize rawSel (typedRaw pmt api h) = sel
  cases res <;> rcases t.binder with _ | _ | c' <;> simp [tBind]

/-- A failing binder that runs determines the answer; one that does not run leaves no trace. -/
theorem failing_binder_answer (pmt : Pmt) (api : Api) (h : ReqHead) (t : TailIn) (c : Nat)
    (hb : t.binder = some (.fail c)) :
    ((typedFull pmt api h t).binderRan = true → (typedFull pmt api h t).ret = .asIs c) ∧
    ((typedFull pmt api h t).binderRan = false →
      typedFull pmt api h t = typedFull pmt api h { t with binder := none }) := by
  refine ⟨((binder_error_as_is ..).2 ⟨hb, ·⟩), ?_⟩
  have hsame : ∀ res, tRespCheck res { t with binder := none } = tRespCheck res t := fun _ => rfl
  unfold typedFull
  rw [hsame, hb]
  cases tRespCheck (rawErrs (typedRaw pmt api h)) t <;> simp [tBind]

/-- `requestContentType` of the unrepaired tail: the request's media type, set only when the body
was admitted and its consumer found -/
def tRct (pmt : Pmt) (api : Api) (h : ReqHead) : Bytes :=
  if hasBody h then
    match runtimeContentType pmt h with
    | .ok ct => if (tStep pmt api ct).errs.isEmpty then ct else []
    | .err => []
  else []

/-- The class of F06b: inside it the unrepaired tail let the request through where the reflective
entry point (and the repaired tail) answers 406 … -/
theorem old_tail_passes_in_class (t : TailIn) (rct : Bytes) (hr : rct ≠ []) (hp : t.produces ≠ [])
    (hs : t.specs ≠ []) (hc : C07.candidates t.specs t.produces = []) :
    tRespCheckOld [] rct t = [] ∧ tRespCheck [] t = [.notAcceptable] ∧ uRespCheck [] t = [.notAcceptable] := by
  have hneg : ∀ d, C07.negotiateContentType t.specs t.produces d = d := fun d => by
    rw [C07.negotiate_eq_spec, C07.specChoice_default (Or.inr ⟨hs, hc⟩)]
  refine ⟨?_, ?_, ?_⟩
  · simp [tRespCheckOld, hneg, hp, hr]
  · simp [tRespCheck, noFormat, hneg, hp]
  · simp [uRespCheck, noFormat, hneg, hp]

/-- … and outside it the unrepaired tail and the repaired one are the same function: F06b is exactly "an admitted body (`rct ≠ ""`), declared types, an Accept header
with ranges, none of which admits a declared type". -/
theorem old_tail_same_outside_class (t : TailIn) (rct : Bytes)
    (hout : ¬ (rct ≠ [] ∧ t.produces ≠ [] ∧ t.specs ≠ [] ∧ C07.candidates t.specs t.produces = [])) :
    tRespCheckOld [] rct t = tRespCheck [] t := by
  unfold tRespCheckOld tRespCheck noFormat
  cases hpp : t.produces with
  | nil =>
    cases rct <;> simp [C07.negotiateContentType, starSlashStar]
  | cons o os =>
    simp only [List.isEmpty_nil, List.isEmpty_cons, Bool.false_and, Bool.false_eq_true, ↓reduceIte,
      Bool.not_false, Bool.and_self]
    by_cases hr : rct = []
    · rw [hr]
    · -- the negotiation does not fall back on the default
      obtain ⟨x, _, hx⟩ := C07.specChoice_offer (specs := t.specs) (List.cons_ne_nil o os)
        fun ⟨hs, hc⟩ => hout ⟨hr, by rw [hpp]; simp, hs, hpp ▸ hc⟩
      rw [C07.negotiate_eq_spec, C07.negotiate_eq_spec, hx, hx]

/-- `requestContentType` was set exactly for a body the gate admitted and found a consumer for. -/
theorem tRct_ne_nil_iff {pmt : Pmt} (hne : ∀ x t, pmt x = some t → t ≠ []) (api : Api) (h : ReqHead) :
    tRct pmt api h ≠ [] ↔ ∃ k, gateTyped pmt api h = .consumer k := by
  unfold tRct gateTyped typedRaw
  cases hasBody h
  · simp [observe]
  simp only [↓reduceIte, runtimeContentType_eq]
  cases hp : mediaType pmt h with
  | none => simp [tAfterCT, observe, GateOut.ofErr]
  | some ct =>
    have hct := hne _ _ (mediaType_eq pmt h ▸ hp)
    simp only [tAfterCT, tStep]
    by_cases hv : validateContentType pmt (routeConsumes api) ct
    · simp only [hv, ↓reduceIte]
      cases routeConsumer api ct <;> simp [observe, GateOut.ofErr, hct]
    · simp [hv, observe, GateOut.ofErr]

def bImagePng : Bytes := [105, 109, 97, 103, 101, 47, 112, 110, 103]      -- "image/png"
def bStarStar : Bytes := [42, 47, 42]                                      -- "*/*"
/-- `Accept: image/png` -/
def exAccPng : List C07.Spec := [⟨bImagePng, ⟨1, 0, 0⟩⟩]
/-- `Accept: image/png, application/json;q=0, */*;q=0.5` -/
def exAccMixed : List C07.Spec := [⟨bImagePng, ⟨1, 0, 0⟩⟩, ⟨bJson, ⟨0, 0, 0⟩⟩, ⟨bStarStar, ⟨0, 5, 1⟩⟩]
/-- `Accept: application/json;q=0` -/
def exAccQ0 : List C07.Spec := [⟨bJson, ⟨0, 0, 0⟩⟩]

-- the F06b witness: an admitted JSON body (consumer 0), `Accept: image/png`, produces [application/json]:
-- both entry points answer 406, the binder does not run, nothing is decoded (before the repair the
-- generated entry point let it through: `old_tail_passes_in_class` applies, see below)
example : obsOfFull (typedFull tablePmt exApi exJsonReq ⟨exAccPng, [bJson], some .ok⟩) = ⟨[406], false, false, some 0, none⟩ ∧
    obsOfFull (untypedFull tablePmt exApi exJsonReq ⟨exAccPng, [bJson], some .ok⟩) = ⟨[406], false, false, some 0, none⟩ := by
  decide
example : tRct tablePmt exApi exJsonReq = bJson ∧ exAccPng ≠ [] ∧ C07.candidates exAccPng [bJson] = [] ∧
    tRespCheckOld [] (tRct tablePmt exApi exJsonReq) ⟨exAccPng, [bJson], some .ok⟩ = [] := by decide
-- the hypotheses of `typedFull_meets_spec` / `e406_iff_admits_none` are met, and the header admits nothing
example : acceptAdmits exAccPng (declaredTypes [] bJson) = false ∧ ([] : Bytes) ∉ routeProduces [] bJson ∧
    WFp [] bJson = true ∧ WFp [bTextPlain] bJson = true := by decide
-- a q=0 range never admits; a `*/*` range with q > 0 does: the binder runs and consumer 0 decodes
example : acceptAdmits exAccQ0 [bJson] = false ∧ acceptAdmits exAccMixed [bJson] = true := by decide
example : obsOfFull (typedFull tablePmt exApi exJsonReq ⟨exAccMixed, [bJson], some .ok⟩) = ⟨[], false, true, some 0, some 0⟩ := by
  decide
-- the failing binder's error comes back as it is (422), after the checks passed
example : typedFull tablePmt exApi exJsonReq ⟨exAccMixed, [bJson], some (.fail 422)⟩ = ⟨.asIs 422, true, some 0⟩ := by decide
-- … and is never reached when a check fails: 415 (gate) and 406 (format) win over it, a nil binder never runs
example : typedFull tablePmt exWildApi exJsonReq ⟨exAccMixed, [bJson], some (.fail 422)⟩ =
    ⟨.composite [.gate .unsupported], false, none⟩ := by decide
example : typedFull tablePmt exApi exJsonReq ⟨exAccQ0, [bJson], some (.fail 422)⟩ =
    ⟨.composite [.notAcceptable], false, some 0⟩ := by decide
example : typedFull tablePmt exApi exJsonReq ⟨exAccMixed, [bJson], none⟩ = ⟨.nil, false, some 0⟩ := by decide
-- an operation that declares nothing is not subjected to the check, with or without a body
example : typedFull tablePmt exApi exJsonReq ⟨exAccPng, [], some .ok⟩ = ⟨.nil, true, some 0⟩ ∧
    typedFull tablePmt exApi { exJsonReq with contentLength := 0, clHeader := [48] } ⟨exAccPng, [], some .ok⟩ = ⟨.nil, true, none⟩ := by
  decide
-- the reflective entry point reports the gate's errors in order, 415 before 500, and no 406 besides
example : (untypedFull tablePmt ⟨[bTextPlain], [], []⟩ exJsonReq ⟨exAccPng, [bJson], some .ok⟩).ret =
    .composite [.gate .unsupported, .gate .noConsumer] := by decide
-- the Spec for the whole function is not vacuous: on the F06b witness it rejects "let through"
example : SpecFull tablePmt exApi exJsonReq exAccPng [bJson] (some .ok) ⟨[], false, true, some 0, some 0⟩ = false ∧
    SpecFull tablePmt exApi exJsonReq exAccPng [bJson] (some .ok) ⟨[406], false, false, some 0, none⟩ = true ∧
    SpecFull tablePmt exApi exJsonReq exAccPng [bJson] (some .ok) ⟨[406], false, true, some 0, none⟩ = false ∧
    SpecFull tablePmt exApi exJsonReq exAccMixed [bJson] (some (.fail 422)) ⟨[422], false, true, some 0, none⟩ = false := by
  decide

end RtVerif.C06
