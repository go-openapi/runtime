import RtVerif.Model.C05
import RtVerif.Lemmas.C05
import RtVerif.Lemmas.C05Order
/-
  `look` (the DFS that mirrors `doubleArray.lookup`) is related to the naive matcher `matchKey`
  (the Spec) for ALL candidate lists, paths and accumulated values:

  * `look_complete`  — if the DFS fails, no candidate's key is instantiated by the path
                        (strict matcher: parameters start on a non-empty remaining path);
  * `look_sound_pref` — if it succeeds, the reported record descends from a candidate whose key the
                        path instantiates with exactly the reported values, named as in the key, and
                        that candidate is minimal in the literal < parameter < wildcard preference
                        order among all candidates the path instantiates.
-/
namespace RtVerif.C05
open RtVerif Bytes

theorem match_nil {key : Bytes} (h : (matchKey true key []).isSome = true) : key = [cTerm] := by
  obtain ⟨vs, hv⟩ := Option.isSome_iff_exists.mp h
  refine matchKey_induct (fun key path _ => path = [] → key = [cTerm]) ?_ ?_ ?_ ?_ key [] vs hv rfl
  · intro _; rfl
  · intro k p vs hp _ _ he; rw [he] at hp; cases hp
  · intro k p hp he; rw [he] at hp; cases hp
  · intro b k p vs _ _ _ _ _ he; cases he

/-- Where a candidate that the strict matcher accepts on a non-empty path goes in the trie: along the
literal edge (whose byte is then not reserved), along the single-parameter edge, or it is a wildcard
candidate; the edge kinds of its key start accordingly. -/
theorem match_cons {rs : List Rec} (hwf : NulFree rs) {r : Rec} (hr : r ∈ rs) {c : UInt8} {rest : Bytes}
    (h : (matchKey true r.key (c :: rest)).isSome = true) :
    (isReserved c = false ∧ ∃ r' ∈ advLit c rs, edgeKinds r.key = 0 :: edgeKinds r'.key ∧
        (matchKey true r'.key rest).isSome = true) ∨
    (∃ r' ∈ advSingle rs, edgeKinds r.key = 1 :: edgeKinds r'.key ∧
        (matchKey true r'.key ((c :: rest).dropWhile notPathSep)).isSome = true) ∨
    (edgeKinds r.key = [2] ∧ ∃ r' ∈ advWild rs, r'.key = []) := by
  obtain ⟨vs, hv⟩ := Option.isSome_iff_exists.mp h
  refine matchKey_induct (fun key path _ => r.key = key → path = c :: rest → _) ?_ ?_ ?_ ?_
    r.key (c :: rest) vs hv rfl rfl
  · intro _ he; cases he
  · intro k p vs _ hm _ hk hp
    subst hp
    exact Or.inr (Or.inl ⟨⟨k.dropWhile notKeySep, r.names ++ [k.takeWhile notKeySep], r.val⟩,
      mem_advSingle.mpr ⟨r, hr, stepSingle_eq.mpr ⟨k, hk, rfl, rfl, rfl⟩⟩, hk ▸ edgeKinds_param k,
      Option.isSome_iff_exists.mpr ⟨vs, hm⟩⟩)
  · intro k p _ hk _
    exact Or.inr (Or.inr ⟨hk ▸ edgeKinds_wild k, ⟨[], r.names ++ [k.dropLast], r.val⟩,
      mem_advWild.mpr ⟨r, hr, stepWild_eq.mpr ⟨k, hk, rfl, rfl, rfl⟩⟩, rfl⟩)
  · intro b k p vs h1 h2 h3 hm _ hk hp
    cases hp
    have h0 : c ≠ 0 := fun h0 => hwf r hr (by rw [hk, h0]; exact List.mem_cons_self)
    exact Or.inl ⟨by simp [isReserved, h1, h2, h3, h0], ⟨k, r.names, r.val⟩,
      mem_advLit.mpr ⟨r, hr, hk, rfl, rfl⟩, hk ▸ edgeKinds_lit _ _ h2 h3, Option.isSome_iff_exists.mpr ⟨vs, hm⟩⟩

/-- T2 (completeness, trie level): a failed DFS means no candidate key is instantiated. -/
theorem look_complete (rs : List Rec) (path : Bytes) (vals : List Bytes) (hwf : NulFree rs)
    (h : look rs path vals = none) : ∀ r ∈ rs, matchKey true r.key path = none := by
  induction rs, path, vals using look.induct with
  | case1 rs vals =>
    rw [look.eq_1, Option.map_eq_none_iff] at h
    intro r hr
    apply Option.not_isSome_iff_eq_none.mp
    intro hm
    exact leafOf_none h ⟨[], r.names, r.val⟩ (mem_advLit.mpr ⟨r, hr, match_nil hm, rfl, rfl⟩) rfl
  | case2 rs vals c rest ih1 ih2 =>
    rw [look.eq_2] at h
    obtain ⟨hlit, h⟩ := first_eq_none.mp h
    obtain ⟨hsing, hwild⟩ := first_eq_none.mp h
    rw [Option.map_eq_none_iff] at hwild
    intro r hr
    apply Option.not_isSome_iff_eq_none.mp
    intro hm
    rcases match_cons hwf hr hm with ⟨hres, r', hr', _, hm'⟩ | ⟨r', hr', _, hm'⟩ | ⟨_, r', hr', hk'⟩
    · rw [if_neg (by simp [hres])] at hlit
      rw [ih1 (nulFree_advLit hwf) hlit r' hr'] at hm'; cases hm'
    · have hs := exists_mem_advSingle.mp ⟨r', hr'⟩
      rw [dif_pos hs] at hsing
      rw [ih2 hs (nulFree_advSingle hwf) hsing r' hr'] at hm'; cases hm'
    · exact leafOf_none hwild r' hr' hk'

/-- T1 + T4 (soundness and preference, trie level). -/
theorem look_sound_pref (rs : List Rec) (path : Bytes) (vals : List Bytes) (f : Found)
    (h : look rs path vals = some f) :
    ∃ r0 ∈ rs, ∃ vs, matchKey true r0.key path = some vs ∧ f.vals = vals ++ vs ∧
      f.r.names = r0.names ++ namesOf r0.key ∧ f.r.val = r0.val ∧
      (NulFree rs → ∀ r ∈ rs, (matchKey true r.key path).isSome = true →
        kindsLe (edgeKinds r0.key) (edgeKinds r.key) = true) := by
  induction rs, path, vals using look.induct generalizing f with
  | case1 rs vals =>
    rw [look.eq_1, Option.map_eq_some_iff] at h
    obtain ⟨r, hr, rfl⟩ := h
    obtain ⟨hmem, hkey⟩ := leafOf_some hr
    obtain ⟨r0, hr0, hk, hn, hv⟩ := mem_advLit.mp hmem
    rw [hkey] at hk
    refine ⟨r0, hr0, [], ?_, by simp, ?_, hv, ?_⟩
    · rw [hk]; exact matchKey_term_some.mpr ⟨rfl, rfl, rfl⟩
    · rw [hk, hn, namesOf_lit _ _ cTerm_ne_cParam cTerm_ne_cWild, namesOf_nil, List.append_nil]
    · intro _ r _ hm
      rw [hk, match_nil hm]; exact kindsLe_refl _
  | case2 rs vals c rest ih1 ih2 =>
    rw [look.eq_2] at h
    rcases first_some h with hlit | ⟨hlitnone, h2⟩
    · split at hlit
      · cases hlit
      · rename_i hres
        obtain ⟨r1, hr1, vs, hm, hvals, hnames, hval, hpref⟩ := ih1 f hlit
        obtain ⟨r0, hr0, hk, hn, hv⟩ := mem_advLit.mp hr1
        have hres' : isReserved c = false := by simpa using hres
        unfold isReserved at hres'
        simp only [Bool.or_eq_false_iff] at hres'
        obtain ⟨⟨⟨hp, hw⟩, ht⟩, _⟩ := hres'
        refine ⟨r0, hr0, vs, ?_, hvals, ?_, by rw [hval, hv], ?_⟩
        · rw [hk]; exact (matchKey_lit_some ht hp hw).mpr ⟨rest, rfl, hm⟩
        · rw [hnames, hn, hk, namesOf_lit _ _ hp hw]
        · intro hwf r hr hmr
          rw [hk, edgeKinds_lit _ _ hp hw]
          rcases match_cons hwf hr hmr with ⟨_, r', hr', he, hm'⟩ | ⟨_, _, he, _⟩ | ⟨he, _⟩
          · rw [he]; simpa [kindsLe] using hpref (nulFree_advLit hwf) r' hr' hm'
          · rw [he]; rfl
          · rw [he]; rfl
    · rcases first_some h2 with hsing | ⟨hsingnone, h3⟩
      · split at hsing
        · rename_i hs
          obtain ⟨r1, hr1, vs, hm, hvals, hnames, hval, hpref⟩ := ih2 hs f hsing
          obtain ⟨r0, hr0, hstep⟩ := mem_advSingle.mp hr1
          obtain ⟨k, hk, hk1, hn1, hv1⟩ := stepSingle_eq.mp hstep
          rw [hk1] at hm hpref
          refine ⟨r0, hr0, (c :: rest).takeWhile notPathSep :: vs, ?_, ?_, ?_, hval.trans hv1, ?_⟩
          · rw [hk]; exact matchKey_param_some.mpr ⟨rfl, vs, hm, rfl⟩
          · rw [hvals, List.append_assoc]; rfl
          · rw [hnames, hn1, hk, hk1, namesOf_param, List.append_assoc]; rfl
          · intro hwf r hr hmr
            rw [hk, edgeKinds_param]
            rcases match_cons hwf hr hmr with ⟨hres, r', hr', _, hm'⟩ | ⟨r', hr', he, hm'⟩ | ⟨he, _⟩
            · -- a literal candidate cannot match: the literal alternative failed
              rw [if_neg (by simp [hres])] at hlitnone
              rw [look_complete _ _ _ (nulFree_advLit hwf) hlitnone r' hr'] at hm'; cases hm'
            · rw [he]; simpa [kindsLe] using hpref (nulFree_advSingle hwf) r' hr' hm'
            · rw [he]; rfl
        · cases hsing
      · -- wildcard edge taken: no literal and no single-parameter candidate matches
        rw [Option.map_eq_some_iff] at h3
        obtain ⟨r1, hr1, rfl⟩ := h3
        obtain ⟨r0, hr0, hstep⟩ := mem_advWild.mp (leafOf_some hr1).1
        obtain ⟨k, hk, _, hn1, hv1⟩ := stepWild_eq.mp hstep
        refine ⟨r0, hr0, [c :: rest], ?_, rfl, ?_, hv1, ?_⟩
        · rw [hk]; exact matchKey_wild_some.mpr ⟨rfl, rfl⟩
        · rw [hn1, hk, namesOf_wild]
        · intro hwf r hr hmr
          rw [hk, edgeKinds_wild]
          rcases match_cons hwf hr hmr with ⟨hres, r', hr', _, hm'⟩ | ⟨r', hr', _, hm'⟩ | ⟨he, _⟩
          · rw [if_neg (by simp [hres])] at hlitnone
            rw [look_complete _ _ _ (nulFree_advLit hwf) hlitnone r' hr'] at hm'; cases hm'
          · rw [dif_pos (exists_mem_advSingle.mp ⟨r', hr'⟩)] at hsingnone
            rw [look_complete _ _ _ (nulFree_advSingle hwf) hsingnone r' hr'] at hm'; cases hm'
          · rw [he]; rfl

theorem mem_paramRecs {recs : List (Bytes × Nat)} {r : Rec} :
    r ∈ paramRecs recs ↔ ∃ kv ∈ recs, isParamKey kv.1 = true ∧ r = ⟨kv.1 ++ [cTerm], [], kv.2⟩ := by
  simp only [paramRecs, List.mem_map, List.mem_filter, and_assoc, eq_comm]

theorem build_ok {recs : List (Bytes × Nat)} {t : Table} (h : build recs = .ok t) :
    t.statics = recs.filter (fun kv => !isParamKey kv.1) ∧ t.params = sortRecs (paramRecs recs) ∧
    ∀ kv ∈ recs, isParamKey kv.1 = true → isBadKey kv.1 = false := by
  unfold build at h
  split at h
  · cases h
  · rename_i hbad
    simp only at h
    split at h
    · cases h
    · cases h
      refine ⟨rfl, rfl, fun kv hkv hp => ?_⟩
      simpa using fun hb => hbad (List.any_eq_true.mpr ⟨kv, List.mem_filter.mpr ⟨hkv, hp⟩, hb⟩)

theorem mem_params {recs : List (Bytes × Nat)} {t : Table} (h : build recs = .ok t) {r : Rec} :
    r ∈ t.params ↔ ∃ kv ∈ recs, isParamKey kv.1 = true ∧ r = ⟨kv.1 ++ [cTerm], [], kv.2⟩ := by
  rw [(build_ok h).2.1, mem_sortRecs, mem_paramRecs]

theorem contains_false {l : Bytes} {c : UInt8} (h : l.contains c = false) : c ∉ l := by
  intro hm
  simp only [Bytes.contains, List.any_eq_false, beq_iff_eq] at h
  exact h c hm rfl

theorem nulFree_paramRecs {recs : List (Bytes × Nat)}
    (hbad : ∀ kv ∈ recs, isParamKey kv.1 = true → isBadKey kv.1 = false) : NulFree (paramRecs recs) := by
  intro r hr
  obtain ⟨kv, hkv, hpk, rfl⟩ := mem_paramRecs.mp hr
  have := hbad kv hkv hpk
  simp only [isBadKey, Bool.or_eq_false_iff] at this
  simp only [List.mem_append, List.mem_singleton, not_or]
  exact ⟨contains_false this.2, by decide⟩

theorem nulFree_params {recs : List (Bytes × Nat)} {t : Table} (h : build recs = .ok t) :
    NulFree t.params := by
  intro r hr
  rw [(build_ok h).2.1, mem_sortRecs] at hr
  exact nulFree_paramRecs (build_ok h).2.2 r hr

theorem staticLookup_some {st : List (Bytes × Nat)} {p : Bytes} {v : Nat}
    (h : staticLookup st p = some v) : ∃ kv ∈ st, kv.1 = p ∧ kv.2 = v := by
  unfold staticLookup at h
  simp only [Option.map_eq_some_iff] at h
  obtain ⟨kv, hkv, rfl⟩ := h
  have := List.mem_of_getLast? hkv
  simp only [List.mem_filter, beq_iff_eq] at this
  exact ⟨kv, this.1, this.2, rfl⟩

theorem staticLookup_none {st : List (Bytes × Nat)} {p : Bytes}
    (h : staticLookup st p = none) : ∀ kv ∈ st, kv.1 ≠ p := by
  simpa only [staticLookup, Option.map_eq_none_iff, List.getLast?_eq_none_iff, List.filter_eq_nil_iff,
    beq_iff_eq] using h

/-- Where a `found` answer of `Lookup` on an accepted table comes from: a parameter-free pattern equal
to the path, or, when there is none, the DFS over the parameterised patterns, whose result is one of
them that the path instantiates (strictly), least in the preference order among all that it
instantiates. -/
theorem lookup_found {recs : List (Bytes × Nat)} {t : Table} {path : Bytes} {v : Nat}
    {names vals : List Bytes} (hb : build recs = .ok t) (h : lookup t path = .found v names vals) :
    (∃ kv ∈ recs, isParamKey kv.1 = false ∧ kv.1 = path ∧ kv.2 = v ∧ names = [] ∧ vals = []) ∨
    (staticLookup t.statics path = none ∧ ∃ kv ∈ recs, isParamKey kv.1 = true ∧ kv.2 = v ∧
      matchKey true (kv.1 ++ [cTerm]) path = some vals ∧ names = namesOf (kv.1 ++ [cTerm]) ∧
      ∀ kv' ∈ recs, isParamKey kv'.1 = true → (matchKey true (kv'.1 ++ [cTerm]) path).isSome = true →
        kindsLe (edgeKinds (kv.1 ++ [cTerm])) (edgeKinds (kv'.1 ++ [cTerm])) = true) := by
  unfold lookup at h
  split at h
  · rename_i v' hs
    cases h
    obtain ⟨kv, hkv, hk, hv⟩ := staticLookup_some hs
    rw [(build_ok hb).1, List.mem_filter] at hkv
    exact Or.inl ⟨kv, hkv.1, by simpa using hkv.2, hk, hv, rfl, rfl⟩
  · rename_i hs
    split at h
    · rename_i f hl
      cases h
      obtain ⟨r0, hr0, vs, hm, hvals, hnames, hval, hpref⟩ := look_sound_pref _ _ _ _ hl
      obtain ⟨kv, hkv, hpk, rfl⟩ := (mem_params hb).mp hr0
      rw [List.nil_append] at hvals hnames
      refine Or.inr ⟨hs, kv, hkv, hpk, hval.symm, hvals ▸ hm, hnames, fun kv' hkv' hpk' hm' => ?_⟩
      exact hpref (nulFree_params hb) _ ((mem_params hb).mpr ⟨kv', hkv', hpk', rfl⟩) hm'
    · cases h

/-- **The property, for the model, for every table and every path**: whatever `Build` accepts,
`Lookup`'s answer satisfies the very predicate `specLookup` with which the driver judges the real
code — sound (the path instantiates the reported pattern with exactly the reported values, named as
in the pattern), complete (a miss means no pattern is instantiated with non-empty texts), static
patterns win for equal paths, and a literal is preferred to a parameter, a parameter to a wildcard. -/
theorem lookup_spec (recs : List (Bytes × Nat)) (t : Table) (path : Bytes)
    (hb : build recs = .ok t) : specLookup recs path (lookup t path) = true := by
  have hst := (build_ok hb).1
  cases hl : lookup t path with
  | found v names vals =>
    simp only [specLookup, List.any_eq_true, Bool.and_eq_true, beq_iff_eq]
    rcases lookup_found hb hl with ⟨kv, hkv, hnp, rfl, rfl, rfl, rfl⟩ | ⟨hs, kv, hkv, hpk, rfl, hm, rfl, hpref⟩
    · exact ⟨kv, hkv, rfl, by simp [foundOk, hnp]⟩
    · refine ⟨kv, hkv, rfl, ?_⟩
      simp only [foundOk, hpk, Bool.not_true, Bool.false_eq_true, ↓reduceIte, beq_self_eq_true,
        Bool.true_and, Bool.and_eq_true, matchKey_switch (s' := false) hm nofun,
        Bool.not_eq_eq_eq_not, List.all_eq_true, Bool.or_eq_true]
      refine ⟨?_, fun kv' hkv' => ?_⟩
      · rw [List.any_eq_false]
        intro kv' hkv' hq
        simp only [Bool.and_eq_true, Bool.not_eq_eq_eq_not, Bool.not_true, beq_iff_eq] at hq
        exact staticLookup_none hs kv' (by rw [hst, List.mem_filter]; exact ⟨hkv', by simp [hq.1]⟩) hq.2
      · by_cases hq : (isParamKey kv'.1 && (matchKey true (kv'.1 ++ [cTerm]) path).isSome) = true
        · rw [Bool.and_eq_true] at hq
          exact Or.inr (hpref kv' hkv' hq.1 hq.2)
        · exact Or.inl (by simpa using hq)
  | notFound =>
    unfold lookup at hl
    split at hl
    · cases hl
    · rename_i hs
      split at hl
      · cases hl
      · rename_i hlook
        have hc := look_complete _ _ _ (nulFree_params hb) hlook
        simp only [specLookup, List.all_eq_true]
        intro kv hkv
        by_cases hpk : isParamKey kv.1 = true
        · simp only [hpk, Bool.not_true, Bool.false_eq_true, ↓reduceIte]
          have hnone := hc _ ((mem_params hb).mpr ⟨kv, hkv, hpk, rfl⟩)
          cases hm : matchKey false (kv.1 ++ [cTerm]) path with
          | none => rfl
          | some vs =>
            -- were all texts non-empty, the strict matcher would accept too
            simp only [List.any_eq_true, List.isEmpty_iff]
            apply Classical.byContradiction
            intro hno
            rw [matchKey_switch hm fun _ => Or.inr fun v hv hv0 => hno ⟨v, hv, hv0⟩] at hnone
            cases hnone
        · simp only [hpk, Bool.not_false, ↓reduceIte, bne_iff_ne, ne_eq]
          exact staticLookup_none hs kv (by rw [hst, List.mem_filter]; exact ⟨hkv, by simp [hpk]⟩)

/-- T5 (no index out of range in `Router.Lookup`'s name-filling loop): a reported match carries
exactly as many values as the leaf has names. -/
theorem lookup_arity (recs : List (Bytes × Nat)) (t : Table) (path : Bytes) (v : Nat)
    (names vals : List Bytes) (hb : build recs = .ok t) (h : lookup t path = .found v names vals) :
    vals.length = names.length := by
  rcases lookup_found hb h with ⟨_, _, _, _, _, rfl, rfl⟩ | ⟨_, kv, _, _, _, hm, rfl, _⟩
  · rfl
  · exact matchKey_arity hm

/-- "a single-segment parameter never spans a '/'" -/
theorem lookup_single_values_no_sep (recs : List (Bytes × Nat)) (t : Table) (path : Bytes) (v : Nat)
    (names vals : List Bytes) (hb : build recs = .ok t) (h : lookup t path = .found v names vals) :
    ∃ kv ∈ recs, kv.2 = v ∧ (cWild ∉ kv.1 → ∀ x ∈ vals, cSep ∉ x) := by
  rcases lookup_found hb h with ⟨kv, hkv, _, _, hv, _, rfl⟩ | ⟨_, kv, hkv, _, hv, hm, _, _⟩
  · exact ⟨kv, hkv, hv, by simp⟩
  · refine ⟨kv, hkv, hv, fun hw => matchKey_values_no_sep hm ?_⟩
    simp only [List.mem_append, List.mem_singleton, not_or]
    exact ⟨hw, by decide⟩

/- Non-vacuity of `build recs = .ok t`: evaluating `build` in the kernel is too deep for `decide`
(the duplicate-name scan walks 256 possible edges per trie level); the correspondence stream
evaluates it on thousands of accepted tables per run (tags `params*`, `static`, `miss` in the
evidence), e.g. `[("/a/:id",0),("/a/b",1)]`. -/

theorem eq_of_key_eq {recs : List (Bytes × Nat)} (hnd : (recs.map (·.1)).Nodup)
    {a b : Bytes × Nat} (ha : a ∈ recs) (hb : b ∈ recs) (h : a.1 = b.1) : a = b :=
  have hp := List.pairwise_map.mp hnd
  List.Pairwise.forall_of_forall_of_flip (R := fun a b => a.1 = b.1 → a = b) (fun _ _ _ => rfl)
    (hp.imp fun hne h => absurd h hne) (hp.imp fun hne h => absurd h.symm hne) ha hb h

theorem staticLookup_perm {st st' : List (Bytes × Nat)} (hp : st.Perm st')
    (hinj : ∀ a ∈ st, ∀ b ∈ st, a.1 = b.1 → a = b) (path : Bytes) :
    staticLookup st path = staticLookup st' path := by
  cases h : staticLookup st path with
  | none =>
    have hn := staticLookup_none h
    cases h' : staticLookup st' path with
    | none => rfl
    | some v =>
      obtain ⟨kv, hkv, hk, _⟩ := staticLookup_some h'
      exact absurd hk (hn kv (hp.mem_iff.mpr hkv))
  | some v =>
    obtain ⟨kv, hkv, hk, hv⟩ := staticLookup_some h
    cases h' : staticLookup st' path with
    | none => exact absurd hk (staticLookup_none h' kv (hp.mem_iff.mp hkv))
    | some v' =>
      obtain ⟨kv', hkv', hk', hv'⟩ := staticLookup_some h'
      have := hinj kv hkv kv' (hp.mem_iff.mpr hkv') (by rw [hk, hk'])
      subst this
      rw [← hv, ← hv']

/-- **T6**: for records with pairwise distinct keys, `Build` + `Lookup` give the same answer (the
same match with the same parameters, the same miss, or the same refusal of the table) for every
permutation of the records. -/
theorem route_perm (recs recs' : List (Bytes × Nat)) (path : Bytes) (hp : recs.Perm recs')
    (hnd : (recs.map (·.1)).Nodup) : route recs path = route recs' path := by
  have hfp : (recs.filter fun kv => isParamKey kv.1).Perm (recs'.filter fun kv => isParamKey kv.1) :=
    hp.filter _
  have hpar : (paramRecs recs).Perm (paramRecs recs') := by
    unfold paramRecs; exact hfp.map _
  have hdist : ∀ a ∈ paramRecs recs, ∀ b ∈ paramRecs recs, a.key = b.key → a = b := by
    intro a ha b hb hk
    obtain ⟨kva, hkva, _, rfl⟩ := mem_paramRecs.mp ha
    obtain ⟨kvb, hkvb, _, rfl⟩ := mem_paramRecs.mp hb
    simp only [List.append_cancel_right_eq] at hk
    have := eq_of_key_eq hnd hkva hkvb hk
    subst this; rfl
  have hsorted : sortRecs (paramRecs recs) = sortRecs (paramRecs recs') :=
    sortRecs_eq_of_perm hpar hdist
  have hbad := hfp.any_eq (f := fun kv => isBadKey kv.1)
  have hst : (recs.filter fun kv => !isParamKey kv.1).Perm (recs'.filter fun kv => !isParamKey kv.1) :=
    hp.filter _
  have hinj : ∀ a ∈ recs.filter (fun kv => !isParamKey kv.1),
      ∀ b ∈ recs.filter (fun kv => !isParamKey kv.1), a.1 = b.1 → a = b := by
    intro a ha b hb h
    exact eq_of_key_eq hnd (List.mem_filter.mp ha).1 (List.mem_filter.mp hb).1 h
  unfold route build
  rw [hbad, hsorted]
  by_cases h1 : ((recs'.filter fun kv => isParamKey kv.1).any fun kv => isBadKey kv.1) = true
  · simp only [h1, ↓reduceIte]
  · simp only [h1, Bool.false_eq_true, ↓reduceIte]
    by_cases h2 : ((leaves (weight (sortRecs (paramRecs recs')) + 1) (sortRecs (paramRecs recs'))).any
        fun r => hasDup r.names) = true
    · simp only [h2, ↓reduceIte]
    · simp only [h2, Bool.false_eq_true, ↓reduceIte, lookup]
      rw [staticLookup_perm hst hinj path]

theorem mem_muxRecords {handlers : List (Bytes × Bytes)} {m : Bytes} {kv : Bytes × Nat}
    (h : kv ∈ muxRecords handlers m) : ∃ hd, handlers[kv.2]? = some hd ∧ hd.1 = m ∧ hd.2 = kv.1 := by
  unfold muxRecords at h
  simp only [List.mem_filterMap] at h
  obtain ⟨⟨hd, i⟩, hmem, hf⟩ := h
  simp only at hf
  split at hf
  · rename_i hc
    simp only [Option.some.injEq] at hf
    subst hf
    have := List.mem_zipIdx hmem
    simp only [Nat.sub_zero, Nat.zero_add] at this
    obtain ⟨_, hlt, heq⟩ := this
    refine ⟨hd, ?_, by simpa using hc, rfl⟩
    simp only
    rw [List.getElem?_eq_getElem hlt]
    exact congrArg some heq.symm
  · cases hf

/-- A request handled by `Mux` went to a handler registered under exactly the request's method
(compared as spelled), and the match satisfies the whole router specification for the patterns
registered under that method; anything else is answered by `NotFound` only if that specification
allows a miss. -/
theorem mux_spec (handlers : List (Bytes × Bytes)) (method path : Bytes) :
    (∀ v names vals, muxServe handlers method path = .handled v names vals →
      (∃ hd, handlers[v]? = some hd ∧ hd.1 = method) ∧
      specLookup (muxRecords handlers method) path (.found v names vals) = true) ∧
    (muxServe handlers method path = .notFound → method ∈ muxMethods handlers →
      specLookup (muxRecords handlers method) path .notFound = true) := by
  unfold muxServe
  split
  · exact ⟨fun _ _ _ => nofun, nofun⟩
  · rename_i hnb
    split
    · rename_i hm
      obtain ⟨t, hb⟩ : ∃ t, build (muxRecords handlers method) = .ok t := by
        cases hb : build (muxRecords handlers method) with
        | ok t => exact ⟨t, rfl⟩
        | errReserved => exact absurd (List.any_eq_true.mpr ⟨method, by simpa using hm, by simp [hb]⟩) hnb
        | errDupName => exact absurd (List.any_eq_true.mpr ⟨method, by simpa using hm, by simp [hb]⟩) hnb
      have hspec := lookup_spec _ t path hb
      simp only [route, hb]
      cases hl : lookup t path with
      | found v names vals =>
        rw [hl] at hspec
        refine ⟨fun v' n' vs' h => ?_, nofun⟩
        cases h
        refine ⟨?_, hspec⟩
        simp only [specLookup, List.any_eq_true, Bool.and_eq_true, beq_iff_eq] at hspec
        obtain ⟨kv, hkv, rfl, _⟩ := hspec
        obtain ⟨hd, hget, hm1, _⟩ := mem_muxRecords hkv
        exact ⟨hd, hget, hm1⟩
      | notFound =>
        rw [hl] at hspec
        exact ⟨fun _ _ _ => nofun, fun _ _ => hspec⟩
    · rename_i hm
      exact ⟨fun _ _ _ => nofun, fun _ hmem => absurd (by simpa using hmem) hm⟩

end RtVerif.C05
