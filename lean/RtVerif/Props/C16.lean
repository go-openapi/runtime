import RtVerif.Model.C16
import RtVerif.Lemmas.C16
/-
  The model of the codec (`consume`, `produce`: kind dispatch, pipeCSV / bufferedCSV, the three
  writers, the reusing reader over a heap of backing arrays, the reflect calls on the destination
  table) is parameterised by what factgen reads off csv.go (`Cfg.repo`).  The theorems below are
  about `Cfg.repo` itself: they hold for every event stream a standard CSV parse can yield (any
  records, ending in eof or in any error), every option set, every skipped-lines count, every
  destination / source object (any set of implemented interfaces, any value shape, any pre-state of
  the destination table, any failure script).
-/
namespace RtVerif.C16
open RtVerif Bytes

/-- The working tree's csv.go has the shape the proofs are about: clause order of both type
switches, which clause applies which options and uses which transfer function, the nil and
element-type guards, the reflect calls on the table (`SetLen(0)` first), the copy in the container.
If csv.go changes shape (a clause reordered, an `applyToReader` dropped, the `SetLen(0)` or the copy in the
container removed …) this stops checking, and every property theorem with it. -/
theorem facts_describe_the_repaired_code : Cfg.repo = Cfg.fixed := by decide

/-- CSVConsumer: every destination kind and pre-state, every option set, every parse. -/
theorem consumer_meets_spec (x : KIn) : KSpec x (consume Cfg.repo x) = true := by
  rw [facts_describe_the_repaired_code]
  unfold KSpec consume
  cases hs : x.srcNil with
  | true => simp [idle_res, Res.isErr]
  | false =>
    simp only [Bool.false_eq_true, ↓reduceIte]
    cases hn : x.dst.isNil with
    | true =>
      simp only [dstKind, hn, ↓reduceIte]
      exact spec_unsupported (idle_res _ _)
    | false =>
      simp only [Bool.false_eq_true, ↓reduceIte]
      rw [specCore_closes]
      exact consumeBody_spec x hn

/-- CSVProducer: every source kind, every option set, every parse, every sink. -/
theorem producer_meets_spec (x : PIn) : PSpec x (produce Cfg.repo x) = true := by
  rw [facts_describe_the_repaired_code]
  unfold PSpec produce
  cases hs : x.sinkNil with
  | true => simp [Out.fail, Res.isErr]
  | false =>
    simp only [Bool.false_eq_true, ↓reduceIte]
    cases hn : x.src.isNil with
    | true =>
      simp only [srcSupported, hn, ↓reduceIte, Bool.not_true, Bool.false_and, Bool.false_eq_true]
      exact spec_unsupported rfl
    | false =>
      simp only [Bool.false_eq_true, ↓reduceIte]
      rw [specCore_closes]
      exact produceBody_spec x hn

theorem producer_meets_spec' (x : PIn) : PSpec x (produce Cfg.fixed x) = true := by
  have := producer_meets_spec x
  rwa [facts_describe_the_repaired_code] at this

/-- With a supported kind and an environment that does not fail, the Spec leaves no freedom: the
result is `ok` exactly when the parse ended in eof, otherwise it is the parser's error; and on
`ok` the delivery is complete. -/
theorem spec_determines_outcome (k : Kind) (w : WOpts) (ev : Events) (skip : Nat) (o : Out)
    (hk : k ≠ .unsupported) (h : specCore k false w ev skip o = true) :
    o.res = (match ev.term with | .eof => Res.ok | .err e => Res.err e) ∧
    (ev.term = .eof → deliveredOk k w (expected ev skip) o = true) := by
  unfold specCore at h
  cases k with
  | unsupported => exact absurd rfl hk
  | _ =>
    cases ht : ev.term with
    | err e => simp [ht] at h; simp [h.2]
    | eof =>
      simp only [ht, Bool.false_or, Bool.and_eq_true, Bool.or_eq_true, bne_iff_ne, ne_eq, beq_iff_eq] at h
      exact ⟨h.2.2, fun _ => h.2.1.resolve_left (absurd h.2.2)⟩

theorem consumer_outcome (x : KIn) (hsrc : x.srcNil = false) (hk : dstKind x.dst ≠ .unsupported)
    (he : dstEnvFails x.opts x.dst = false) :
    (consume Cfg.repo x).res = (match x.evOpt.term with | .eof => Res.ok | .err e => Res.err e) ∧
    (x.evOpt.term = .eof →
      deliveredOk (dstKind x.dst) (effW x.opts) (expected x.evOpt x.opts.skip) (consume Cfg.repo x) = true) := by
  have s := consumer_meets_spec x
  simp only [KSpec, hsrc, Bool.false_eq_true, ↓reduceIte, he] at s
  exact spec_determines_outcome _ _ _ _ _ hk s

theorem producer_outcome (x : PIn) (hsink : x.sinkNil = false) (hs : srcSupported x.src = true)
    (he : srcEnvFails x = false) :
    (produce Cfg.repo x).res = (match (srcEvents x).term with | .eof => Res.ok | .err e => Res.err e) ∧
    ((srcEvents x).term = .eof →
      (produce Cfg.repo x).sink = some (stdEncode (effW x.opts) (expected (srcEvents x) x.opts.skip))) := by
  have s := producer_meets_spec x
  simp only [PSpec, hsink, Bool.false_eq_true, ↓reduceIte, hs, he] at s
  simpa only [deliveredOk, beq_iff_eq] using spec_determines_outcome .bytes _ _ _ _ nofun s

/-- "same count": as many records as the parse yields, minus the skipped ones. -/
theorem expected_count (ev : Events) (skip : Nat) :
    (expected ev skip).length = ev.recs.length - skip := by
  simp [expected]

/-- "same order and field text": the i-th delivered record is the (skip+i)-th parsed record. -/
theorem expected_order (ev : Events) (skip i : Nat) :
    (expected ev skip)[i]? = ev.recs[skip + i]? := by
  simp [expected]

/-- skipping beyond the record count delivers nothing (and is not an error) -/
theorem expected_beyond (ev : Events) (skip : Nat) (h : ev.recs.length ≤ skip) : expected ev skip = [] := by
  simp [expected, h]

/-- Two supported destinations given the same input and options: same result; when the parse ends
in eof both hold exactly `drop skip records` (as records, or as their standard CSV text). -/
theorem consumer_kinds_agree (x : KIn) (d₁ d₂ : Dst) (hsrc : x.srcNil = false)
    (h₁ : dstKind d₁ ≠ .unsupported) (h₂ : dstKind d₂ ≠ .unsupported)
    (e₁ : dstEnvFails x.opts d₁ = false) (e₂ : dstEnvFails x.opts d₂ = false) :
    (consume Cfg.repo { x with dst := d₁ }).res = (consume Cfg.repo { x with dst := d₂ }).res ∧
    (x.evOpt.term = .eof →
      deliveredOk (dstKind d₁) (effW x.opts) (expected x.evOpt x.opts.skip) (consume Cfg.repo { x with dst := d₁ }) = true ∧
      deliveredOk (dstKind d₂) (effW x.opts) (expected x.evOpt x.opts.skip) (consume Cfg.repo { x with dst := d₂ }) = true) := by
  have o₁ := consumer_outcome { x with dst := d₁ } hsrc h₁ e₁
  have o₂ := consumer_outcome { x with dst := d₂ } hsrc h₂ e₂
  exact ⟨o₁.1.trans o₂.1.symm, fun ht => ⟨o₁.2 ht, o₂.2 ht⟩⟩

/-- non-vacuity: a pre-populated, longer table and a ReaderFrom object, three records, skip 1 -/
example :
    let x : KIn := ⟨⟨true, 59, true, 1, false⟩, ⟨[[[97], [98]], [[99]], [[100]]], .eof⟩, ⟨[], .eof⟩, false, false,
      ⟨[], .tab, false, 5, 7, none, false⟩⟩
    let d₂ : Dst := ⟨[.xfer], .other, false, 0, 0, none, false⟩
    x.srcNil = false ∧ dstKind x.dst ≠ .unsupported ∧ dstKind d₂ ≠ .unsupported ∧
      dstEnvFails x.opts x.dst = false ∧ dstEnvFails x.opts d₂ = false ∧
      (consume Cfg.repo x).recs = some [[[99]], [[100]]] ∧
      (consume Cfg.repo { x with dst := d₂ }).sink = some [99, 13, 10, 100, 13, 10] := by
  decide

/-- Two supported sources carrying the same input (a record table holds exactly the parse): the
sink receives the same bytes and the call returns the same result. -/
theorem producer_kinds_agree (x : PIn) (s₁ s₂ : Src) (hsink : x.sinkNil = false)
    (h₁ : srcSupported s₁ = true) (h₂ : srcSupported s₂ = true)
    (htab : x.evOpt = ⟨x.table, .eof⟩)
    (e₁ : srcEnvFails { x with src := s₁ } = false) (e₂ : srcEnvFails { x with src := s₂ } = false) :
    (produce Cfg.repo { x with src := s₁ }).res = .ok ∧ (produce Cfg.repo { x with src := s₂ }).res = .ok ∧
    (produce Cfg.repo { x with src := s₁ }).sink = some (stdEncode (effW x.opts) (x.table.drop x.opts.skip)) ∧
    (produce Cfg.repo { x with src := s₂ }).sink = some (stdEncode (effW x.opts) (x.table.drop x.opts.skip)) := by
  have ev : ∀ s, srcEvents { x with src := s } = ⟨x.table, .eof⟩ := fun s => by
    simp only [srcEvents]; split <;> simp [htab]
  have o₁ := producer_outcome { x with src := s₁ } hsink h₁ e₁
  have o₂ := producer_outcome { x with src := s₂ } hsink h₂ e₂
  simp only [ev, expected] at o₁ o₂
  exact ⟨o₁.1, o₂.1, o₁.2 trivial, o₂.2 trivial⟩

/-- non-vacuity: a BinaryMarshaler object and a record table -/
example :
    let x : PIn := ⟨⟨false, 0, false, 1, false⟩, ⟨[[[97]], [[98], [99]]], .eof⟩, ⟨[], .eof⟩, [[[97]], [[98], [99]]],
      ⟨[.bin], false, .other, false, false⟩, false, false, false⟩
    let s₂ : Src := ⟨[], false, .tab, false, false⟩
    srcSupported x.src = true ∧ srcSupported s₂ = true ∧ srcEnvFails x = false ∧
      srcEnvFails { x with src := s₂ } = false ∧ (produce Cfg.repo x).sink = some [98, 44, 99, 10] := by
  decide

/-- A byte destination of the consumer and the sink of the producer receive the same CSV text. -/
theorem consumer_and_producer_agree (k : KIn) (p : PIn) (hk : k.srcNil = false) (hp : p.sinkNil = false)
    (hd : dstKind k.dst = .bytes) (hs : srcSupported p.src = true)
    (hopts : p.opts = k.opts) (hev : srcEvents p = k.evOpt) (ht : k.evOpt.term = .eof)
    (e₁ : dstEnvFails k.opts k.dst = false) (e₂ : srcEnvFails p = false) :
    (consume Cfg.repo k).sink = (produce Cfg.repo p).sink := by
  have o₁ := (consumer_outcome k hk (hd ▸ nofun) e₁).2 ht
  have o₂ := (producer_outcome p hp hs e₂).2 (hev ▸ ht)
  simp only [hd, deliveredOk, beq_iff_eq] at o₁
  rw [o₁, o₂, hopts, hev]

/-- non-vacuity: a string destination of the consumer, a byte-slice source of the producer -/
example :
    let ev : Events := ⟨[[[97], [34]], [[98]]], .eof⟩
    let k : KIn := ⟨⟨false, 9, false, 0, true⟩, ev, ev, false, true, ⟨[], .str, false, 1, 0, none, false⟩⟩
    let p : PIn := ⟨k.opts, ev, ev, [], ⟨[], false, .bytes, false, false⟩, false, false, true⟩
    dstKind k.dst = .bytes ∧ srcSupported p.src = true ∧ srcEvents p = k.evOpt ∧ dstEnvFails k.opts k.dst = false ∧
      srcEnvFails p = false ∧ (produce Cfg.repo p).sink = some [97, 9, 34, 34, 34, 34, 10, 98, 10] := by
  decide

theorem isErr_not_panic {r : Res} (h : r.isErr = true) : r.isPanic = false := by
  cases r <;> simp_all [Res.isErr, Res.isPanic]

/-- both Specs ask for an error of a call without a stream, and otherwise for `specCore`, whose first
conjunct is "no panic" -/
theorem spec_not_panic {nil : Bool} {k : Kind} {b : Bool} {w : WOpts} {ev : Events} {skip : Nat} {o : Out}
    (h : (if nil then o.res.isErr else specCore k b w ev skip o) = true) : o.res.isPanic = false := by
  split at h
  · exact isErr_not_panic h
  · unfold specCore at h
    simp only [Bool.and_eq_true, Bool.not_eq_true'] at h
    exact h.1

theorem consumer_never_panics (x : KIn) : (consume Cfg.repo x).res.isPanic = false :=
  spec_not_panic (consumer_meets_spec x)

theorem producer_never_panics (x : PIn) : (produce Cfg.repo x).res.isPanic = false :=
  spec_not_panic (producer_meets_spec x)

/-- The reflect calls on the destination table, as they stand in csv.go: for EVERY slice header the
caller may pass (any length, any capacity, shorter or longer than the input) no call panics, and the
table ends up holding exactly the collected records, with length = capacity = their number. -/
theorem table_calls_never_panic (src : List Slice) (t : Tab) :
    tabRun true src Cfg.repo.tableOps t = (⟨src.map Cell.new, src.length⟩, none) := by
  rw [facts_describe_the_repaired_code]
  exact tabRun_fixed src t

/-- The records the container keeps, for every reader configuration (ReuseRecord or not), every
skipped-lines count and every parse that ends in eof: their contents in the FINAL heap are
`drop skip records` (no later read clobbers an earlier record), and no two of them share a
backing array. -/
theorem delivered_records_do_not_alias (reuse : Bool) (skip : Nat) (ev : Events) (ht : ev.term = .eof) :
    let p := pipeCSV Cfg.repo.clones reuse .container skip ev
    p.tbl.map p.heap.deref = expected ev skip ∧ List.Pairwise (· ≠ ·) (p.tbl.map (·.arr)) := by
  rw [facts_describe_the_repaired_code]
  have h := (container_pipe reuse skip ev).2 ht
  exact ⟨h.1, h.2.imp (fun hlt => Nat.ne_of_lt hlt)⟩

/-- non-vacuity and contrast: with ReuseRecord the READER does alias (records 1 and 2 share array 0
here — it is the copy in the container that separates them) -/
example :
    let ev : Events := ⟨[[[97], [98]], [[99], [100]], [[101], [102]]], .eof⟩
    (pipeCSV true true .container 0 ev).tbl.map (·.arr) = [1, 2, 3] ∧
    (pipeCSV false true .container 0 ev).tbl.map (·.arr) = [0, 0, 0] := by
  decide

/-- Malformed input (or any error) leaves a table, byte-slice, string, ReaderFrom or
BinaryUnmarshaler destination exactly as it was. -/
theorem error_leaves_buffered_destination_untouched (x : KIn) (e : Bytes)
    (h1 : x.dst.caps.contains .csvPtr = false) (h2 : x.dst.caps.contains .csvIface = false)
    (h3 : x.dst.caps.contains .io = false) (hs : x.srcNil = false) (hn : x.dst.isNil = false)
    (herr : (consume Cfg.repo x).res = .err e) :
    (consume Cfg.repo x).sink = (x.dst.idle (.err e)).sink ∧
    (consume Cfg.repo x).recs = (x.dst.idle (.err e)).recs ∧
    (consume Cfg.repo x).len = (x.dst.idle (.err e)).len ∧
    (consume Cfg.repo x).cap = (x.dst.idle (.err e)).cap := by
  rw [facts_describe_the_repaired_code] at herr ⊢
  have key : consumeBody Cfg.fixed x = x.dst.idle (.err e) :=
    consumeBody_error_idle x e h1 h2 h3 (by simpa [consume, hs, hn] using herr)
  simp [consume, hs, hn, key]

/-- non-vacuity: a pre-filled string destination and a parse that fails after one record -/
example :
    let x : KIn := ⟨⟨false, 0, false, 0, false⟩, ⟨[[[97]]], .err [1]⟩, ⟨[], .eof⟩, false, false,
      ⟨[], .str, false, 1, 0, none, false⟩⟩
    (consume Cfg.repo x).res = .err [1] ∧ (consume Cfg.repo x).sink = some (ascii "old") := by
  decide

/-! ## The recorded findings stay real: undo one repair in the configuration and the Spec fails -/

/-- F16a: without `SetLen(0)` a destination table longer than the input panics in `SetCap`. -/
theorem F16a_returns_without_the_repair :
    let cfg := { Cfg.fixed with tableOps := [.growN, .setCapN, .setLenN, .copy] }
    let x : KIn := ⟨⟨false, 0, false, 0, false⟩, ⟨[[[97], [98]], [[99], [100]], [[101], [102]]], .eof⟩, ⟨[], .eof⟩,
      false, false, ⟨[], .tab, false, 5, 5, none, false⟩⟩
    (consume cfg x).res = .panic panicSetCap ∧ KSpec x (consume cfg x) = false := by
  decide

/-- F16b: without the copy in the container, `ReuseRecord` makes every delivered record the last one. -/
theorem F16b_returns_without_the_repair :
    let cfg := { Cfg.fixed with clones := false }
    let x : KIn := ⟨⟨true, 0, false, 0, false⟩, ⟨[[[97], [98]], [[99], [100]], [[101], [102]]], .eof⟩, ⟨[], .eof⟩,
      false, false, ⟨[], .tab, false, 0, 0, none, false⟩⟩
    (consume cfg x).recs = some [[[101], [102]], [[101], [102]], [[101], [102]]] ∧ (consume cfg x).alias = 3 ∧
    KSpec x (consume cfg x) = false := by
  decide

/-- F16c: a BinaryMarshaler clause that does not apply the reader options parses `a;b` as one field. -/
theorem F16c_returns_without_the_repair :
    let cfg := { Cfg.fixed with prodCases := Cfg.fixed.prodCases.map fun c => if c.br = .bin then { c with applyR := false } else c }
    let x : PIn := ⟨⟨false, 0, false, 0, false⟩, ⟨[[[97], [98]]], .eof⟩, ⟨[[[97, 59, 98]]], .eof⟩, [],
      ⟨[.bin], false, .other, false, false⟩, false, false, false⟩
    (produce cfg x).sink = some [97, 59, 98, 10] ∧ PSpec x (produce cfg x) = false := by
  decide

/-- F16d / F16e: without the element-type test a table of a named row type panics in reflect.Copy;
without the nil guard a typed-nil pointer panics in reflect.Value.Type. -/
theorem F16d_F16e_return_without_the_repair :
    let ev : Events := ⟨[[[97]]], .eof⟩
    let xd : KIn := ⟨⟨false, 0, false, 0, false⟩, ev, ev, false, false, ⟨[], .nrow, false, 0, 0, none, false⟩⟩
    let xe : KIn := ⟨⟨false, 0, false, 0, false⟩, ev, ev, false, false, ⟨[], .nilPtr, false, 0, 0, none, false⟩⟩
    KSpec xd (consume { Cfg.fixed with consExact := false } xd) = false ∧
    KSpec xe (consume { Cfg.fixed with consNilGuard := false } xe) = false := by
  decide

/-- F16f: with a plain `Close` of the pipe in the io.WriterTo clause, a reader that gives up before
draining the pipe lets the scheduler report io.ErrClosedPipe instead of the parser's error (the model
takes the adverse choice; the real code did so once in a few thousand runs). -/
theorem F16f_returns_without_the_repair :
    let cfg := { Cfg.fixed with wtCloseWithErr := false }
    let x : PIn := ⟨⟨false, 0, false, 0, false⟩, ⟨[], .err msgInvalidDelim⟩, ⟨[], .eof⟩, [],
      ⟨[.xfer], false, .other, false, false⟩, false, false, false⟩
    (produce cfg x).res = .err msgClosedPipe ∧ PSpec x (produce cfg x) = false ∧
    PSpec x (produce Cfg.fixed x) = true := by
  decide

end RtVerif.C16
