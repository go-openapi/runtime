import RtVerif.Model.C04
import RtVerif.Lemmas.C04
import RtVerif.Lemmas.C04Server
import RtVerif.Lemmas.C04Route
import RtVerif.Lemmas.C04Header
/-
  C04 — property theorems: round trips of the client/server COMPOSITION.

  * `path_round_trip` (T1 + T4): for an operation whose full path is a simple template (whole-segment
    placeholders, static text that travels unchanged), values that are non-empty and no dot segments,
    a table the router accepted and no rival record, the request the client builds is dispatched to
    THAT operation and its handler's binder receives, for every placeholder in template order,
    exactly the value the caller set — whatever bytes the value contains (`/ % + SP ? # : * { }`,
    non-ASCII, NUL), whatever the order of the client's parameter map, with or without a trailing
    slash in the template.  It composes C10 (`substSeq_eq_substAll`), GoURL (`unescape_escape`,
    `pathEscape_no_special`), GoPath (`kept_render`) and C05 (`lookup_spec`: completeness finds the
    route, soundness pins the reported texts, preference settles the operation).
  * `query_round_trip` (T2): `ParseQuery (Values.Encode m) = m` as key → value-list maps.
  * `header_round_trip`, `canon_idem` (T3): header names.
-/
namespace RtVerif.C04
open RtVerif Bytes

/-- the source is wired as the composition assumes (facts regenerated from the working tree) -/
theorem wiring_as_modelled : wiringOk = true := by decide

/-- **T2 (query and urlencoded form)**: for values with pairwise distinct keys — any byte strings as
keys and values, any number of values per key, in order — what the server parses from what the
client encoded reports no error and maps every key to exactly the values set for it (a key with no
value is not transmitted). -/
theorem query_round_trip (q : Values) (hd : (q.map (·.1)).Nodup) :
    (GoQuery.parseQuery (GoQuery.encode q)).ok = true ∧
    ∀ k, GoQuery.Values.get (serverValues q) k =
      match GoQuery.Values.get q k with
      | some (v :: r) => some (v :: r)
      | _ => none :=
  GoQuery.parse_encode q hd

example : ((([([113], [[97, 32, 38], [], [61, 43, 37]]), ([], [[255]])] : Values).map (·.1)).Nodup) := by decide

/-- the binder's rules on top of it: an array (`multi`) parameter receives all the values set, in
order; a scalar parameter that was given one value receives that value -/
theorem bound_values (q : Values) (hd : (q.map (·.1)).Nodup) (k : Bytes) (vs : List Bytes)
    (hk : GoQuery.Values.get q k = some vs) :
    bindDecl (serverValues q) (k, true) = (k, vs) ∧
    (∀ v, vs = [v] → bindDecl (serverValues q) (k, false) = (k, [v])) := by
  have h := (query_round_trip q hd).2 k
  rw [hk] at h
  constructor
  · cases vs with
    | nil => simp [bindDecl, bindMulti, h]
    | cons v r => simp [bindDecl, bindMulti, h]
  · intro v hv
    subst hv
    simp [bindDecl, bindScalar, h]

/-- **T3a**: `http.CanonicalHeaderKey` is idempotent — the key the client files a header under is
the key the wire delivers it under -/
theorem canon_idem (n : Bytes) : C14.canon (C14.canon n) = C14.canon n := by
  unfold C14.canon
  by_cases h : n.all C14.isTokenByte = true
  · simp only [h, ↓reduceIte, canonGo_token, canonGo_idem]
  · simp only [h, Bool.false_eq_true, ↓reduceIte]

theorem wire_append (h : Hdr) (e : Bytes × Bytes) :
    wireHeaders (h ++ [e]) = wireHeaders h ++ [(C14.canon e.1, e.2)] := by
  simp [wireHeaders]

/-- **T3b**: after `SetHeaderParam(n, v)` the server's binder finds `v` under every declared name
with the same canonical form (in particular `n` itself, in any letter case when it is a token) -/
theorem header_set_get (h : Hdr) (n v n' : Bytes) (hc : C14.canon n' = C14.canon n) :
    serverHeader (wireHeaders (clientSetHeader h (n, v))) n' = some v := by
  unfold clientSetHeader serverHeader
  rw [wire_append]
  simp only [canon_idem, hc, List.filter_append, List.filter_cons, beq_self_eq_true, ↓reduceIte,
    List.filter_nil, List.map_append, List.map_cons, List.map_nil, List.getLast?_append,
    List.getLast?_singleton, Option.some_or]

/-- **T3c**: setting a header with another canonical name does not disturb it -/
theorem header_set_other (h : Hdr) (m w n : Bytes) (hne : C14.canon m ≠ C14.canon n) :
    serverHeader (wireHeaders (clientSetHeader h (m, w))) n = serverHeader (wireHeaders h) n := by
  unfold clientSetHeader serverHeader
  rw [wire_append]
  have hlast : (C14.canon (C14.canon m) == C14.canon n) = false := by
    rw [canon_idem]; simpa using hne
  simp only [List.filter_append, List.filter_cons, hlast, Bool.false_eq_true, ↓reduceIte, List.filter_nil,
    List.append_nil]
  congr 2
  -- the removed entries are filed under canon m: they would not have been found under canon n
  simp only [wireHeaders, List.filter_map, List.filter_filter]
  congr 1
  refine List.filter_congr fun e _ => ?_
  by_cases he : e.1 = C14.canon m
  · simpa [he, canon_idem] using hne
  · simp [he]

/-- **T3 (header names)**: when the caller sets headers whose names have pairwise distinct canonical
forms, the binder finds under each declared name exactly the value set for it. -/
theorem header_round_trip (pairs : List (Bytes × Bytes)) (hd : (pairs.map fun nv => C14.canon nv.1).Nodup)
    (nv : Bytes × Bytes) (hm : nv ∈ pairs) :
    serverHeader (wireHeaders (clientHeaders pairs)) nv.1 = some nv.2 := by
  -- later headers have other canonical names and leave the one set for `nv` alone
  have hother : ∀ (r : List (Bytes × Bytes)) (h : Hdr), (∀ x ∈ r, C14.canon x.1 ≠ C14.canon nv.1) →
      serverHeader (wireHeaders (r.foldl clientSetHeader h)) nv.1 = serverHeader (wireHeaders h) nv.1 := by
    intro r
    induction r with
    | nil => exact fun _ _ => rfl
    | cons a r ih =>
      intro h hne
      rw [List.foldl_cons, ih _ fun x hx => hne x (List.mem_cons_of_mem _ hx)]
      exact header_set_other h a.1 a.2 nv.1 (hne a List.mem_cons_self)
  unfold clientHeaders
  generalize ([] : Hdr) = h
  induction pairs generalizing h with
  | nil => cases hm
  | cons a r ih =>
    simp only [List.map_cons, List.nodup_cons, List.mem_map, not_exists, not_and] at hd
    rw [List.foldl_cons]
    rcases List.mem_cons.mp hm with rfl | hmr
    · rw [hother r _ fun x hx e => hd.1 x hx e]
      exact header_set_get h nv.1 nv.2 nv.1 rfl
    · exact ih hd.2 hmr _

example : ((([([120, 45, 114, 97, 116, 101], [55]), ([88, 45, 73, 100], [])] : List (Bytes × Bytes)).map
    fun nv => C14.canon nv.1).Nodup) := by decide

/-- `client.New` and the server join the base path and the template to the same full path (the
description's base path is empty or starts with `/`, the template starts with `/`) -/
theorem client_join (b t : Bytes) (hb : b = [] ∨ GoPath.isRooted b = true) (ht : GoPath.isRooted t = true) :
    GoPath.join (clientBase b) t = GoPath.join b t := by
  rcases hb with rfl | hb
  · cases t with
    | nil => simp [GoPath.isRooted] at ht
    | cons c t' =>
      have hc : c = 47 := by
        simp only [GoPath.isRooted, GoPath.slash] at ht; exact of_decide_eq_true ht
      subst hc
      have h1 : clientBase [] = [47] := by simp [clientBase, GoPath.isRooted, slash]
      rw [h1, GoPath.join_nil_left _ (by simp), GoPath.join_eq_clean [47] _ (by simp) (by simp)]
      exact (GoPath.clean_double_slash [] (47 :: t')).trans (GoPath.clean_double_slash [] t')
  · simp [clientBase, hb]

/-- **T1 + T4 (path values and operation selection).**  The request built by the client for
operation `i` — a simple template under the base path, every placeholder given a value that is
non-empty and no dot segment — is dispatched by the server to operation `i`, and the parameters the
router hands to the binder are the template's names, in order, each with exactly the value the
caller set. -/
theorem path_round_trip (api : C01.Api) (i : Nat) (op : C01.Op) (segs : List Seg)
    (params : List (Bytes × Bytes)) (t : C05.Table)
    (hop : api.ops[i]? = some op)
    (hbase : api.basePath = [] ∨ GoPath.isRooted api.basePath = true)
    (htmpl : GoPath.isRooted op.template = true)
    (hfp : C01.fullPath api op = renderSegs Seg.text segs)
    (hok : segsOk true segs = true)
    (hnames : C10.NamesOk params)
    (hvals : valuesOk segs params = true)
    (hbuild : C05.build (C01.recordsFor api (toUpper op.method)) = .ok t)
    (hrival : noRival api i op (GoPath.clean (wirePath (clientPath api op params))) = true) :
    serverRoute api op params = .ran i (expected segs params) := by
  obtain ⟨hw, _⟩ := segsWF_of_bool hok
  have hv := valuesOk_of_bool hvals
  have hbuilt : clientPath api op params =
      renderSegs (Seg.sub params) segs ++ (if C10.keepsSlash op.template then [47] else []) := by
    unfold clientPath C10.urlPath
    rw [client_join _ _ hbase htmpl]
    have : GoPath.join api.basePath op.template = C01.fullPath api op := rfl
    rw [this, hfp, substSeq_flat params segs hnames hw]
  have hwire := wire_built hw hv (C10.keepsSlash op.template)
  have hclean := clean_built hw hv (C10.keepsSlash op.template)
  rw [hbuilt, hwire, hclean] at hrival
  have hkey : C01.convert (C01.fullPath api op) = renderSegs Seg.key segs := by
    rw [hfp]; exact convert_renderSegs segs hw
  have hl := lookup_own api i op segs params t hop hkey hw hv hbuild hrival
  unfold serverRoute C01.dispatch
  simp only [hbuilt, hwire, hclean, method_known api i op hop, ↓reduceIte, lookupUnder_ok _ hbuild, hl, hop,
    hfp, collect_own segs params hw hv]

/-- **the values arrive unchanged**: each placeholder's parameter is the value the caller set -/
theorem expected_value (segs : List Seg) (params : List (Bytes × Bytes)) (hvals : valuesOk segs params = true)
    (n : Bytes) (hn : n ∈ phNames segs) :
    ∃ v, C10.lookupParam params n = some v ∧ (n, v) ∈ expected segs params := by
  obtain ⟨v, hv, _⟩ := valuesOk_of_bool hvals n hn
  refine ⟨v, hv, ?_⟩
  simp only [expected, List.mem_map]
  exact ⟨n, hn, by simp [hv]⟩

/-- **no rival in a single-operation API** (non-vacuity of `hrival`; with several operations the
hypothesis is the decidable test the driver evaluates on every case) -/
theorem noRival_single (api : C01.Api) (op : C01.Op) (p : Bytes) (h : api.ops = [op]) :
    noRival api 0 op p = true := by
  simp only [noRival, List.all_eq_true, Bool.not_eq_eq_eq_not, Bool.not_true]
  intro kv hkv
  obtain ⟨op', hop', _⟩ := C01.mem_recordsFor hkv
  have : kv.2 = 0 := by
    rw [h] at hop'
    cases hk : kv.2 with
    | zero => rfl
    | succ k => rw [hk] at hop'; simp at hop'
  simp [isRival, this]

/-- non-vacuity of the remaining hypotheses of `path_round_trip`: `GET /api/pets/{id}` with the value
`a/b c%` (that `Build` accepts such a table is evaluated by the correspondence stream on every run —
`convert` and `build` are defined by well-founded recursion and do not reduce in the kernel) -/
example (t : C05.Table)
    (hb : C05.build (C01.recordsFor ⟨[47, 97, 112, 105], [⟨[103, 101, 116], [47, 112, 101, 116, 115, 47, 123, 105, 100, 125]⟩]⟩
      (toUpper [103, 101, 116])) = .ok t) :
    serverRoute ⟨[47, 97, 112, 105], [⟨[103, 101, 116], [47, 112, 101, 116, 115, 47, 123, 105, 100, 125]⟩]⟩
        ⟨[103, 101, 116], [47, 112, 101, 116, 115, 47, 123, 105, 100, 125]⟩ [([105, 100], [97, 47, 98, 32, 99, 37])] =
      .ran 0 [([105, 100], [97, 47, 98, 32, 99, 37])] :=
  path_round_trip _ 0 _ [.lit [97, 112, 105], .lit [112, 101, 116, 115], .ph [105, 100]] _ t rfl
    (Or.inr (by decide)) (by decide) (by decide) (by decide)
    (by intro kv hkv; simp at hkv; subst hkv; decide) (by decide) hb (noRival_single _ _ _ rfl)

/-- **F04b is real in the model**: for the template `/é/{id}` and the value `1` the client builds
`/é/1`; the wire delivers it as `/%C3%A9/1` (the raw bytes of `é` are no valid path encoding, so
net/url re-encodes the path); the router's key for the template keeps the raw bytes, and the naive
matcher — hence, by C05's soundness, the router — does not accept the delivered path for it. -/
theorem f04b_real :
    litOk [195, 169] = false ∧ litOkLoose [195, 169] = true ∧
    wirePath [47, 195, 169, 47, 49] = [47, 37, 67, 51, 37, 65, 57, 47, 49] ∧
    C01.convert [47, 195, 169, 47, 123, 105, 100, 125] = [47, 195, 169, 47, 58, 105, 100] ∧
    C05.matchKey false ([47, 195, 169, 47, 58, 105, 100] ++ [C05.cTerm]) [47, 37, 67, 51, 37, 65, 57, 47, 49] = none := by
  refine ⟨by decide, by decide, by decide, ?_, ?_⟩
  · rw [show ([47, 195, 169, 47, 123, 105, 100, 125] : Bytes) = [47, 195, 169, 47] ++ (C10.placeholder [105, 100] ++ []) from rfl,
      C01.convert_append_plain _ _ (by decide), convert_placeholder [105, 100] [] (by simp) (by decide) (Or.inl rfl),
      C01.convert_nil]
    rfl
  · rw [List.cons_append, C05.matchKey_lit_cons false 47 47 _ _ (by decide) (by decide) (by decide)]
    simp only [beq_self_eq_true, ↓reduceIte]
    rw [List.cons_append, C05.matchKey_lit_cons false 195 37 _ _ (by decide) (by decide) (by decide)]
    rfl
end RtVerif.C04
