import RtVerif.Lemmas.C03Main
import RtVerif.Lemmas.C03X
/-
  C03 — property theorems (the axiom audit counts exactly the theorems of this file).

  T1  integers of every declared width: value iff the last text is a literal `[+-]?[0-9]+` in range,
      otherwise 422 (code 601) — including the boundary literals ±2^(w-1).
  T2  the absent / empty / default / required / allowEmptyValue decision table, scalars and arrays.
  T3  arrays: items = splitByFormat of the last value (csv/ssv/tsv/pipes) or all repeated values
      (multi, query/formData only); every item converted like a scalar; first failing item → 422.
  T4  totality: no declaration the regenerated `typeForSchema` table allows makes `bind` panic.
  T5  header parameters are looked up case-insensitively.
  The theorems about `number`, registered formats and validations are parametric in the external
  functions (`parseFloatFor` hand model, `Ext` graph): they say what the binder does with what these return;
  that the hand model is strconv's rounding, or the graph strfmt's functions, is not proved here (Model/C03.lean,
  R5 and `Ext`).

  File parameters and struct targets (Model/C03X.lean):
  TF1-TF5  `type: file` and form requests part by part: the last file part of the declared name with its
      whole content and header; missing → 422 (required) / the zero file; file parts are not texts and
      texts are not files; no panic; text parameters of a form refine `C03_holds_outside_known`.
  TS1-TS6  struct targets: the width and sign of the FIELD decide what is accepted (never truncated or
      wrapped), the declared `int32` range by the validator; pointer fields (nil / pointer to the value,
      validated through the pointer); field lookup by exact exported name; no panic for any field kind;
      the map-target model is the struct-target model at the kind `typeForSchema` picks.
  C03S_holds_outside_known  the refinement theorem for struct targets, outside F03d, F03e, F03h, F03i.
  TM1-TM3  several parameters of one operation (Model/C03M.lean): the multi-parameter bind is the product of
      the single binds (independence), so the Spec lifts parameter by parameter and to the operation (the
      handler runs iff every parameter is bound; otherwise 422, justified by some parameter's Spec).
-/
namespace RtVerif.C03
open RtVerif Bytes

def exDecl (name : Bytes) (loc : Loc) (ty format : String) : Decl :=
  { name := name, loc := loc, ty := ty, format := format, itemsTy := "", itemsFormat := "", cf := "",
    required := false, allowEmpty := false, default := none, valid := [], ext := none }

/-- `limit` -/
def nLimit : Bytes := [108, 105, 109, 105, 116]
/-- `x-rate` / `X-RATE` -/
def nXRateLower : Bytes := [120, 45, 114, 97, 116, 101]
def nXRateUpper : Bytes := [88, 45, 82, 65, 84, 69]

/-- `typeForSchema` (regenerated table) gives every integer format the Go type of that width. -/
theorem T1_integer_kind (ext : Option Ext) (fmt : String) :
    scalarKind ext "integer" fmt = some (.int (widthOf fmt)) := by
  unfold widthOf
  repeat' split
  all_goals try (subst fmt; rfl)
  rename_i h8 h16 h32
  by_cases h64 : fmt = "int64"
  · subst h64
    rfl
  simp only [scalarKind, lookupTable, Facts.c03TypeTable, List.find?, beq_lit_ne h8, beq_lit_ne h16,
    beq_lit_ne h32, beq_lit_ne h64]
  cases "*" == fmt <;> rfl

/-- **T1.** An `integer` parameter (any format) whose key is present with a non-empty last text `t`:
the handler receives `v` of the declared width iff `t` is a literal `[+-]?[0-9]+` denoting `v` within
that width; every other text is answered 422 (invalid type) naming the parameter. -/
theorem T1_integer_binding (d : Decl) (r : Req) (vs : List Bytes) (hv : Bool) (t : Bytes)
    (hty : d.ty = "integer") (hval : d.valid = [])
    (hg : getOK d r = (vs, true, hv)) (ht : lastOr vs = t) (hne : t ≠ []) :
    (∀ v, bind d r = .value (.scalar (.int (widthOf d.format) v)) ↔
        Num.IntLit t v ∧ Num.fitsInt (widthOf d.format) v) ∧
    ((¬ ∃ v, Num.IntLit t v ∧ Num.fitsInt (widthOf d.format) v) → bind d r = .e422 601) := by
  have hk : typeForSchema d = some (.scalar (.int (widthOf d.format))) := by
    simp [typeForSchema, hty, T1_integer_kind]
  have hraw : bindRaw d r = itemOut (convertInt (widthOf d.format) t) := by
    simp only [bindRaw, hk, bindScalar, hg, ht]
    rw [setFieldValue_text d _ _ t (by simp [int_handled]) hne]
    rfl
  obtain ⟨hiff, herr⟩ := convertInt_iff _ (widths_le (widthOf_mem d.format)) t
  unfold bind
  rw [hraw]
  constructor
  · intro v
    rw [← hiff v]
    cases hc : convertInt (widthOf d.format) t with
    | err c => simp [itemOut, validated]
    | ok x =>
      obtain ⟨v0, rfl⟩ := convertInt_shape hc
      simp [itemOut, validated, validate, validateScalar, hval]
  · intro hno
    rw [herr hno]
    rfl

/-- **T1, every value.** The decimal rendering of any integer of the declared width is bound to that
integer (so every value of the type is reachable, not only the boundaries). -/
theorem T1_decimal_rendering (ext : Option Ext) (w : Nat) (hw : w = 8 ∨ w = 16 ∨ w = 32 ∨ w = 64) (v : Int)
    (hf : Num.fitsInt w v) : convertText ext (.int w) (Num.formatInt v) = .ok (.int w v) :=
  ((convertInt_iff w (widths_le hw) (Num.formatInt v)).1 v).2 ⟨Num.formatInt_lit v, hf⟩

/-- **T1, boundaries.** For every width the greatest and least literals are bound, their neighbours
outside are rejected (the texts are the decimal renderings of ±2^(w-1) and the values next to them). -/
theorem T1_boundaries (w : Nat) (hw : w = 8 ∨ w = 16 ∨ w = 32 ∨ w = 64) :
    convertText none (.int w) (Num.formatInt (2 ^ (w - 1) - 1)) = .ok (.int w (2 ^ (w - 1) - 1)) ∧
    convertText none (.int w) (Num.formatInt (2 ^ (w - 1))) = .err 601 ∧
    convertText none (.int w) (Num.formatInt (-(2 ^ (w - 1)))) = .ok (.int w (-(2 ^ (w - 1)))) ∧
    convertText none (.int w) (Num.formatInt (-(2 ^ (w - 1)) - 1)) = .err 601 := by
  refine ⟨T1_decimal_rendering none w hw _ ?_, convertInt_formatInt_err w (widths_le hw) _ ?_,
    T1_decimal_rendering none w hw _ ?_, convertInt_formatInt_err w (widths_le hw) _ ?_⟩ <;>
  rcases hw with rfl | rfl | rfl | rfl <;> decide

/-- non-vacuity of T1's hypotheses: `?limit=1&limit=-128` on an `int8` query parameter -/
example :
    getOK (exDecl nLimit .query "integer" "int8") ⟨nLimit, some [[49], [45, 49, 50, 56]]⟩
        = ([[49], [45, 49, 50, 56]], true, true) ∧
    bind (exDecl nLimit .query "integer" "int8") ⟨nLimit, some [[49], [45, 49, 50, 56]]⟩
        = .value (.scalar (.int 8 (-128))) := by
  decide

/-- **T2, scalars.** `dv` is the declared default (`d.default` when it is a scalar). Rows:
absent → default, else 422-required when required, else the zero value;
present but empty → default, else 422-required when required without allowEmptyValue, else zero;
present and non-empty → the text is converted, whatever required/default/allowEmptyValue say. -/
theorem T2_scalar_table (d : Decl) (k : SKind) (dv : Option DefScalar) (t : Bytes)
    (hk : k.handled = true) (hnr : ∀ b n, k ≠ .reg b n) (hd : d.default.isSome = dv.isSome) :
    (setFieldValue d k dv [] false =
      match dv with
      | some x => defaultScalar d.ext k x
      | none => if d.required then .err 602 else .ok (zeroScalar k)) ∧
    (setFieldValue d k dv [] true =
      match dv with
      | some x => defaultScalar d.ext k x
      | none => if d.required && !d.allowEmpty then .err 602 else .ok (zeroScalar k)) ∧
    (t ≠ [] → setFieldValue d k dv t true = convertText d.ext k t) := by
  have hnone : d.default.isNone = !dv.isSome := by
    rw [← hd]
    cases d.default <;> rfl
  have hempty : emptyNoDefault d.ext k = .ok (zeroScalar k) := by
    cases k <;> first | rfl | exact (hnr _ _ rfl).elim
  refine ⟨?_, ?_, setFieldValue_text d k dv t (by simp [hk])⟩ <;>
    cases dv <;> cases hr : d.required <;> cases ha : d.allowEmpty <;>
    simp [setFieldValue, requiredFails, hnone, hk, emptyValue, hempty, hr, ha]

example : (SKind.int 32).handled = true ∧ (∀ b n, SKind.int 32 ≠ .reg b n) := by
  constructor
  · decide
  · intro b n h; cases h

/-- **T2, arrays.** No item at all (`data = []`: key absent, value empty, or only separators/blanks):
the declared default (item by item), else 422-required, else the empty list. -/
theorem T2_array_table (d : Decl) (k : SKind) (hk : k.handled = true) :
    (d.default = none →
      setSliceFieldValue d k [] false = (if d.required then .e422 602 else .value (.list (tagOf k) [])) ∧
      setSliceFieldValue d k [] true =
        (if d.required && !d.allowEmpty then .e422 602 else .value (.list (tagOf k) []))) ∧
    (∀ items, d.default = some (.arr items) → ∀ hasKey,
      setSliceFieldValue d k [] hasKey = listOut k (items.map (defaultScalar d.ext k))) := by
  refine ⟨fun hdn => ?_, fun items hdi hasKey => ?_⟩
  · constructor <;> cases hr : d.required <;> cases ha : d.allowEmpty <;>
      simp [setSliceFieldValue, sliceRequiredFails, sliceDefault, hdn, hr, ha]
  · have hitem : ∀ it, setFieldValue d k (some it) [] true = defaultScalar d.ext k it := fun it => by
      simp [setFieldValue, requiredFails, hdi, hk, emptyValue]
    simp [setSliceFieldValue, sliceRequiredFails, sliceDefault, hdi, hitem]

/-- **T3, splitting.** `swag.SplitByFormat` is: split the text on the separator of the collection
format, trim every piece, drop the empty ones; nothing for the empty text and for `multi`. -/
theorem T3_split (data : Bytes) (cf : String) :
    splitByFormat data cf =
      match sepOf cf with
      | some sep => if data = [] then [] else ((splitByte sep data).map trimSpace).filter (fun x => !x.isEmpty)
      | none => [] := splitByFormat_eq data cf

theorem T3_separators :
    sepOf "" = some 44 ∧ sepOf "csv" = some 44 ∧ sepOf "ssv" = some 32 ∧ sepOf "tsv" = some 9 ∧
    sepOf "pipes" = some 124 ∧ sepOf "multi" = none := by decide

/-- **T3, items.** Non-empty items are converted one by one like scalar texts; the array is bound
iff every item converts, otherwise the answer is the 422 of the first failing item. -/
theorem T3_items (d : Decl) (k : SKind) (data : List Bytes) (hk : k.handled = true ∨ k.isReg = true)
    (hne : data ≠ []) (hitems : ∀ t ∈ data, t ≠ []) :
    setSliceFieldValue d k data true = listOut k (data.map (convertText d.ext k)) := by
  have hh : (!k.handled && !k.isReg) = false := by
    rcases hk with h | h <;> simp [h]
  rw [← setSliceFieldValueT_s, setSliceFieldValueT_items d _ data hne]
  simp only [setFieldValueT_s]
  rw [List.map_congr_left fun t ht => setFieldValue_text d k none t hh (hitems t ht)]
  rfl

/-- the items produced by splitting are never empty, so `T3_items` applies to them -/
theorem T3_split_nonempty (data : Bytes) (cf : String) : ∀ t ∈ splitByFormat data cf, t ≠ [] := by
  intro t ht
  rw [T3_split] at ht
  repeat' split at ht
  all_goals simp only [List.not_mem_nil, List.mem_filter] at ht
  rintro rfl
  simp at ht

/-- **T3, which texts.** For an array declaration: with a separator format the items come from the
LAST value sent; with `multi` (query and formData only) every repeated value is an item; `multi` in a
header or path is answered 422 naming the parameter. -/
theorem T3_array_source (d : Decl) (r : Req) (k : SKind) (hk : typeForSchema d = some (.slice k)) :
    bindRaw d r =
      if d.cf == "multi" then
        (if allowsMulti d.loc then setSliceFieldValue d k (getOK d r).1 (getOK d r).2.1 else .e422 601)
      else if (getOK d r).2.2 then
        setSliceFieldValue d k (splitByFormat (lastOr (getOK d r).1) d.cf) (getOK d r).2.1
      else setSliceFieldValue d k [] (getOK d r).2.1 := by
  unfold bindRaw
  rw [hk]
  simp only [bindSlice]
  by_cases hm : (d.cf == "multi") = true
  · by_cases ha : allowsMulti d.loc = true <;> simp [hm, ha]
  · by_cases hv : (getOK d r).2.2 = true <;> simp [hm, hv]

/-- **T3, integer arrays.** Every item must be an in-range literal: the list of values is bound iff the
items are literals denoting exactly those values, in order. -/
theorem T3_integer_items (ext : Option Ext) (w : Nat) (hw : 1 ≤ w ∧ w ≤ 64) (data : List Bytes) (vs : List Scalar) :
    listOut (.int w) (data.map (convertText ext (.int w))) = .value (.list (tagOf (.int w)) vs) ↔
      ItemsDenote w data vs := by
  rw [listOut_value_iff]
  induction data generalizing vs with
  | nil =>
    cases vs with
    | nil => exact ⟨fun _ => .nil, fun _ => rfl⟩
    | cons _ _ => exact ⟨fun h => (by cases h), fun h => (by cases h)⟩
  | cons t r ih =>
    cases vs with
    | nil => exact ⟨fun h => (by cases h), fun h => (by cases h)⟩
    | cons s ss =>
      simp only [List.map_cons, List.cons.injEq, convertText]
      constructor
      · intro ⟨h1, h2⟩
        obtain ⟨v, rfl⟩ := convertInt_shape (w := w) (t := t) h1
        obtain ⟨hlit, hf⟩ := ((convertInt_iff w hw t).1 v).1 h1
        exact .cons hlit hf ((ih ss).1 h2)
      · intro h
        cases h with
        | cons hlit hf hr =>
          exact ⟨((convertInt_iff w hw t).1 _).2 ⟨hlit, hf⟩, (ih _).2 hr⟩

example : listOut (.int 8) ([[49], [43, 50]].map (convertText none (.int 8))) =
    .value (.list (tagOf (.int 8)) [.int 8 1, .int 8 2]) := by decide

/-- every (type, format) the description language allows for a non-body, non-file parameter has a Go
type in the regenerated `typeForSchema` table -/
theorem T4_table_total (ext : Option Ext) (ty fmt : String) (k : SKind)
    (h : specSKind ext ty fmt = some k) : scalarKind ext ty fmt = some k := by
  obtain ⟨rfl, rfl⟩ | ⟨rfl, rfl⟩ | ⟨rfl, rfl⟩ | ⟨rfl, hk⟩ := specSKind_inv h
  · simp only [scalarKind, lookupTable, Facts.c03TypeTable, List.find?]
    cases "*" == fmt <;> rfl
  · exact T1_integer_kind ext fmt
  · by_cases hf : fmt = "float"
    · subst hf
      rfl
    by_cases hd : fmt = "double"
    · subst hd
      rfl
    simp only [scalarKind, lookupTable, Facts.c03TypeTable, List.find?, beq_lit_ne hf, beq_lit_ne hd,
      beq_eq_false_iff_ne.2 hf]
    cases "*" == fmt <;> rfl
  · simp only [scalarKind, lookupTable, Facts.c03TypeTable, List.find?]
    obtain ⟨rfl, rfl⟩ | ⟨e, rfl, rfl⟩ := hk <;> cases "*" == fmt <;> rfl

/-- the Go type agrees with the declared type as the property reads it -/
theorem T4_kind_agrees (d : Decl) (k : Kind) (h : specKind d = some k) : typeForSchema d = some k := by
  have ht : lookupTable Facts.c03TypeTable "array" "*" = some "slice" := by decide
  cases k <;> obtain ⟨ha, hs⟩ := specKind_inv h <;>
    simp only [typeForSchema, ha, ht, T4_table_total _ _ _ _ hs, Option.map_some, if_true, Bool.false_eq_true, if_false]

/-- **T4.** Binding never panics for a declaration the description language allows (boolean, integer,
number, string — any format, registered or not — and arrays of those), whatever the request. -/
theorem T4_no_panic (d : Decl) (r : Req) (hk : (specKind d).isSome = true) : ∀ why, bind d r ≠ .panic why := by
  intro why e
  obtain ⟨k, hk⟩ := Option.isSome_iff_exists.1 hk
  have := validated_clean d _ (bindRaw_clean d r k (T4_kind_agrees d k hk))
  rw [← bind, e] at this
  cases this

/-- a declaration `type: number` without format is one of them (F03a, repaired): -/
example : (specKind (exDecl nLimit .query "number" "")).isSome = true := by decide

/-- **T5.** For a header parameter the values the client sent under a name that equals the declared
name up to ASCII case are the ones the binder finds — and no others. -/
theorem T5_header_case_insensitive (d : Decl) (r : Req) (vs : List Bytes)
    (hl : d.loc = .header) (hv : r.values = some vs)
    (hn : d.name.all isTokenChar = true) (hk : r.key.all isTokenChar = true) :
    (equalFold d.name r.key = true → getOK d r = (vs, true, !vs.isEmpty)) ∧
    (equalFold d.name r.key = false → getOK d r = ([], false, false)) := by
  have hfact : Facts.c03HeaderLookupCanonical = true := by decide
  have hiff := canonHeader_eq_iff r.key d.name hk hn
  rw [equalFold_comm] at hiff
  constructor
  · intro he
    simp [getOK, hv, storedKey, lookupKey, hl, hfact, hiff.2 he]
  · intro he
    have : canonHeader r.key ≠ canonHeader d.name := fun e => by simp [hiff.1 e] at he
    simp [getOK, hv, storedKey, lookupKey, hl, hfact, this]

/-- `x-rate` declared in lower case, sent as `X-RATE` (F03c, repaired) -/
example :
    nXRateLower.all isTokenChar = true ∧ nXRateUpper.all isTokenChar = true ∧
    equalFold nXRateLower nXRateUpper = true ∧
    bind (exDecl nXRateLower .header "integer" "int32") ⟨nXRateUpper, some [[53]]⟩ = .value (.scalar (.int 32 5)) := by
  decide

/-- **C03.** For every well-formed declaration (`Decl.wf`: a type the description language allows, a
well-typed default, `multi` only in query/formData, header names that are tokens; the external strfmt
graph unmarshals the empty text and named string types render as their text) and every request
(`Req.wf`: a sent key has a value, a route holds one value per path parameter), outside the two
recorded finding classes (F03d number texts, F03e boolean texts): the model's `bind` yields exactly
what the Spec — written from the property text — expects: the denoted value (last occurrence / split
or repeated items / declared default / zero value), or 422 naming the parameter, and never a panic. -/
theorem C03_holds_outside_known (d : Decl) (r : Req) (hd : d.wf = true) (hr : Req.wf d r = true)
    (hk : known d r = none) : specOk d r (bind d r) = true := by
  unfold specOk specExpect bind bindRaw
  cases hsk : specKind d with
  | none => simp [Decl.wf, hsk] at hd
  | some K =>
    rw [T4_kind_agrees d K hsk]
    cases K with
    | scalar k =>
      obtain ⟨g1, g2, _⟩ := getOK_spec d r hd hr
      obtain ⟨harr, hspec⟩ := specKind_inv hsk
      obtain ⟨hext, hdef, _⟩ := wf_scalar hd hsk
      have hkn : textKnown k (lastOr ((specTexts d r).getD [])) = none := by
        simpa [known, declaredSKind, hsk, convertedTexts, harr, g1] using hk
      simp only [bindScalar, g1, g2]
      exact scalar_main d k (specTexts d r) (specSKind_cases _ _ _ _ hspec) hext hdef hkn
    | slice k =>
      obtain ⟨harr, hspec⟩ := specKind_inv hsk
      obtain ⟨hext, hmulti, hdef, _⟩ := wf_slice hd hsk
      obtain ⟨hb, hdata, hhas⟩ := slice_source d r (.s k false) hd hr harr hmulti
      simp only [known, declaredSKind, hsk] at hk
      simp only [hmulti, Bool.false_eq_true, if_false]
      rw [← bindSliceT_s, hb, setSliceFieldValueT_s]
      exact slice_main d k _ _ (specSKind_cases _ _ _ _ hspec) hext hdef hdata hhas
        (List.findSome?_eq_none_iff.1 hk)

/-- non-vacuity: the witness of T1's example meets `Decl.wf`, `Req.wf` and lies outside the finding classes -/
example :
    (exDecl nLimit .query "integer" "int8").wf = true ∧
    Req.wf (exDecl nLimit .query "integer" "int8") ⟨nLimit, some [[49], [45, 49, 50, 56]]⟩ = true ∧
    known (exDecl nLimit .query "integer" "int8") ⟨nLimit, some [[49], [45, 49, 50, 56]]⟩ = none := by
  decide

/-- F03d: `inf` is bound to +Inf by a `number` parameter although it is no decimal literal. -/
theorem F03d_real :
    ∃ d r, d.wf = true ∧ known d r = some "F03d" ∧ specOk d r (bind d r) = false :=
  ⟨exDecl nLimit .query "number" "double", ⟨nLimit, some [[105, 110, 102]]⟩, by decide⟩

/-- F03e: `banana` is bound to `false` by a `boolean` parameter instead of being rejected. -/
theorem F03e_real :
    ∃ d r, d.wf = true ∧ known d r = some "F03e" ∧ specOk d r (bind d r) = false :=
  ⟨exDecl nLimit .query "boolean" "", ⟨nLimit, some [[98, 97, 110, 97, 110, 97]]⟩, by decide⟩

/-- **TF1 (the value, last occurrence).** In a multipart request whose parts are `pre ++ p :: post`, `p` a
file part (a part with a file name) under the declared name and no later file part under that name: the
handler receives a `runtime.File` with exactly `p`'s content (every byte, whatever its length), size,
file name and field name — whatever precedes it (earlier file parts of the same name included), whether
the parameter is required or not. -/
theorem TF1_last_occurrence (name : Bytes) (required : Bool) (pre post : List Part) (p : Part)
    (hn : p.name = name) (hf : p.filename ≠ [])
    (hpost : ∀ q ∈ post, ¬ (q.name = name ∧ q.filename ≠ [])) :
    bindFile name required .multipart (pre ++ p :: post) =
      .file p.filename p.content.length p.content name := by
  have hx : (p.name == name && p.isFile) = true := by simp [Part.isFile, hn, hf]
  simp only [bindFile, formGate, pickFile_last, filesOf]
  rw [getLast?_filter_append _ pre post p hx fun q hq => not_filePart (hpost q hq)]
  simp [hn]

example : bindFile [117] true .multipart
    ([⟨[117], [97], [1, 2]⟩, ⟨[120], [], [9]⟩] ++ ⟨[117], [98], [0, 255, 13, 10]⟩ :: [⟨[117], [], [7]⟩]) =
    .file [98] 4 [0, 255, 13, 10] [117] := by decide

/-- **TF2 (missing).** No file part under the declared name in a multipart request (text fields of that
name do not count), or a urlencoded form (which cannot carry files): a required file parameter is
answered 422 (required) and the handler does not run; an optional one is bound to the zero
`runtime.File`. -/
theorem TF2_missing (name : Bytes) (required : Bool) (mode : FormMode) (parts : List Part)
    (h : mode = .urlencoded ∨ (mode = .multipart ∧ ∀ q ∈ parts, ¬ (q.name = name ∧ q.filename ≠ []))) :
    bindFile name required mode parts = if required then .out (.e422 602) else .nilFile := by
  rcases h with rfl | ⟨rfl, hno⟩
  · simp [bindFile, formGate, missingFile_eq]
  · have : filesOf name parts = [] :=
      List.filter_eq_nil_iff.2 fun q hq => by simp [not_filePart (hno q hq)]
    simp [bindFile, formGate, pickFile_last, this, missingFile_eq]

example : bindFile [117] true .multipart [⟨[117], [], [104, 105]⟩, ⟨[85], [97], [1]⟩] = .out (.e422 602) := by decide

/-- **TF3 (Spec).** For every name, every request mode and every list of parts the model of the
`type: file` branch yields what the Spec — written from the property text — expects: the last file part
of that name with its content and header, the zero file / 422 when there is none, and for a request that
is not a parseable form an error answer without the handler; it never panics. -/
theorem TF3_file_spec (name : Bytes) (required : Bool) (mode : FormMode) (parts : List Part) :
    fileOk (specFile name required mode parts) (bindFile name required mode parts) = true := by
  cases mode with
  | multipart =>
    simp only [specFile, bindFile, formGate, pickFile_last, filesOf_eq]
    cases hl : (parts.filter (fun p => p.name == name && !p.filename.isEmpty)).getLast? with
    | none => cases required <;> simp [fileOk, missingFile_eq, isE422]
    | some p => simp [fileOk]
  | _ => cases required <;> simp [specFile, bindFile, formGate, fileOk, missingFile_eq, isE422]

theorem TF3_file_no_panic (name : Bytes) (required : Bool) (mode : FormMode) (parts : List Part) (why : String) :
    bindFile name required mode parts ≠ .out (.panic why) := by
  intro h
  have := TF3_file_spec name required mode parts
  rw [h] at this
  cases specFile name required mode parts <;> simp [fileOk] at this

/-- **TF4 (file parts are not texts).** For a text parameter of a multipart request the file parts do
not count: the outcome is that of the request without them. -/
theorem TF4_text_ignores_file_parts (d : Decl) (parts : List Part) :
    bindFormText d .multipart parts = bindFormText d .multipart (parts.filter (fun p => !p.isFile)) := by
  have : valuesOf .multipart d.name (parts.filter (fun p => !p.isFile)) = valuesOf .multipart d.name parts := by
    simp only [valuesOf, List.filter_filter]
    congr 1
    apply List.filter_congr
    intro p _
    cases p.isFile <;> simp
  simp only [bindFormText, formGate, formReq, this]

/-- **TF5 (text parameters of a form).** For a well-formed text declaration `in: formData` and a
multipart or urlencoded request given part by part (outside the recorded classes F03d, F03e): the model
yields what the Spec expects for the texts of the TEXT parts of the declared name — the file parts of
that name are not among them. -/
theorem TF5_form_text_spec (d : Decl) (mode : FormMode) (parts : List Part)
    (hm : mode = .multipart ∨ mode = .urlencoded) (hd : d.wf = true)
    (hl : d.loc = .form ∨ d.loc = .mform) (hk : known d (formReq d mode parts) = none) :
    fileOk (specFormText d mode parts) (bindFormText d mode parts) = true := by
  have hr : Req.wf d (formReq d mode parts) = true := by
    simp only [Req.wf, formReq]
    rcases hl with h | h <;> rw [h] <;>
      by_cases he : (valuesOf mode d.name parts).isEmpty = true <;> simp_all
  have hmain := C03_holds_outside_known d (formReq d mode parts) hd hr hk
  have hto : ∀ e o, fileOk (.text e) (.out o) = okFor e o := by
    intro e o
    cases o <;> cases e <;> rfl
  rcases hm with rfl | rfl <;> simp only [specFormText, bindFormText, formGate, ← formReq_spec, hto] <;> exact hmain

example : (fileTextDecl nLimit "integer" true).wf = true ∧
    known (fileTextDecl nLimit "integer" true) (formReq (fileTextDecl nLimit "integer" true) .multipart
      [⟨nLimit, [97], [55]⟩, ⟨nLimit, [], [52, 49]⟩]) = none ∧
    bindFormText (fileTextDecl nLimit "integer" true) .multipart [⟨nLimit, [97], [55]⟩, ⟨nLimit, [], [52, 49]⟩] =
      .out (.value (.scalar (.int 32 41))) := by decide

/-- **TS1 (width of a signed field).** Whatever the declared integer format: a non-empty text bound into
an `int8 … int64` / `int` field yields `v` iff the text is a literal `[+-]?[0-9]+` denoting `v` within the
FIELD's width; every other text is answered 422 — nothing is truncated or wrapped. -/
theorem TS1_signed_field (ext : Option Ext) (w' : Nat) (p : Bool) (t : Bytes)
    (hw' : w' = 8 ∨ w' = 16 ∨ w' = 32 ∨ w' = 64) :
    (∀ v, convertTextT ext (.s (.int w') p) t = .ok (.int w' v) ↔ Num.IntLit t v ∧ Num.fitsInt w' v) ∧
    ((¬ ∃ v, Num.IntLit t v ∧ Num.fitsInt w' v) → convertTextT ext (.s (.int w') p) t = .err 601) :=
  convertInt_iff w' (widths_le hw') t

/-- **TS1 (width of an unsigned field).** A text bound into a `uint8 … uint64` / `uint` field yields `n`
iff it is a string of decimal digits denoting `n < 2^bits`; every other text (a sign included) is
answered 422. -/
theorem TS1_unsigned_field (ext : Option Ext) (b : Nat) (p : Bool) (t : Bytes)
    (hb : b = 8 ∨ b = 16 ∨ b = 32 ∨ b = 64) :
    (∀ n : Nat, convertTextT ext (.uint b p) t = .ok (.int b n) ↔
        t ≠ [] ∧ (∀ c ∈ t, Num.isDigit c = true) ∧ n = Num.natOfDigits t ∧ n < 2 ^ b) ∧
    ((¬ (t ≠ [] ∧ (∀ c ∈ t, Num.isDigit c = true) ∧ Num.natOfDigits t < 2 ^ b)) →
        convertTextT ext (.uint b p) t = .err 601) := by
  simp only [convertTextT, convertUint_eq b (widths_le hb).2 t]
  by_cases hdig : t ≠ [] ∧ ∀ c ∈ t, Num.isDigit c = true
  · rw [(digits?_some t _).2 ⟨hdig, rfl⟩]
    obtain ⟨h1, h2⟩ := hdig
    refine ⟨fun n => ?_, fun hno => if_neg fun h => hno ⟨h1, h2, h⟩⟩
    show (if _ then _ else _) = _ ↔ _
    split
    · rename_i hlt
      simp only [ItemOut.ok.injEq, Scalar.int.injEq, Int.natCast_inj, true_and]
      exact ⟨fun h => ⟨h1, h2, h.symm, h ▸ hlt⟩, fun h => h.2.2.1.symm⟩
    · rename_i hlt
      simp only [reduceCtorEq, false_iff]
      rintro ⟨_, _, rfl, h⟩
      exact hlt h
  · have hd : digits? t = none := by
      cases hd : digits? t with
      | none => rfl
      | some n => exact (hdig ((digits?_some t n).1 hd).1).elim
    simp only [hd, reduceCtorEq, false_iff, implies_true, and_true]
    exact fun n h => hdig ⟨h.1, h.2.1⟩

/-- **TS1, boundaries.** For every width of a signed field the greatest and least literals are bound,
their neighbours outside are answered 422; for every width of an unsigned field `2^b - 1` is bound,
`2^b` and `-1` are answered 422. -/
theorem TS1_boundaries (w : Nat) (hw : w = 8 ∨ w = 16 ∨ w = 32 ∨ w = 64) :
    convertTextT none (.s (.int w) false) (Num.formatInt (2 ^ (w - 1) - 1)) = .ok (.int w (2 ^ (w - 1) - 1)) ∧
    convertTextT none (.s (.int w) false) (Num.formatInt (2 ^ (w - 1))) = .err 601 ∧
    convertTextT none (.s (.int w) false) (Num.formatInt (-(2 ^ (w - 1)))) = .ok (.int w (-(2 ^ (w - 1)))) ∧
    convertTextT none (.s (.int w) false) (Num.formatInt (-(2 ^ (w - 1)) - 1)) = .err 601 ∧
    convertTextT none (.uint w false) (Num.formatInt (2 ^ w - 1)) = .ok (.int w (2 ^ w - 1)) ∧
    convertTextT none (.uint w false) (Num.formatInt (2 ^ w)) = .err 601 ∧
    convertTextT none (.uint w false) (Num.formatInt (-1)) = .err 601 := by
  obtain ⟨h1, h2, h3, h4⟩ := T1_boundaries w hw
  refine ⟨h1, h2, h3, h4, ?_⟩
  rcases hw with rfl | rfl | rfl | rfl <;> decide

/-- **TS2 (the declared `int32` range).** A field wider than a declared `format: int32` does not widen
the parameter: the validator's range check answers 422 for a value outside the int32 range. (No such
check exists for `int8` / `int16`: finding F03h.) -/
theorem TS2_int32_range (d : Decl) (x : Nat) (v : Int) (hty : d.ty = "integer") (hfmt : d.format = "int32")
    (hv : ¬ Num.fitsInt 32 v) :
    validatedT d (.value (.plain (.scalar (.int x v)))) = .e422 422 ∧
    validatedT d (.value (.ptr (some (.int x v)))) = .e422 422 := by
  have hr : rangeFails d.ty d.format (.int x v) = true := by simp [rangeFails, hty, hfmt, hv]
  simp [validatedT, validateT, hr, fact_deref]

/-- `3000000000` for a parameter declared `format: int32`, in an `int64` field and behind a `*int64` -/
example : (exDecl nLimit .query "integer" "int32").ty = "integer" ∧ ¬ Num.fitsInt 32 3000000000 ∧
    validatedT (exDecl nLimit .query "integer" "int32")
      (bindRawT ⟨.s (.int 64) false, false⟩ (exDecl nLimit .query "integer" "int32")
        ⟨nLimit, some [[51, 48, 48, 48, 48, 48, 48, 48, 48, 48]]⟩) = .e422 422 := by decide

/-- **TS3 (pointer fields).** `*T`: a missing required parameter is answered 422; without text and
without default the field is the nil pointer — which the validator is not run on; otherwise the field
points to exactly what a plain field of type `T` would hold, and that value is validated. -/
theorem TS3_pointer_table (d : Decl) (k : TKind) (dflt : Option DefScalar) (text : Bytes) (hasKey : Bool) :
    (requiredFails d hasKey text = true → setPtrT d k dflt text hasKey = .e422 602) ∧
    (requiredFails d hasKey text = false → text = [] → dflt = none →
      setPtrT d k dflt text hasKey = .value (.ptr none)) ∧
    (requiredFails d hasKey text = false → (text ≠ [] ∨ dflt.isSome = true) →
      setPtrT d k dflt text hasKey = ptrOut (setFieldValueT d k dflt text hasKey)) ∧
    validatedT d (.value (.ptr none)) = .value (.ptr none) ∧
    (∀ io, validatedT d (ptrOut io) = toPtrO (validatedT d (.ofBind (itemOut io)))) := by
  simp only [setPtrT_eq]
  refine ⟨fun h => by simp [h], ?_, fun h hc => ?_, by simp [validatedT, fact_deref], fun io => validatedT_toPtr d io⟩
  · rintro h rfl rfl
    simp [h]
  · have hn : (text.isEmpty && dflt.isNone) = false := by
      rcases hc with hc | hc
      · cases text <;> simp_all
      · cases dflt <;> simp_all
    simp [h, hn]

example : validatedT (exDecl nLimit .query "integer" "int32")
    (bindRawT ⟨.s (.int 64) false, true⟩ (exDecl nLimit .query "integer" "int32") ⟨nLimit, none⟩) = .value (.ptr none) ∧
  validatedT (exDecl nLimit .query "integer" "int32")
    (bindRawT ⟨.s (.int 64) false, true⟩ (exDecl nLimit .query "integer" "int32") ⟨nLimit, some [[52, 50]]⟩) =
      .value (.ptr (some (.int 64 42))) := by decide

/-- **TS4 (field lookup).** The struct field is looked up under the key the parameter is registered
with, exactly (no case folding; the declared name plays no part): when that key names no exported field
of the struct, the answer is an error (500), nothing is bound and nothing panics. -/
theorem TS4_field_lookup (fields : List (String × Bool)) (key : String) (t : Target) (d : Decl) (r : Req)
    (h : fields.contains (key, true) = false) :
    bindInto fields key t d r = .e4xx 500 := by
  unfold bindInto
  cases hf : lookupField fields key with
  | none => rfl
  | some e =>
    cases e with
    | false => simp [fact_unexported]
    | true =>
      rw [contains_of_lookupField hf] at h
      cases h

example : bindInto [("F", true)] "f" ⟨.s (.int 64) false, false⟩ (exDecl nLimit .query "integer" "") ⟨nLimit, some [[53]]⟩ = .e4xx 500 := by
  decide

/-- **TS5 (no panic).** Binding into a struct never panics — for any fields, key, field kind (the kinds
outside the `switch` included), pointer or not, any declaration and any request. -/
theorem TS5_no_panic (fields : List (String × Bool)) (key : String) (t : Target) (d : Decl) (r : Req) (why : String) :
    bindInto fields key t d r ≠ .panic why := by
  unfold bindInto
  split
  · simp
  · simp [fact_unexported]
  · unfold bindRawT
    split
    · exact validatedT_ofBind_ne_panic d _ why (bindSliceT_shape d r t.kind).clean
    split
    · exact validatedT_setPtrT_ne_panic d _ _ _ _ why
    · exact validatedT_ofBind_ne_panic d _ why (itemOut_clean _)

/-- **TS6 (one binder).** The map-target model of `Model/C03.lean` is the struct-target model at the
kind `typeForSchema` picks for the declaration: the same conversions, the same decision table. -/
theorem TS6_map_target (d : Decl) (r : Req) :
    (∀ k, typeForSchema d = some (.scalar k) → bindRawT ⟨.s k false, false⟩ d r = .ofBind (bindRaw d r)) ∧
    (∀ k, typeForSchema d = some (.slice k) → bindRawT ⟨.s k false, false⟩ d r = .ofBind (bindRaw d r)) := by
  constructor <;> intro k hk
  · simp only [bindRawT, typeForSchema_array hk, Bool.false_eq_true, if_false, setFieldValueT_s, bindRaw, hk, bindScalar]
  · simp only [bindRawT, typeForSchema_array hk, if_true, bindRaw, hk, bindSliceT_s]

/-- **C03 for struct targets.** For every struct whose field named by the key is exported, every field
type that can hold the declared type (`Target.wf`: integer fields of any width and sign for an integer
parameter, `float32`/`float64` for a number — `float64` only for `double` —, `bool`, `string`, the
registered strfmt type, a pointer to one of those, a slice of one of those for an array; a declared
default the field can hold), every well-formed declaration and request, outside the recorded finding
classes (F03d, F03e texts; F03h `int8`/`int16` formats narrower than the field; F03i signed literals for an
unsigned field): the model's `bindInto` yields exactly what the Spec — written from the property text —
expects: the value the declared type denotes for the last text / the items / the default, as the field
holds it; nil for a pointer field without text and default; 422 when the declared type or the field
cannot hold the text's value or a declared validation fails; and never a panic. -/
theorem C03S_holds_outside_known (fields : List (String × Bool)) (key : String) (t : Target) (d : Decl) (r : Req)
    (hf : lookupField fields key = some true) (hd : d.wf = true) (hr : Req.wf d r = true)
    (ht : t.wf d = true) (hk : knownT t d r = none) :
    specOkT fields key t d r (bindInto fields key t d r) = true := by
  simp only [specOkT, contains_of_lookupField hf, if_true, bindInto, hf]
  cases hsk : specKind d with
  | none => simp [Target.wf, hsk] at ht
  | some K =>
    cases K with
    | scalar k =>
      obtain ⟨g1, g2, _⟩ := getOK_spec d r hd hr
      obtain ⟨harr, hspec⟩ := specKind_inv hsk
      obtain ⟨hext, hdef, hfit⟩ := wf_scalar hd hsk
      simp only [Target.wf, hsk, Bool.and_eq_true, bne_iff_ne, ne_eq] at ht
      obtain ⟨⟨hf32, _⟩, hcompat, hdflt⟩ := ht
      have ok := fieldOk d d.ty d.format (declaredWidth d) k t.kind hspec hext (by simpa using hf32) hcompat
        (declaredWidth_of (by simp [declaredSKind, hsk]))
      have hlast : textKnownAll (declaredWidth d) t.kind (lastOr ((specTexts d r).getD [])) = none := by
        simpa [knownT, convertedTexts, harr, g1] using hk
      have hplain := plain_field d (specTexts d r) _ k t.kind ok hdef
        (fun dv hdv => ⟨hfit dv hdv, by simpa [hdv] using hdflt⟩) hlast
      obtain ⟨tk, ptr⟩ := t
      simp only [specExpectT, hsk, hcompat, if_true, bindRawT, harr, Bool.false_eq_true, if_false, g1, g2]
      cases ptr
      · exact hplain
      · exact ptr_of_plain d _ k tk hdef (.inr trivial) hplain
    | slice k =>
      obtain ⟨harr, hspec⟩ := specKind_inv hsk
      obtain ⟨hext, hmulti, hdef, hfit⟩ := wf_slice hd hsk
      simp only [Target.wf, hsk, Bool.and_eq_true, bne_iff_ne, ne_eq, Bool.not_eq_eq_eq_not, Bool.not_true] at ht
      obtain ⟨⟨_, hf32⟩, ⟨hcompat, hptr⟩, hdflt⟩ := ht
      obtain ⟨tk, ptr⟩ := t
      simp only at hcompat hptr hdflt
      subst hptr
      have ok := fieldOk d d.itemsTy d.itemsFormat (declaredWidth d) k tk hspec hext (by simpa using hf32) hcompat
        (declaredWidth_of (by simp [declaredSKind, hsk]))
      obtain ⟨hb, hdata, hhas⟩ := slice_source d r tk hd hr harr hmulti
      simp only [specExpectT, hsk, hmulti, hcompat, Bool.false_eq_true, if_false, Bool.not_false, Bool.and_self, if_true,
        bindRawT, harr, hb]
      refine slice_T d k tk _ _ hdef hdata hhas
        ⟨fun t ht => item_T ok.toUsable t _ fun hne => ok.text t hne (List.findSome?_eq_none_iff.1 hk t ht),
          fun ds hds dv hdv => ?_⟩
      rw [dflt_item_T ok.toUsable ds dv hds]
      rw [hds] at hdflt
      exact ok.dflt dv (hfit ds hds dv hdv) (List.all_eq_true.1 hdflt dv hdv)

/-- non-vacuity: a declared `int64` parameter bound into an `int8` field, `?limit=1&limit=-128` -/
example :
    lookupField [("F", true)] "F" = some true ∧
    (exDecl nLimit .query "integer" "int64").wf = true ∧
    Req.wf (exDecl nLimit .query "integer" "int64") ⟨nLimit, some [[49], [45, 49, 50, 56]]⟩ = true ∧
    Target.wf ⟨.s (.int 8) false, false⟩ (exDecl nLimit .query "integer" "int64") = true ∧
    knownT ⟨.s (.int 8) false, false⟩ (exDecl nLimit .query "integer" "int64") ⟨nLimit, some [[49], [45, 49, 50, 56]]⟩ = none ∧
    bindInto [("F", true)] "F" ⟨.s (.int 8) false, false⟩ (exDecl nLimit .query "integer" "int64")
      ⟨nLimit, some [[49], [45, 49, 50, 56]]⟩ = .value (.plain (.scalar (.int 8 (-128)))) ∧
    bindInto [("F", true)] "F" ⟨.s (.int 8) false, false⟩ (exDecl nLimit .query "integer" "int64")
      ⟨nLimit, some [[49, 50, 56]]⟩ = .e422 601 := by
  decide

/-- F03h: `300` for a parameter declared `format: int8`, bound into an `int64` field, is bound. -/
theorem F03h_real :
    ∃ t d r, d.wf = true ∧ Target.wf t d = true ∧ knownT t d r = some "F03h" ∧
      specOkT [("F", true)] "F" t d r (bindInto [("F", true)] "F" t d r) = false :=
  ⟨⟨.s (.int 64) false, false⟩, exDecl nLimit .query "integer" "int8", ⟨nLimit, some [[51, 48, 48]]⟩, by decide⟩

/-- F03i: `+5` for an integer parameter bound into a `uint8` field is answered 422. -/
theorem F03i_real :
    ∃ t d r, d.wf = true ∧ Target.wf t d = true ∧ knownT t d r = some "F03i" ∧
      specOkT [("F", true)] "F" t d r (bindInto [("F", true)] "F" t d r) = false :=
  ⟨⟨.uint 8 false, false⟩, exDecl nLimit .query "integer" "int32", ⟨nLimit, some [[43, 53]]⟩, by decide⟩

/-- **TM1 (independence).** The parameters of an operation are bound independently: the outcome for the
`i`-th parameter is `bind` of that declaration alone, whatever the other declarations are and whatever
was sent for them; binding a longer parameter list extends the outcomes. -/
theorem TM1_independent (ps qs : List (Decl × Req)) :
    bindAll (ps ++ qs) = bindAll ps ++ bindAll qs ∧
    (bindAll ps).length = ps.length ∧
    ∀ i (h : i < ps.length), (bindAll ps)[i]? = some (bind ps[i].1 ps[i].2) := by
  refine ⟨by simp [bindAll], by simp [bindAll], ?_⟩
  intro i h
  simp [bindAll, h]

/-- **TM2 (the Spec lifts, per parameter).** For well-formed declarations and requests outside the
recorded classes, every parameter of the operation gets what its own Spec expects. -/
theorem TM2_product (ps : List (Decl × Req))
    (h : ∀ p ∈ ps, p.1.wf = true ∧ Req.wf p.1 p.2 = true ∧ known p.1 p.2 = none) :
    specAll ps (bindAll ps) = true := by
  simp only [specAll, bindAll, List.length_map, beq_self_eq_true, Bool.true_and]
  induction ps with
  | nil => rfl
  | cons p ps ih =>
    obtain ⟨h1, h2, h3⟩ := h p (List.mem_cons_self ..)
    simp only [List.map_cons, List.zip_cons_cons, List.all_cons, C03_holds_outside_known p.1 p.2 h1 h2 h3,
      Bool.true_and]
    exact ih fun q hq => h q (List.mem_cons_of_mem _ hq)

/-- **TM3 (the Spec lifts, for the operation).** Under the same hypotheses the handler runs exactly when
every parameter is bound, with the values the Specs expect; otherwise the request is answered 422, and at
least one parameter's Spec admits the rejection. It never panics. -/
theorem TM3_api (ps : List (Decl × Req))
    (h : ∀ p ∈ ps, p.1.wf = true ∧ Req.wf p.1 p.2 = true ∧ known p.1 p.2 = none) :
    specApi ps (apiOut (bindAll ps)) = true := by
  have hok : ∀ p ∈ ps, specOk p.1 p.2 (bind p.1 p.2) = true := fun p hp =>
    C03_holds_outside_known _ _ (h p hp).1 (h p hp).2.1 (h p hp).2.2
  have hnopanic : ∀ p ∈ ps, ∀ w, bind p.1 p.2 ≠ .panic w := by
    intro p hp w hc
    have := hok p hp
    rw [hc, specOk] at this
    cases specExpect p.1 p.2 <;> cases this
  unfold apiOut
  cases hv : valuesOf? (bindAll ps) with
  | some vs =>
    show specAll ps (vs.map .value) = true
    rw [← valuesOf?_some _ _ hv]
    exact TM2_product ps h
  | none =>
    obtain ⟨o, hf, hmem, hnv⟩ := firstFailure_of_none _ hv
    obtain ⟨p, hp, rfl⟩ := List.mem_map.1 hmem
    simp only
    split
    · rename_i w hfp
      obtain ⟨q, hq, he⟩ := List.mem_map.1 (List.mem_of_find?_eq_some hfp)
      exact (hnopanic q hq w he).elim
    · -- the first failure is a 422, and the Spec of its parameter admits it
      cases hb : bind p.1 p.2 with
      | value v => exact (hnv v hb).elim
      | panic w => exact (hnopanic p hp w hb).elim
      | e4xx st => exact (bind_not_e4xx p.1 p.2 st hb).elim
      | e422 c =>
        have hadm : admitsReject p = true := by
          have := hok p hp
          rw [hb, specOk] at this
          unfold admitsReject
          cases hse : specExpect p.1 p.2 <;> simp [hse, okFor] at this ⊢
        simp [hf, hb, specApi, List.any_eq_true.2 ⟨p, hp, hadm⟩]

/-- non-vacuity: `DELETE /op` with two formData parameters of one urlencoded body, `alpha=1&beta=two` -/
example :
    (∀ p ∈ [((exDecl nLimit .form "integer" "int32"), (⟨nLimit, some [[49]]⟩ : Req)),
            ((exDecl nXRateLower .form "string" ""), ⟨nXRateLower, some [[116, 119, 111]]⟩)],
        p.1.wf = true ∧ Req.wf p.1 p.2 = true ∧ known p.1 p.2 = none) ∧
    apiOut (bindAll [((exDecl nLimit .form "integer" "int32"), (⟨nLimit, some [[49]]⟩ : Req)),
            ((exDecl nXRateLower .form "string" ""), ⟨nXRateLower, some [[116, 119, 111]]⟩)]) =
      .ran [.scalar (.int 32 1), .scalar (.str [116, 119, 111])] := by
  decide

/-- The exported reader `runtime.ReadSingleValue` over `runtime.Values` yields the LAST value sent under the
name (and the empty text when there is none); `ReadCollectionValue` splits exactly that text. -/
theorem readSingle_is_last_occurrence (pairs : List (Bytes × Bytes)) (name : Bytes) :
    (∀ v, ((pairs.filter (·.1 == name)).map (·.2)).getLast? = some v → readSingle false pairs name = v) ∧
    ((pairs.filter (·.1 == name)) = [] → readSingle false pairs name = []) ∧
    (∀ cf, readCollection false pairs name cf = splitByFormat (readSingle false pairs name) cf) := by
  refine ⟨?_, ?_, fun _ => rfl⟩
  · intro v h; simp [readSingle, readSingleValues, h]
  · intro h; simp [readSingle, readSingleValues, h]

example : readSingle false [([97], [49]), ([98], [50]), ([97], [51])] [97] = [51] ∧
    readCollection false [([97], [49, 44, 50])] [97] "csv" = [[49], [50]] := by decide

end RtVerif.C03
