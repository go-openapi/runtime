import RtVerif.Model.C13
import RtVerif.Lemmas.C13
/-
  Proved, for ALL registries, header sets, defaults, status codes, bodies and per-call options:
  * the hand-transcribed Go parser recognises exactly the declarative media types (`parse_eq_mediaTypeOf`);
  * the consumer handed to the reader is the one registered for the media type, else the catch-all,
    else the call fails with a message quoting the content type — never another consumer;
    parameters and letter case play no part; an absent/empty header means the default media type;
  * the reader's view of the response is the response (adapter = identity);
  * per-operation client and context win over the transport's;
  * `submit_meets_spec`: the whole Submit model satisfies `specOk`;
  * concurrency, on the model: for every schedule of any number of calls each call's local state is
    what it would be alone (`noninterference`), the shared client is created once and never changes
    afterwards (`client_memoised`), and a completed call holds the result of the sequential
    `submit` on the response to ITS OWN request (`completed_call_result`).

  NOT proved (runtime facts no Lean model exhibits): absence of data races in the Go memory model
  and the atomicity of `sync.Once` — see `FullStatement` / `full_statement_partial` at the end; the
  harness supports them with a `-race` build running concurrent first calls.
-/
namespace RtVerif.C13
open RtVerif Bytes

/-- `token`, or `token "/" token` -/
def TypeGrammar (m : Bytes) : Prop :=
  isToken m = true ∨ ∃ a r, m = a ++ 47 :: r ∧ isToken a = true ∧ isToken r = true

/-- `mime.checkMediaTypeDisposition` accepts exactly `token` and `token "/" token`. -/
theorem checkMediaType_none_iff (m : Bytes) : checkMediaType m = none ↔ TypeGrammar m := by
  constructor
  · intro h
    have hm := List.takeWhile_append_dropWhile (p := isTokenChar) (l := m)
    have hall := List.all_takeWhile (p := isTokenChar) (l := m)
    unfold checkMediaType consumeToken at h
    dsimp only at h
    generalize m.takeWhile isTokenChar = t at h hm hall
    generalize m.dropWhile isTokenChar = d at h hm
    cases t with
    | nil => simp at h
    | cons x t =>
      have htok : isToken (x :: t) = true := by simp [isToken, hall]
      cases d with
      | nil => exact .inl (by simpa [← hm] using htok)
      | cons c rest =>
        by_cases hc : c = 47
        · rw [hc] at h hm
          exact .inr ⟨_, rest, hm.symm, htok, (checkSubtype_none_iff rest).1 (by simpa using h)⟩
        · simp [hc] at h
  · rintro (h | ⟨a, r, rfl, ha, hr⟩)
    · have hall := List.all_eq_true.1 (isToken_all h)
      simp [checkMediaType, consumeToken, takeWhile_eq_self hall, dropWhile_eq_nil hall, isToken_ne_nil h]
    · obtain ⟨h1, h2, -, -⟩ := slash_spans r ha
      simp [checkMediaType, consumeToken, h1, h2, isToken_ne_nil ha, (checkSubtype_none_iff r).2 hr]

theorem wellFormedType_iff (m : Bytes) : wellFormedType m = true ↔ TypeGrammar m := by
  unfold wellFormedType TypeGrammar
  rw [Bool.or_eq_true, Bool.and_eq_true]
  refine or_congr Iff.rfl ⟨?_, ?_⟩
  · rintro ⟨ha, hr⟩
    refine ⟨_, _, ?_, ha, hr⟩
    -- what follows the first part is not empty (it holds a token), so it begins with the slash
    have hm : beforeByte m 47 ++ m.dropWhile (· != 47) = m := List.takeWhile_append_dropWhile
    have hne := isToken_ne_nil hr
    unfold afterByte at hne ⊢
    cases hd : m.dropWhile (· != 47) with
    | nil =>
      rw [hd] at hne
      exact absurd rfl hne
    | cons c w =>
      have hc : c = 47 := by simpa [hd] using List.head?_dropWhile_not (· != 47) m
      rw [hd, hc] at hm
      exact hm.symm
  · rintro ⟨a, r, rfl, ha, hr⟩
    obtain ⟨-, -, h3, h4⟩ := slash_spans r ha
    rw [h3, h4]
    exact ⟨ha, hr⟩

/-- The transcription of Go's `mime.ParseMediaType` (on the part before `;`) yields exactly the
declarative media type of the Spec, and fails exactly when there is none. -/
theorem parse_eq_mediaTypeOf (ct : Bytes) :
    (match parseMediaType (beforeByte ct 59) with | .ok mt => some mt | .error _ => none) = mediaTypeOf ct := by
  unfold parseMediaType mediaTypeOf
  have hiff := (checkMediaType_none_iff (trimSpace (toLower (beforeByte ct 59)))).trans
    (wellFormedType_iff _).symm
  cases h : checkMediaType (trimSpace (toLower (beforeByte ct 59))) with
  | none => simp [hiff.1 h]
  | some e =>
    have : wellFormedType (trimSpace (toLower (beforeByte ct 59))) = false := by
      rw [Bool.eq_false_iff, Ne, ← hiff, h]
      simp
    simp [this]

/-- the message of a failed selection -/
def errMsg (ct : Bytes) : Bytes :=
  match parseMediaType (beforeByte ct 59) with
  | .ok _ => noConsumerMsg ct
  | .error e => parseErrMsg ct e

theorem names_errMsg (ct : Bytes) : names ct (errMsg ct) = true := by
  unfold errMsg
  split
  · exact names_noConsumer ct
  · exact names_parseErr ct _

/-- The model's selection in the Spec's terms: the consumer registered for the media type, else the
catch-all, else a failure (whose message names the content type: `names_errMsg`). All registries
(any consumer type), all values. -/
theorem selectConsumer_eq {κ : Type} (reg : Bytes → Option κ) (ct : Bytes) :
    selectConsumer reg ct =
      match (mediaTypeOf ct).bind reg, reg catchAll with
      | some c, _ => .ok c
      | none, some c => .ok c
      | none, none => .error (errMsg ct) := by
  unfold selectConsumer fallback errMsg
  rw [← parse_eq_mediaTypeOf, fallbackKey_eq]
  cases parseMediaType (beforeByte ct 59) with
  | ok mt =>
    simp only [Option.bind_some]
    cases reg mt <;> cases reg catchAll <;> rfl
  | error e =>
    simp only [Option.bind_none]
    cases reg catchAll <;> rfl

/-- a consumer registered for the media type is the one handed over -/
theorem registered_consumer_wins {κ : Type} (reg : Bytes → Option κ) (ct mt : Bytes) (c : κ)
    (hmt : mediaTypeOf ct = some mt) (hreg : reg mt = some c) : selectConsumer reg ct = .ok c := by
  rw [selectConsumer_eq, hmt, Option.bind_some, hreg]

example : selectConsumer (regOfKeys [[97, 47, 98], catchAll]) [65, 47, 66, 59, 32, 120] = .ok [97, 47, 98] := by
  rfl  -- `A/B; x` with consumers for `a/b` and `*/*`

/-- no consumer for the media type (or no media type at all): the catch-all, if registered -/
theorem catch_all_otherwise {κ : Type} (reg : Bytes → Option κ) (ct : Bytes) (c : κ)
    (hnone : (mediaTypeOf ct).bind reg = none) (hall : reg catchAll = some c) :
    selectConsumer reg ct = .ok c := by
  rw [selectConsumer_eq, hnone, hall]

example : selectConsumer (regOfKeys [[97, 47, 98], catchAll]) [59, 59] = .ok catchAll := by
  rfl  -- `;;` shows no media type

/-- neither: the call fails and the message names the content type -/
theorem fails_naming_content_type {κ : Type} (reg : Bytes → Option κ) (ct : Bytes)
    (hnone : (mediaTypeOf ct).bind reg = none) (hall : reg catchAll = none) :
    ∃ msg, selectConsumer reg ct = .error msg ∧ names ct msg = true :=
  ⟨errMsg ct, by rw [selectConsumer_eq, hnone, hall], names_errMsg ct⟩

example : (mediaTypeOf [120, 47, 121]).bind (regOfKeys [[97, 47, 98]]) = none ∧ regOfKeys [[97, 47, 98]] catchAll = none := by
  decide

/-- NEVER a different consumer: whatever consumer Submit hands to the reader is the one registered
for the response's media type, or — only when none is — the catch-all. -/
theorem never_a_different_consumer {κ : Type} (reg : Bytes → Option κ) (ct : Bytes) (c : κ)
    (h : selectConsumer reg ct = .ok c) :
    (∃ mt, mediaTypeOf ct = some mt ∧ reg mt = some c) ∨
    ((mediaTypeOf ct).bind reg = none ∧ reg catchAll = some c) := by
  rw [selectConsumer_eq] at h
  cases hb : (mediaTypeOf ct).bind reg <;> cases ha : reg catchAll <;> simp_all [Option.bind_eq_some_iff]

/-- the call fails only when there is nothing to hand over, and then it names the content type -/
theorem error_only_without_consumer {κ : Type} (reg : Bytes → Option κ) (ct msg : Bytes)
    (h : selectConsumer reg ct = .error msg) :
    (mediaTypeOf ct).bind reg = none ∧ reg catchAll = none ∧ names ct msg = true := by
  rw [selectConsumer_eq] at h
  cases hb : (mediaTypeOf ct).bind reg <;> cases ha : reg catchAll <;> rw [hb, ha] at h <;> cases h
  exact ⟨rfl, rfl, names_errMsg ct⟩

/-- Parameters are ignored: values that agree in front of the first `;` select alike. -/
theorem parameters_ignored {κ : Type} (reg : Bytes → Option κ) (ct ct' : Bytes)
    (h : beforeByte ct 59 = beforeByte ct' 59) : expected reg ct = expected reg ct' := by
  unfold expected mediaTypeOf
  rw [h]

/-- in particular anything may follow the `;` — well-formed, malformed or duplicate parameters -/
theorem any_parameters {κ : Type} (reg : Bytes → Option κ) (m params : Bytes)
    (hm : m.all (· != 59) = true) : expected reg (m ++ 59 :: params) = expected reg m := by
  apply parameters_ignored
  have hm := List.all_eq_true.1 hm
  unfold beforeByte
  rw [takeWhile_append_cons params hm (by simp), takeWhile_eq_self hm]

example : ([116, 47, 112] : Bytes).all (· != 59) = true := by decide

/-- Letter case of the header value plays no part. -/
theorem case_insensitive_lower (ct : Bytes) : mediaTypeOf (toLower ct) = mediaTypeOf ct := by
  unfold mediaTypeOf
  rw [beforeByte_toLower (by decide), toLower_idem]

theorem case_insensitive_upper (ct : Bytes) : mediaTypeOf (toUpper ct) = mediaTypeOf ct := by
  unfold mediaTypeOf
  rw [beforeByte_toUpper (by decide), toLower_toUpper]

/-- Header absent (no line whose name is `Content-Type` in any letter case): the default media type. -/
theorem absent_header_uses_default (h : Headers) (dflt : Bytes)
    (habs : ∀ e ∈ h, equalFold e.1 contentTypeName = false) : contentTypeOf h dflt = dflt := by
  rw [contentType_eq_spec]
  unfold specContentType
  have : (h.filter fun e => equalFold e.1 contentTypeName) = [] := by
    rw [List.filter_eq_nil_iff]
    intro a ha
    simp [habs a ha]
  rw [this]
  rfl

example : ∀ e ∈ ([([88, 45, 65], [49])] : Headers), equalFold e.1 contentTypeName = false := by decide

/-- What the reader sees through `Code/Message/GetHeader/GetHeaders/Body` is the response: status
code, status text, for every name all the values sent under that name (letter case of the name
aside) in order, and the body bytes — whatever the configuration and the per-call options. -/
theorem adapter_is_identity (r : Resp) (qs : List Bytes) :
    adapterView r qs =
      ⟨r.code, r.status,
       qs.map (fun q => ((r.headers.filter fun e => equalFold e.1 q).map (·.2)).headD []),
       qs.map (fun q => (r.headers.filter fun e => equalFold e.1 q).map (·.2)), r.body⟩ := rfl

/-- and the reader is handed that view whenever it is called at all -/
theorem reader_sees_response {κ : Type} (cfg : Cfg κ) (op : Op) (resp : Resp) (c : κ) (v : View) (e : Bool)
    (h : (submit cfg op resp).out = .read c v e) : v = adapterView resp op.queries ∧ e = op.readerErr := by
  rw [submit_eq] at h
  split at h
  · cases h
  · split at h <;> cases h
    exact ⟨rfl, rfl⟩

theorem op_client_wins {κ : Type} (cfg : Cfg κ) (op : Op) (resp : Resp) (h : op.client = true) :
    (submit cfg op resp).client = .op := by
  rw [submit_eq]
  simp [specClient, h]

theorem transport_client_otherwise {κ : Type} (cfg : Cfg κ) (op : Op) (resp : Resp) (h : op.client = false) :
    (submit cfg op resp).client = (if cfg.preset then .preset else .rt) := by
  rw [submit_eq]
  simp [specClient, h]

theorem op_context_wins {κ : Type} (cfg : Cfg κ) (op : Op) (resp : Resp) (h : op.ctx ≠ .absent) :
    (submit cfg op resp).ctx = .op := by
  rw [submit_eq]
  simp [specCtx, h]

theorem transport_context_otherwise {κ : Type} (cfg : Cfg κ) (op : Op) (resp : Resp)
    (h : op.ctx = .absent) (h' : cfg.rtCtx ≠ .absent) : (submit cfg op resp).ctx = .rt := by
  rw [submit_eq]
  simp [specCtx, h, h']

/-- a cancelled per-operation context stops the call whatever the transport's context is … -/
theorem cancelled_op_context_governs {κ : Type} (cfg : Cfg κ) (op : Op) (resp : Resp)
    (h : op.ctx = .cancelled) : (submit cfg op resp).out = .transportError := by
  rw [submit_eq]
  simp [specCtx, h]

/-- … and a live one shields the call from a cancelled transport context -/
theorem live_op_context_governs {κ : Type} (cfg : Cfg κ) (op : Op) (resp : Resp)
    (h : op.ctx = .live) : (submit cfg op resp).out ≠ .transportError := by
  rw [submit_eq]
  simp only [specCtx, h]
  cases selectConsumer cfg.reg (specContentType resp.headers cfg.dflt) <;> simp

example : (submit (κ := Bytes) ⟨[], regOfKeys [catchAll], false, .cancelled, false⟩
    ⟨false, .live, 30, false, [], 0⟩ ⟨200, [], [], []⟩).out ≠ .transportError := by decide

/-- **Main theorem.** For every configuration (default media type, consumer registry of any kind,
preset or lazily created client, transport context), every per-call option set and every response
(status, header set, body), the outcome of the Submit model satisfies the property's Spec: right
client and context; and unless the governing context is already cancelled, the reader gets the
registered consumer, else the catch-all, with the response unchanged and its own result returned,
else the call fails naming the content type. -/
theorem submit_meets_spec {κ : Type} [DecidableEq κ] (cfg : Cfg κ) (op : Op) (resp : Resp) :
    specOk cfg op resp (submit cfg op resp) = true := by
  unfold specOk
  rw [submit_eq]
  simp only [beq_self_eq_true, Bool.true_and]
  split
  · simp
  · rw [selectConsumer_eq]
    unfold expected
    cases (mediaTypeOf (specContentType resp.headers cfg.dflt)).bind cfg.reg with
    | some c => simp [adapter_is_identity]
    | none => cases cfg.reg catchAll <;> simp [adapter_is_identity, names_errMsg]

/-- **Non-interference.** Take any family of fresh calls on one Runtime (any number, indexed by
ℕ) and ANY schedule of their steps. The local state of call `i` afterwards — chosen client,
chosen context, response received, result — is exactly what it is when call `i` runs alone for
the same number of its own steps. No other call's request, response or options enter into it. -/
theorem noninterference {κ : Type} (cfg : Cfg κ) (net : Op → Resp) (sh₀ : Shared)
    (cs : Nat → Call κ) (hfresh : ∀ j, (cs j).pc = 0) (sched : List Nat) (i : Nat) :
    (runSched cfg net sched (sh₀, cs)).2 i =
      (runSched cfg net (List.replicate (sched.count i) i) (sh₀, cs)).2 i := by
  rw [(runSched_proj cfg net sh₀ sched sh₀ cs (inv_init sh₀ cs hfresh)).2 i,
      (runSched_proj cfg net sh₀ _ sh₀ cs (inv_init sh₀ cs hfresh)).2 i, List.count_replicate_self]

example : ∀ j, ((fun n => Call.fresh (κ := Bytes) ⟨false, .absent, 30, false, [], n⟩) j).pc = 0 := fun _ => rfl

/-- **The shared client is memoised.** Whatever the schedule, `r.client` is either still what the
constructor left there or the one memoised value — the preset client, else the one built from
`r.Transport` — and it is that value from the moment any call is past its `clientOnce.Do`:
created at most once, never replaced, the same for every call. -/
theorem client_memoised {κ : Type} (cfg : Cfg κ) (net : Op → Resp) (sh₀ : Shared)
    (cs : Nat → Call κ) (hfresh : ∀ j, (cs j).pc = 0) (sched : List Nat) :
    ((runSched cfg net sched (sh₀, cs)).1.client = sh₀.client ∨
      (runSched cfg net sched (sh₀, cs)).1.client = some (sh₀.client.getD .rt)) ∧
    ∀ j, 2 ≤ ((runSched cfg net sched (sh₀, cs)).2 j).pc →
      (runSched cfg net sched (sh₀, cs)).1.client = some (sh₀.client.getD .rt) :=
  (runSched_proj cfg net sh₀ sched sh₀ cs (inv_init sh₀ cs hfresh)).1

/-- **Each caller receives the response to its own request.** Once call `i` has been scheduled
for all its six steps (in any interleaving with any other calls), its result is the sequential
`submit` applied to ITS operation and to the wire's response to ITS request, under the
configuration the Runtime was built with. -/
theorem completed_call_result {κ : Type} (cfg : Cfg κ) (net : Op → Resp)
    (ops : Nat → Op) (sched : List Nat) (i : Nat) (hdone : 6 ≤ sched.count i) :
    ((runSched cfg net sched (Shared.init cfg, fun j => Call.fresh (ops j))).2 i).result =
      some (submit cfg (ops i) (net (ops i))) := by
  rw [(runSched_proj cfg net (Shared.init cfg) sched _ _ (inv_init _ _ (fun _ => rfl))).2 i]
  obtain ⟨k, hk⟩ : ∃ k, sched.count i = k + 6 := ⟨sched.count i - 6, by omega⟩
  rw [hk]
  -- six steps bring the fresh call to its end, where it stays
  simp only [iter, lstep, step, Call.fresh]
  rw [iter_done]
  · simp only [Shared.init, submit, chooseClient, sharedClient]
    cases (ops i).client <;> cases cfg.preset <;> rfl
  · exact Nat.le_refl 6

example : 6 ≤ ([0, 1, 0, 1, 1, 0, 0, 1, 1, 0, 0, 1] : List Nat).count 1 := by decide

/-- …hence it satisfies the Spec of its own call, whatever the other calls did. -/
theorem concurrent_calls_meet_spec {κ : Type} [DecidableEq κ] (cfg : Cfg κ) (net : Op → Resp)
    (ops : Nat → Op) (sched : List Nat) (i : Nat) (hdone : 6 ≤ sched.count i) :
    ∃ r, ((runSched cfg net sched (Shared.init cfg, fun j => Call.fresh (ops j))).2 i).result = some r ∧
      specOk cfg (ops i) (net (ops i)) r = true :=
  ⟨_, completed_call_result cfg net ops sched i hdone, submit_meets_spec cfg (ops i) (net (ops i))⟩

/-- everything the property says about one call -/
def SequentialPart : Prop :=
  ∀ (κ : Type) [DecidableEq κ] (cfg : Cfg κ) (op : Op) (resp : Resp),
    specOk cfg op resp (submit cfg op resp) = true

/-- "each caller receiving the response to its own request", for all interleavings of any number
of calls, first (client-initialising) calls included — on the step model with `sync.Once` atomic -/
def InterleavingPart : Prop :=
  ∀ (κ : Type) [DecidableEq κ] (cfg : Cfg κ) (net : Op → Resp) (ops : Nat → Op) (sched : List Nat) (i : Nat),
    6 ≤ sched.count i →
    ((runSched cfg net sched (Shared.init cfg, fun j => Call.fresh (ops j))).2 i).result =
      some (submit cfg (ops i) (net (ops i)))

/-- The property in full. `DataRaceFree` stands for: "in every execution of N goroutines calling
Submit on one Runtime, at any GOMAXPROCS, no two conflicting memory accesses are unordered by the
Go memory model's happens-before" — a fact about the compiled program and the Go runtime
(`sync.Once`, `net/http`'s client and transport, map reads) that this model does not represent.
It is a parameter here precisely because nothing in Lean proves it. -/
def FullStatement (DataRaceFree : Prop) : Prop :=
  SequentialPart ∧ InterleavingPart ∧ DataRaceFree

/-- What is proved of `FullStatement`: everything except `DataRaceFree`. Missing: data-race
freedom itself (supported, not proved, by the `-race` build of the harness running concurrent
first calls with per-call tokens) and the atomicity of `sync.Once` (assumed by `step`). -/
theorem full_statement_partial : SequentialPart ∧ InterleavingPart :=
  ⟨fun _ _ cfg op resp => submit_meets_spec cfg op resp,
   fun _ _ cfg net ops sched i h => completed_call_result cfg net ops sched i h⟩

def unhex (c : UInt8) : UInt8 := if c < 58 then c - 48 else c - 87

/-- the byte an escape letter stands for: `\a` … `\v`; `\"` and `\\` stand for themselves -/
def unesc (e : UInt8) : UInt8 :=
  if e == 97 then 7 else if e == 98 then 8 else if e == 102 then 12 else if e == 110 then 10
  else if e == 114 then 13 else if e == 116 then 9 else if e == 118 then 11 else e

/-- reads one quoted byte off the front of a `%q` body -/
def unq1 : Bytes → Option (UInt8 × Bytes)
  | [] => none
  | c :: r =>
    if c != 92 then some (c, r)
    else match r with
      | [] => none
      | e :: r' =>
        if e == 120 then
          match r' with
          | h1 :: h2 :: r'' => some (unhex h1 * 16 + unhex h2, r'')
          | _ => none
        else some (unesc e, r')

theorem unq1_plain {c : UInt8} (r : Bytes) (h : c ≠ 92) : unq1 (c :: r) = some (c, r) := by
  simp [unq1, h]

theorem unq1_esc {e : UInt8} (r : Bytes) (h : e ≠ 120) : unq1 (92 :: e :: r) = some (unesc e, r) := by
  simp [unq1, h]

theorem unq1_hex (h1 h2 : UInt8) (r : Bytes) :
    unq1 (92 :: 120 :: h1 :: h2 :: r) = some (unhex h1 * 16 + unhex h2, r) := by
  simp [unq1]

theorem hex_round_nat : ∀ n, n < 256 →
    unhex (hexLow ((UInt8.ofNat n).toNat / 16)) * 16 + unhex (hexLow ((UInt8.ofNat n).toNat % 16)) = UInt8.ofNat n := by
  decide +kernel

theorem hex_round (b : UInt8) :
    unhex (hexLow (b.toNat / 16)) * 16 + unhex (hexLow (b.toNat % 16)) = b := by
  have h := hex_round_nat b.toNat b.toNat_lt
  simpa using h

/-- the three shapes of a quoted byte: itself, `\e`, `\xHH` -/
def QuoteShape (b : UInt8) (q : Bytes) : Prop :=
  (q = [b] ∧ b ≠ 92) ∨ (∃ e, q = [92, e] ∧ e ≠ 120 ∧ unesc e = b) ∨
    q = [92, 120, hexLow (b.toNat / 16), hexLow (b.toNat % 16)]

/-- one link of the `if` chain of `quoteByte`: the byte `c` is written `\e` -/
theorem quoteShape_link {b c e : UInt8} {rest : Bytes} (he : e ≠ 120) (hc : unesc e = c)
    (hrest : b ≠ c → QuoteShape b rest) : QuoteShape b (if b == c then [92, e] else rest) := by
  by_cases h : b = c
  · rw [if_pos (beq_iff_eq.2 h), h]
    exact .inr (.inl ⟨e, rfl, he, hc⟩)
  · rw [if_neg (by simpa using h)]
    exact hrest h

theorem quoteByte_shape (b : UInt8) : QuoteShape b (quoteByte b) := by
  unfold quoteByte
  refine quoteShape_link (by decide) rfl fun _ => quoteShape_link (by decide) rfl fun h92 => ?_
  by_cases hp : (0x20 ≤ b && b < 0x7f) = true
  · rw [if_pos hp]
    exact .inl ⟨rfl, h92⟩
  · rw [if_neg hp]
    exact quoteShape_link (by decide) rfl fun _ => quoteShape_link (by decide) rfl fun _ =>
      quoteShape_link (by decide) rfl fun _ => quoteShape_link (by decide) rfl fun _ =>
      quoteShape_link (by decide) rfl fun _ => quoteShape_link (by decide) rfl fun _ =>
      quoteShape_link (by decide) rfl fun _ => .inr (.inr rfl)

theorem unq1_quoteByte (b : UInt8) (rest : Bytes) : unq1 (quoteByte b ++ rest) = some (b, rest) := by
  obtain ⟨h, hb⟩ | ⟨e, h, he, hb⟩ | h := quoteByte_shape b
  · rw [h]
    exact unq1_plain rest hb
  · rw [h, ← hb]
    exact unq1_esc rest he
  · rw [h]
    exact (unq1_hex _ _ rest).trans (by rw [hex_round])

theorem quoteBody_injective (a b : Bytes) (h : a.flatMap quoteByte = b.flatMap quoteByte) : a = b := by
  induction a generalizing b with
  | nil =>
    cases b with
    | nil => rfl
    | cons y ys =>
      have := unq1_quoteByte y (ys.flatMap quoteByte)
      rw [← List.flatMap_cons, ← h] at this
      cases this
  | cons x xs ih =>
    have hx := unq1_quoteByte x (xs.flatMap quoteByte)
    rw [← List.flatMap_cons, h] at hx
    cases b with
    | nil => cases hx
    | cons y ys =>
      rw [List.flatMap_cons, unq1_quoteByte] at hx
      simp only [Option.some.injEq, Prod.mk.injEq] at hx
      rw [hx.1, ih ys hx.2.symm]

theorem goQuote_injective (a b : Bytes) (h : goQuote a = goQuote b) : a = b := by
  unfold goQuote at h
  exact quoteBody_injective a b (List.append_cancel_left (List.append_cancel_right h))

/-- Two "no consumer" messages are equal only for equal content types: the message names the very
content type of the response. -/
theorem noConsumerMsg_injective (a b : Bytes) (h : noConsumerMsg a = noConsumerMsg b) : a = b :=
  goQuote_injective a b (List.append_cancel_left h)


end RtVerif.C13
