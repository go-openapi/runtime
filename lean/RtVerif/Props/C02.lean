import RtVerif.Model.C02
import RtVerif.Lemmas.C02
/-
  Every theorem quantifies over ALL requirement structures `ds` (ordered lists of alternatives, each
  a list of scheme names with scopes, possibly empty), ALL built structures `bs` that are `ds` with
  the schemes of each alternative in ANY order and ANY assignment of "has a registered
  authenticator" (`Reordered ds bs`), ALL per-scheme behaviours `env`, ALL authorizers (absent, or
  any function of the principal) and all four kinds of rest-of-request.

  `spec_direct_holds` / `spec_serve_holds` say that the model satisfies the very Boolean `Spec`
  the driver evaluates on what the real code did; the other theorems spell the content out as
  propositions.
-/
namespace RtVerif.C02
open RtVerif Bytes

/-- The driver's structure check establishes the hypothesis of all theorems below: when the
structure observed in `MatchedRoute.Authenticators` equals the model's `build` put in the observed
order, it is a reordering of the declared structure. -/
theorem reorder_sound (defs reg : List Name) (ds : List DocAlt) (os : List (List Name)) (bs : List Alt)
    (h : reorder (build defs reg ds) os = some bs) : Reordered ds bs := by
  induction ds generalizing os bs with
  | nil =>
    cases os with
    | nil => cases h; exact .nil
    | cons _ _ => cases h
  | cons d ds ih =>
    cases os with
    | nil => cases h
    | cons o os =>
      simp only [build, List.map_cons, reorder] at h
      split at h <;> cases h
      rename_i x xs h1 h2
      refine .cons ?_ (ih os xs h2)
      unfold reorderAlt at h1
      split at h1 <;> cases h1
      rename_i hp
      rw [buildAlt_keys] at hp
      exact List.isPerm_iff.mp hp

/-- The Spec holds of `Context.Authorize` — every structure, order, outcome vector, authorizer. -/
theorem spec_direct_holds {ds : List DocAlt} {bs : List Alt} (h : Reordered ds bs) (env : Env)
    (authz : Option Authorizer) :
    specDirect ds env authz (authorizeFresh bs env authz).1 (authorizeFresh bs env authz).2 = true := by
  rw [specDirect_reordered h]
  exact specDirect_keys bs env authz

theorem secure_log {bs : List Alt} (hne : bs ≠ []) (env : Env) (authz : Option Authorizer) (k : ReqKind) :
    (secure bs env authz k).log = (authorizeFresh bs env authz).2 := by
  unfold secure
  rw [if_neg (by simpa using hne)]
  cases (authorizeFresh bs env authz).1 with
  | ok _ _ => cases k <;> rfl
  | _ => rfl

/-- What the secured handler does is decided by `Context.Authorize` alone: let through to
bind+handle, or refused with the error's status and message with neither binding nor handler.
(`Context.Authorize` never dereferences a nil `route.Authenticator`: the Spec excludes it.) -/
theorem secure_cases {bs : List Alt} (hne : bs ≠ []) (env : Env) (authz : Option Authorizer) (k : ReqKind) :
    (∃ p sc, (authorizeFresh bs env authz).1 = .ok p sc ∧
        secure bs env authz k = downstream k (authorizeFresh bs env authz).2)
    ∨ (∃ e, (authorizeFresh bs env authz).1 = .err e ∧
        secure bs env authz k = ⟨statusOf e, msgOf e, false, 0, (authorizeFresh bs env authz).2, false⟩) := by
  have hd := specDirect_keys bs env authz
  unfold secure
  rw [if_neg (by simpa using hne)]
  cases hr : (authorizeFresh bs env authz).1 with
  | ok p sc => exact Or.inl ⟨p, sc, rfl, rfl⟩
  | err e => exact Or.inr ⟨e, rfl, rfl⟩
  | panic => rw [hr] at hd; cases hd
  | noauth => simp [hr, specDirect, keys_isEmpty, hne] at hd

/-- The Spec holds of the served request — every structure, order, outcome vector, authorizer and
whatever else is right or wrong with the request. -/
theorem spec_serve_holds {ds : List DocAlt} {bs : List Alt} (h : Reordered ds bs) (env : Env)
    (authz : Option Authorizer) (k : ReqKind) :
    specServe ds env authz (secure bs env authz k) = true := by
  unfold specServe
  rw [isEmpty_reordered h]
  by_cases hemp : bs = []
  · subst hemp
    cases k <;> rfl
  · have hd := spec_direct_holds h env authz
    rw [if_neg (by simpa using hemp)]
    rcases secure_cases hemp env authz k with ⟨p, sc, hr, hs⟩ | ⟨e, hr, hs⟩ <;> rw [hr] at hd <;> rw [hs]
    · cases k <;> simp [downstream, admissible_of_ok hd]
    · have := (refusalAllowed_iff ds env authz _ fun e' => statusOf e' == statusOf e && msgOf e' == msgOf e).mpr
        ⟨e, (specDirect_iff ..).mp hd, by simp⟩
      simp [this]

/-- S1 (`secure_sound`): if parameter binding or the handler ran, some declared alternative is fully
satisfied — every one of its schemes was consulted and accepted, the principal is non-nil and
yielded by one of them (or the alternative is the empty one and no consulted scheme rejected) — and
the authorizer, if any, accepts that principal. -/
theorem secure_sound {ds : List DocAlt} {bs : List Alt} (h : Reordered ds bs) (hne : bs ≠ [])
    (env : Env) (authz : Option Authorizer) (k : ReqKind)
    (hran : (secure bs env authz k).handlerRan = true ∨ (secure bs env authz k).consumerCalls ≠ 0) :
    ∃ a ∈ ds, ∃ p, Satisfied env (secure bs env authz k).log a p ∧ authzAccepts authz p = true := by
  rw [← admissible_iff]
  have hd := spec_direct_holds h env authz
  rcases secure_cases hne env authz k with ⟨p, sc, hr, hs⟩ | ⟨e, hr, hs⟩
  · rw [hr] at hd
    rw [secure_log hne]
    exact admissible_of_ok hd
  · rw [hs] at hran
    simp at hran

/-- S1 for the principal and scopes handed out: they are a satisfied alternative's, and the
authorizer accepts that principal. The scopes are exactly the alternative's (as a set). -/
theorem authorize_sound {ds : List DocAlt} {bs : List Alt} (h : Reordered ds bs) (env : Env)
    (authz : Option Authorizer) (p : Option Principal) (sc : List Scope)
    (hok : (authorizeFresh bs env authz).1 = .ok p sc) :
    ∃ a ∈ ds, Satisfied env (authorizeFresh bs env authz).2 a p ∧ authzAccepts authz p = true ∧
      ∀ x, x ∈ sc ↔ ∃ s ∈ a, x ∈ s.2 :=
  (specDirect_iff ..).mp (hok ▸ spec_direct_holds h env authz)

/-- The empty alternative admits a request only when no consulted scheme rejected. -/
theorem anonymous_only_without_rejection {ds : List DocAlt} {bs : List Alt} (h : Reordered ds bs)
    (env : Env) (authz : Option Authorizer) (sc : List Scope)
    (hok : (authorizeFresh bs env authz).1 = .ok none sc) :
    ([] : DocAlt) ∈ ds ∧ NoRejection env (authorizeFresh bs env authz).2 ∧ sc = [] := by
  obtain ⟨a, ha, hs, _, hsc⟩ := authorize_sound h env authz none sc hok
  rcases hs with ⟨rfl, _, hn⟩ | ⟨_, _, x, hx, _⟩
  · refine ⟨ha, hn, ?_⟩
    cases sc with
    | nil => rfl
    | cons y _ => exact absurd ((hsc y).mp (by simp)) (by simp)
  · cases hx

/-- S2 (`secure_refusal_status`): every refusal carries a consulted rejecting scheme's error, or 401
when no consulted scheme rejected, or the error of the authorizer (403 unless it carries its own
status) refusing the principal of a satisfied alternative; and it is served with that error's status
and message. -/
theorem secure_refusal_status {ds : List DocAlt} {bs : List Alt} (h : Reordered ds bs)
    (env : Env) (authz : Option Authorizer) (k : ReqKind) (e : Err)
    (herr : (authorizeFresh bs env authz).1 = .err e) :
    Refusal ds env authz (authorizeFresh bs env authz).2 e ∧
    (secure bs env authz k).status = statusOf e ∧ (secure bs env authz k).msg = msgOf e := by
  refine ⟨(specDirect_iff ..).mp (herr ▸ spec_direct_holds h env authz), ?_⟩
  have hs := secure_cases (bs := bs) (by rintro rfl; cases herr) env authz k
  simp [herr] at hs
  simp [hs]

/-- S2, the statuses named in the text: 401 when no alternative applied, 403 for an authorizer error
without a status of its own, the error's own status otherwise. -/
theorem refusal_statuses :
    statusOf unauthenticated = 401 ∧
    (∀ m, statusOf (specAuthzErr (.plain m)) = 403) ∧
    (∀ c m, c < 600 → statusOf (specAuthzErr (.coded c m)) = c) ∧
    (∀ e, authorizerErr e = specAuthzErr e) := by
  refine ⟨rfl, fun _ => rfl, ?_, authorizerErr_eq⟩
  intro c m hc
  simp only [specAuthzErr, statusOf]
  split
  · omega
  · rfl

/-- `secure_no_bind_no_handle_on_refusal`: unless `Context.Authorize` lets the request through,
neither parameter binding (the consumer) nor the operation handler runs — whatever the rest of the
request looks like. -/
theorem secure_no_bind_no_handle_on_refusal {ds : List DocAlt} {bs : List Alt} (h : Reordered ds bs)
    (hne : bs ≠ []) (env : Env) (authz : Option Authorizer) (k : ReqKind)
    (hnot : ∀ p sc, (authorizeFresh bs env authz).1 ≠ .ok p sc) :
    (secure bs env authz k).handlerRan = false ∧ (secure bs env authz k).consumerCalls = 0 := by
  rcases secure_cases hne env authz k with ⟨p, sc, hr, _⟩ | ⟨e, _, hs⟩
  · exact absurd hr (hnot p sc)
  · rw [hs]; exact ⟨rfl, rfl⟩

/-- The decision does not depend on the rest of the request: the same schemes are consulted and the
same verdict is reached for a good and for a broken request. -/
theorem secure_log_independent_of_request (bs : List Alt) (env : Env) (authz : Option Authorizer)
    (k k' : ReqKind) (hne : bs ≠ []) :
    (secure bs env authz k).log = (secure bs env authz k').log := by
  rw [secure_log hne, secure_log hne]

/-- `authorize_memo`: a second `Authorize` with the request returned by a successful first call that
produced a non-nil principal consults nothing and returns the same principal and scopes. -/
theorem authorize_memo (bs : List Alt) (env : Env) (authz : Option Authorizer) (p : Principal)
    (sc : List Scope) (_h : (authorizeFresh bs env authz).1 = .ok (some p) sc) :
    authorizeAgain bs env authz (authorizeFresh bs env authz).1 = (.ok (some p) sc, []) := by
  rw [_h]; rfl

/-- (F02a, repaired by the `fix:` commit) An alternative naming a scheme without a registered
authenticator never applies, in any order, whatever the other schemes answer. -/
theorem f02a_unregistered_alternative_fails_closed (env : Env) (a : List Req) (last : Option Principal)
    (h : ∃ s ∈ a, s.registered = false) :
    (authSchemes env last a).satisfied = false := by
  obtain ⟨s, hs, hr⟩ := h
  rw [Bool.eq_false_iff]
  intro hsat
  simp only [AltRes.satisfied, Bool.and_eq_true, Option.isNone_iff_eq_none] at hsat
  have := ((authSchemes_ok env a last hsat.1.1 hsat.1.2).2.1 s hs).1
  rw [hr] at this
  cases this

/-- S2, sharper than the Spec asks: when no alternative produced a principal, the error returned is
the error of the LAST consulted scheme that rejected (401 when none did). -/
theorem refusal_is_last_rejection (bs : List Alt) (env : Env) (authz : Option Authorizer) (hne : bs ≠ [])
    (hnone : (authAll env none false bs).princ = none)
    (hrej : rejections env (authorizeFresh bs env authz).2 ≠ []) :
    ∃ e, (rejections env (authorizeFresh bs env authz).2).getLast? = some e ∧
      (authorizeFresh bs env authz).1 = .err e := by
  have hemp : bs.isEmpty = false := by cases bs with | nil => exact absurd rfl hne | cons _ _ => rfl
  unfold authorizeFresh at hrej ⊢
  simp only [hemp, Bool.false_eq_true, ↓reduceIte] at hrej ⊢
  rcases authAll_char env bs none false with ⟨a, -, -, hsat, l, h⟩ | ⟨-, l, e, he, h⟩ <;>
    rw [h] at hnone hrej ⊢
  · cases (satisfied_princ hsat).symm.trans (congrArg _ hnone)
  · rw [Option.toList_none, List.nil_append] at he
    cases e with
    | none => exact absurd (List.getLast?_eq_none_iff.mp he.symm) hrej
    | some e => exact ⟨e, he.symm, rfl⟩

/-- Not vacuous (the model does not simply refuse): if some non-empty alternative has all its
schemes registered and accepting with non-nil principals, and the authorizer (if any) accepts
every principal, a good request reaches the handler. -/
theorem secure_complete (bs : List Alt) (env : Env) (authz : Option Authorizer)
    (hsat : ∃ a ∈ bs, a ≠ [] ∧ ∀ s ∈ a, s.registered = true ∧ ∃ x, env s.name s.scopes = .accepted (some x))
    (hz : ∀ p, runAuthorizer authz p = none) :
    (secure bs env authz .good).handlerRan = true ∧ (secure bs env authz .good).status = 200 := by
  obtain ⟨a, ha, hane, hall⟩ := hsat
  have hne : bs.isEmpty = false := by cases bs with | nil => cases ha | cons _ _ => rfl
  rcases authAll_char env bs none false with ⟨b, -, -, hsb, l, h⟩ | ⟨hnone, -⟩
  · obtain ⟨x, hx⟩ := Option.isSome_iff_exists.mp (satisfied_princ hsb)
    have hfin : finish bs authz (authAll env none false bs) = .ok (some x) (allScopes b) := by
      simp [finish, h, hx, hz]
    simp [secure, authorizeFresh, hne, hfin, downstream]
  · have := hnone a ha (by simpa using hane)
    rw [authSchemes_all_accept env a none hall (fun h => absurd h hane)] at this
    cases this

def nA : Name := [65]
def nB : Name := [66]

/-- the pre-fix loop of `RouteAuthenticator.Authenticate`: unregistered schemes were skipped -/
def authSchemesSkip (env : Env) (last : Option Principal) : List Req → AltRes
  | [] => ⟨true, last, none, true, []⟩
  | s :: rest =>
    if s.registered then
      match env s.name s.scopes with
      | .notApplicable => ⟨false, none, none, false, [s.call]⟩
      | .rejected e => ⟨true, none, some e, true, [s.call]⟩
      | .accepted p => (authSchemesSkip env p rest).logged s.call
    else authSchemesSkip env last rest

/-- F02a was real: with the pre-fix loop, `{A, B}` with B unregistered and only A's credentials is
"satisfied" although B was never consulted — and no declared alternative is `Satisfied`. -/
theorem f02a_prefix_code_witness :
    let env : Env := fun n _ => if n = nA then .accepted (some [112, 65]) else .notApplicable
    let a : Alt := [⟨nA, [], true⟩, ⟨nB, [], false⟩]
    (authSchemesSkip env none a).satisfied = true ∧
    admissible [a.map Req.key] env none (authSchemesSkip env none a).log = false := by
  decide

/-- S3 is about every order, it does NOT say the decision is the same for every order: with
`{A, B}` next to the empty alternative, A rejecting and B not applicable, the request is refused
when A is consulted first and admitted anonymously when B is. Both satisfy the Spec. -/
theorem order_can_change_decision :
    ∃ (ds : List DocAlt) (bs bs' : List Alt) (env : Env),
      Reordered ds bs ∧ Reordered ds bs' ∧
      (secure bs env none .good).handlerRan = false ∧ (secure bs' env none .good).handlerRan = true := by
  refine ⟨[[(nA, []), (nB, [])], []],
    [[⟨nA, [], true⟩, ⟨nB, [], true⟩], []], [[⟨nB, [], true⟩, ⟨nA, [], true⟩], []],
    fun n _ => if n = nA then .rejected (.plain [110, 111]) else .notApplicable, ?_, ?_, ?_, ?_⟩
  · exact .cons (by decide) (.cons (by decide) .nil)
  · exact .cons (by decide) (.cons (by decide) .nil)
  · decide
  · decide

def nC : Name := [67]
def exDecl : List DocAlt := [[(nA, [[115, 49]]), (nB, []), (nC, [[115, 50]])], []]
def exBuilt : List Alt := [[⟨nC, [[115, 50]], true⟩, ⟨nA, [[115, 49]], true⟩, ⟨nB, [], true⟩], []]
def exEnv : Env := fun n _ =>
  if n = nA then .accepted (some [112, 65]) else if n = nB then .accepted none
  else .accepted (some [112, 67])
def exAuthz : Option Authorizer := some fun p => if p = some [112, 67] then some (.plain [110, 111]) else none

/-- AND-of-3 in a permuted order, with an authorizer -/
example : Reordered exDecl exBuilt := .cons (by decide) (.cons (by decide) .nil)
example : exBuilt ≠ [] := by decide
/-- AND of three with the nil principal last in the built order: the alternative yields no principal
and is passed over, the anonymous alternative is then taken -/
example : (authorizeFresh exBuilt exEnv exAuthz).1 = .ok none [] := by decide
/-- the last scheme in the order gives the principal; the authorizer accepts pA -/
example : (authorizeFresh [[⟨nC, [[115, 50]], true⟩, ⟨nB, [], true⟩, ⟨nA, [[115, 49]], true⟩]] exEnv exAuthz).1
    = .ok (some [112, 65]) [[115, 50], [115, 49]] := by decide
/-- … and refuses pC with 403 -/
example : (authorizeFresh [[⟨nA, [[115, 49]], true⟩, ⟨nB, [], true⟩, ⟨nC, [[115, 50]], true⟩]] exEnv exAuthz).1
    = .err (.coded 403 [110, 111]) := by decide
example : (secure [[⟨nA, [[115, 49]], true⟩, ⟨nB, [], true⟩, ⟨nC, [[115, 50]], true⟩]] exEnv none .good).handlerRan = true := by
  decide
/-- hypotheses of `refusal_is_last_rejection`: two alternatives rejecting in turn -/
example : (authAll (fun n _ => if n = nA then .rejected (.plain [49]) else .rejected (.coded 403 [50])) none false
    [[⟨nA, [], true⟩], [⟨nB, [], true⟩]]).princ = none := by decide
/-- hypotheses of `secure_complete` -/
example : ∀ s ∈ ([⟨nA, [], true⟩, ⟨nC, [], true⟩] : Alt),
    s.registered = true ∧ ∃ x, exEnv s.name s.scopes = .accepted (some x) := by
  intro s hs
  simp only [List.mem_cons, List.not_mem_nil, or_false] at hs
  rcases hs with rfl | rfl
  · exact ⟨rfl, [112, 65], by decide⟩
  · exact ⟨rfl, [112, 67], by decide⟩
/-- an alternative with an unregistered scheme -/
example : ∃ s ∈ ([⟨nA, [], true⟩, ⟨nB, [], false⟩] : Alt), s.registered = false := ⟨⟨nB, [], false⟩, by simp, rfl⟩

end RtVerif.C02
