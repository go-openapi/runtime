import RtVerif.Model.C18
import RtVerif.Lemmas.C18
/-
  All statements quantify over EVERY option combination `o : Opts` (the lattice of the property is
  a finite sub-lattice of `Opts`: certificate/key/root numbers are arbitrary naturals here, the
  server name is an arbitrary byte string).

  * `min_version`, `min_version_all_writes`   — about the regenerated fact: re-checked against the
    Go source on every run.
  * `tlsAuth_spec`                            — the model satisfies the Spec written from the text.
  * the remaining theorems spell the Spec out clause by clause (and in the stronger `iff` form
    where the code gives it), state the two readings R1/R2 as theorems, and carry the property
    through the wrappers and through the hand model of the handshake.
-/
namespace RtVerif.C18
open RtVerif

/-- The `MinVersion` literal found in `TLSClientAuth` (regenerated fact) is at least TLS 1.2. -/
theorem min_version : tls12 ≤ effMin Facts.tlsMinVersion := by decide

/-- Every value the function ever writes to `MinVersion` is at least TLS 1.2. -/
theorem min_version_all_writes : ∀ v ∈ Facts.tlsMinVersionWrites, tls12 ≤ effMin v := by decide

theorem cfg_min_version {o : Opts} {c : Cfg} (h : tlsAuth o = .cfg c) : tls12 ≤ effMin c.minVersion := by
  obtain ⟨rfl, -⟩ := tlsAuth_cfg h
  exact min_version

example : ∃ c, tlsAuth ⟨.absent, .none, .absent, .none, .absent, none, none, [], true, 0, false, 0⟩ = .cfg c :=
  ⟨_, rfl⟩

/-- The model of `TLSClientAuth` satisfies the property for every combination of options. -/
theorem tlsAuth_spec (o : Opts) : spec o (tlsAuth o) = true := by
  cases h : tlsAuth o with
  | err s => rfl
  | cfg c =>
    obtain ⟨rfl, hid⟩ := tlsAuth_cfg h
    have hmin : decide (tls12 ≤ effMin Facts.tlsMinVersion) = true := decide_eq_true min_version
    have hroots : rootsClause o (if rootsGiven o then some (norm (suppliedRoots o)) else none) = true := by
      cases hg : rootsGiven o <;> simp [rootsClause, hg, sameSet_norm]
    have hisv : (!(if o.serverName ≠ [] then false else o.insecure) || (o.insecure && o.serverName == [])) = true := by
      by_cases hs : o.serverName = [] <;> simp [hs]
    rcases hid with ⟨hg, hsup⟩ | ⟨hg, hu, x, hsup⟩
    · simp only [spec, specCfg, cfgOf, hmin, hisv, hroots, hg, hsup]
      simp
    · simp only [spec, specCfg, cfgOf, hmin, hisv, hroots, hg, hsup, hu]
      simp

/-- `TLSTransport` and `TLSClient` hand the very same outcome on. -/
theorem wrappers_same (o : Opts) : tlsTransport o = tlsAuth o ∧ tlsClient o = tlsAuth o := ⟨rfl, rfl⟩

theorem tlsClient_spec (o : Opts) : spec o (tlsClient o) = true := tlsAuth_spec o

/-- Verification is skipped exactly when that was requested and no server name is given. -/
theorem insecure_iff {o : Opts} {c : Cfg} (h : tlsAuth o = .cfg c) :
    c.insecure = true ↔ (o.insecure = true ∧ o.serverName = []) := by
  obtain ⟨rfl, -⟩ := tlsAuth_cfg h
  by_cases hs : o.serverName = [] <;> simp [cfgOf, hs]

/-- The negative space the tests never assert: a server name forces verification on, whatever
else is set. -/
theorem server_name_forces_verification {o : Opts} {c : Cfg} (h : tlsAuth o = .cfg c)
    (hs : o.serverName ≠ []) : c.insecure = false := by
  cases hi : c.insecure with
  | false => rfl
  | true => exact absurd ((insecure_iff h).1 hi).2 hs

example : tlsAuth ⟨.absent, .none, .absent, .none, .absent, none, none, [115], true, 0, false, 0⟩ =
    .cfg ⟨Facts.tlsMinVersion, false, [115], none, [], 0, false, 0⟩ := rfl

/-- The system pool (`RootCAs = nil`) is used exactly when no root option is set. -/
theorem roots_system_iff {o : Opts} {c : Cfg} (h : tlsAuth o = .cfg c) :
    c.roots = none ↔ rootsGiven o = false := by
  obtain ⟨rfl, -⟩ := tlsAuth_cfg h
  cases hg : rootsGiven o <;> simp [cfgOf, hg]

/-- Otherwise the configuration trusts exactly the supplied roots (R2), rendered ascending without
duplicates. -/
theorem roots_exact {o : Opts} {c : Cfg} {l : List Nat} (h : tlsAuth o = .cfg c) (hl : c.roots = some l) :
    (∀ r, r ∈ l ↔ r ∈ suppliedRoots o) ∧ Asc l := by
  obtain ⟨rfl, -⟩ := tlsAuth_cfg h
  have : norm (suppliedRoots o) = l := by
    cases hg : rootsGiven o <;> simp [cfgOf, hg] at hl
    exact hl
  subst this
  exact ⟨fun _ => mem_norm, asc_norm _⟩

example : tlsAuth ⟨.absent, .none, .absent, .none, .ok [3, 0], none, some [1, 0], [], false, 0, false, 0⟩ =
    .cfg ⟨Facts.tlsMinVersion, false, [], some [0, 1, 3], [], 0, false, 0⟩ := rfl

/-- Reading R2 as a theorem: once `LoadedCA` is set the `CA` file plays no role (not even when it
is unreadable). -/
theorem loadedCA_makes_caFile_irrelevant (o : Opts) (r : Nat) (f : CAFile) (h : o.loadedCA = some r) :
    tlsAuth { o with caFile := f } = tlsAuth o := by
  simp [tlsAuth, rootsOf, clientCerts, h]

/-- non-vacuity: an unreadable CA file next to a LoadedCA still gives a configuration trusting
LoadedCA and the pool -/
example : tlsAuth ⟨.absent, .none, .absent, .none, .unreadable, some 2, some [1], [], false, 0, false, 0⟩ =
    .cfg ⟨Facts.tlsMinVersion, false, [], some [1, 2], [], 0, false, 0⟩ := rfl

theorem settings_copied {o : Opts} {c : Cfg} (h : tlsAuth o = .cfg c) :
    c.serverName = o.serverName ∧ c.callback = o.callback ∧
      c.ticketsDisabled = o.ticketsDisabled ∧ c.cache = o.cache := by
  obtain ⟨rfl, -⟩ := tlsAuth_cfg h
  exact ⟨rfl, rfl, rfl, rfl⟩

/-- A configuration presents exactly the supplied client certificate (R1) with its own key:
none when none was supplied, otherwise that one and no other. -/
theorem client_cert_exact {o : Opts} {c : Cfg} (h : tlsAuth o = .cfg c) :
    c.certs = (suppliedCert o).toList := by
  obtain ⟨rfl, -⟩ := tlsAuth_cfg h
  rfl

/-- Unusable certificate or key material yields an error. -/
theorem unusable_identity_errors {o : Opts} (hg : certGiven o = true) (hu : identityUsable o = false) :
    ∃ s, tlsAuth o = .err s := by
  cases h : tlsAuth o with
  | err s => exact ⟨s, rfl⟩
  | cfg c => simpa [hg, hu] using ((tlsAuth_cfg_iff o c).1 h).2.1

example : certGiven ⟨.absent, .ok ⟨0, 0⟩, .ok 0, .ec true 1, .absent, none, none, [], true, 0, false, 0⟩ = true ∧
    identityUsable ⟨.absent, .ok ⟨0, 0⟩, .ok 0, .ec true 1, .absent, none, none, [], true, 0, false, 0⟩ = false := by
  decide

/-- ... never a configuration that silently lacks the client certificate. -/
theorem never_silently_without_cert {o : Opts} {c : Cfg} (hg : certGiven o = true) (h : tlsAuth o = .cfg c) :
    ∃ x, suppliedCert o = some x ∧ c.certs = [x] := by
  obtain ⟨rfl, ⟨hg', -⟩ | ⟨-, -, x, hsup⟩⟩ := tlsAuth_cfg h
  · rw [hg] at hg'
    cases hg'
  · exact ⟨x, hsup, by simp [cfgOf, hsup]⟩

example : tlsAuth ⟨.ok ⟨2, 1⟩, .ok ⟨0, 0⟩, .ok 1, .rsa true 0, .absent, none, none, [], false, 0, false, 0⟩ =
    .cfg ⟨Facts.tlsMinVersion, false, [], none, [⟨2, 1⟩], 0, false, 0⟩ := rfl

/-- When is there a configuration at all: the designated identity is usable (or no certificate
option is set) and the CA file, if it is consulted, can be read. Errors are never spurious. -/
theorem cfg_iff (o : Opts) :
    (∃ c, tlsAuth o = .cfg c) ↔
      ((certGiven o = false ∨ identityUsable o = true) ∧ (o.loadedCA = none → o.caFile ≠ .unreadable)) :=
  ⟨fun ⟨c, h⟩ => ((tlsAuth_cfg_iff o c).1 h).2, fun h => ⟨_, (tlsAuth_cfg_iff o _).2 ⟨rfl, h⟩⟩⟩

/-- Reading R1 as a theorem: without any certificate option the key options play no role (a key
alone is not an identity; nothing is presented and nothing fails). -/
theorem key_without_cert_irrelevant (o : Opts) (kf : KeyFile) (lk : LoadedKey)
    (h1 : o.certFile = .absent) (h2 : o.loadedCert = .none) :
    tlsAuth { o with keyFile := kf, loadedKey := lk } = tlsAuth o := by
  simp [tlsAuth, rootsOf, clientCerts, h1, h2]

/-- non-vacuity: an unreadable key file and an unsupported loaded key without any certificate -/
example : tlsAuth ⟨.absent, .none, .unreadable, .other, .absent, none, none, [], false, 3, true, 2⟩ =
    .cfg ⟨Facts.tlsMinVersion, false, [], none, [], 3, true, 2⟩ := rfl

/-- Documented precedence: with a `Certificate` file set, `LoadedCertificate`/`LoadedKey` play no
role. -/
theorem certFile_makes_loaded_irrelevant (o : Opts) (lc : LoadedCert) (lk : LoadedKey)
    (h : o.certFile ≠ .absent) :
    tlsAuth { o with loadedCert := lc, loadedKey := lk } = tlsAuth o := by
  obtain ⟨cf, lc', kf, lk', ca, lca, pool, sn, isv, cb, std, cache⟩ := o
  cases cf <;> first | exact absurd rfl h | rfl

/-- non-vacuity: an unusable file pair is an error even though a usable loaded pair is present -/
example : tlsAuth ⟨.unreadable, .ok ⟨0, 0⟩, .ok 0, .rsa true 0, .absent, none, none, [], false, 0, false, 0⟩ =
    .err .clientCert := rfl

/-! ### the property seen from the wire (hand model of crypto/tls' handshake: support) -/

theorem verifyOk_cfgOf (o : Opts) (s : Scn) :
    verifyOk (cfgOf o) s =
      ((o.insecure && o.serverName == []) ||
        (rootsGiven o && (suppliedRoots o).contains s.srvRoot
          && effName o.serverName s.dial == s.srvName)) := by
  unfold verifyOk cfgOf
  rcases o.serverName with _ | ⟨b, t⟩ <;> cases rootsGiven o <;> simp [mem_norm]

theorem handshake_spec (o : Opts) (s : Scn) : specHs o s (hsRun o s) = true := by
  unfold hsRun
  cases h : tlsAuth o with
  | err st => rfl
  | cfg c =>
    obtain ⟨rfl, hid, -⟩ := (tlsAuth_cfg_iff o c).1 h
    simp only
    unfold handshake
    split
    · rfl
    split
    · rfl
    split
    · rfl
    rename_i hv hver hcb
    have hv' : decide (tls12 ≤ s.srvMax) = true :=
      decide_eq_true (Nat.le_trans min_version (Nat.not_lt.1 hv))
    have hcb' : o.callback = 0 := by simpa [cfgOf] using hcb
    have hp : (cfgOf o).certs.head?.map (·.cert) = (suppliedCert o).map (·.cert) := by
      unfold cfgOf
      cases suppliedCert o <;> rfl
    have hiu : (!certGiven o || identityUsable o) = true := by rcases hid with h | h <;> simp [h]
    rw [Bool.not_eq_true', Bool.not_eq_false, verifyOk_cfgOf] at hver
    simp only [specHs, hver, hcb', hp, hiu, hv']
    simp

/-- A successful handshake never ran below TLS 1.2. -/
theorem handshake_version {o : Opts} {s : Scn} {v : Nat} {p : Option Nat} (h : hsRun o s = .ok v p) :
    tls12 ≤ v := by
  have := handshake_spec o s
  rw [h] at this
  simp only [specHs, Bool.and_eq_true, decide_eq_true_eq] at this
  exact this.1.1.1.1

/-- A successful handshake verified the server against the supplied roots and the given (or
dialled) name, unless skipping was requested and no server name was given; and it presented the
supplied client certificate. -/
theorem handshake_verified {o : Opts} {s : Scn} {v : Nat} {p : Option Nat} (h : hsRun o s = .ok v p) :
    ((o.insecure = true ∧ o.serverName = []) ∨
      (s.srvRoot ∈ suppliedRoots o ∧ effName o.serverName s.dial = s.srvName)) ∧
    p = (suppliedCert o).map (·.cert) := by
  have := handshake_spec o s
  rw [h] at this
  simp only [specHs, Bool.and_eq_true, Bool.or_eq_true, beq_iff_eq, List.contains_iff_mem] at this
  refine ⟨?_, this.1.2⟩
  rcases this.1.1.1.2 with h1 | h2
  · exact .inl h1
  · exact .inr ⟨h2.1.2, h2.2⟩

example : hsRun ⟨.absent, .ok ⟨0, 0⟩, .absent, .rsa true 0, .absent, some 2, none, [], false, 0, false, 0⟩
    ⟨2, [97], 0x0304, [97]⟩ = .ok 0x0304 (some 0) := by decide

end RtVerif.C18
