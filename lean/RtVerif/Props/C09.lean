import RtVerif.Lemmas.C09
/-
  (a) T1: the memo state machine keeps the promises of the Spec AND yields, wherever a stage is
      evaluated, the result derived from the request alone — for every configuration `Env` and
      EVERY sequence of accessor calls from the request as received, threaded or applied to stale
      request values (`model_meets_spec`), with the readable consequences spelled out (reuse:
      `stage_result_reused` …; history independence: `authorize_result_independent_of_history` …).
  (b) T2: any interleaving of the steps of N requests gives each request the trace it has alone.
  Data-race freedom is NOT a theorem here: see `FullStatement` at the end.
-/
namespace RtVerif.C09
open RtVerif Bytes

/-- The six context keys are pairwise distinct: a stage never reads another stage's memo. -/
theorem keys_distinct : [kCT, kFmt, kRoute, kBound, kPrinc, kScopes].Nodup := by decide

/-- Every accessor looks its result up under the key it stores it under; `Authorize` and
`ResetAuth` write the same two keys in the same order; the exported getters read those keys. -/
theorem accessor_keys_consistent :
    Facts.c09ReadsContentType = [kCT] ∧ Facts.c09WritesContentType = [kCT] ∧
    Facts.c09ReadsResponseFormat = [kFmt] ∧ Facts.c09WritesResponseFormat = [kFmt] ∧
    Facts.c09ReadsRouteInfo = [kRoute] ∧ Facts.c09WritesRouteInfo = [kRoute] ∧
    Facts.c09ReadsBindAndValidate = [kBound] ∧ Facts.c09WritesBindAndValidate = [kBound] ∧
    Facts.c09ReadsAuthorize = [kPrinc] ∧ Facts.c09WritesAuthorize = [kPrinc, kScopes] ∧
    Facts.c09ReadsResetAuth = [] ∧ Facts.c09WritesResetAuth = [kPrinc, kScopes] ∧
    Facts.c09ReadsMatchedRouteFrom = [kRoute] ∧ Facts.c09ReadsSecurityPrincipalFrom = [kPrinc] ∧
    Facts.c09ReadsSecurityScopesFrom = [kScopes] ∧
    (Facts.c09ContextKeys.map (·.2)).Nodup ∧ (∀ e ∈ Facts.c09ContextKeys, e.2 ≠ 0) := by decide

/-- The structural facts the model's privacy rests on: a lookup hands out a COPY of the shared
route entry (`&MatchedRoute{routeEntry: *entry, …}`, embedded by value); the only fields of a route
value the package assigns are per-request fields of `MatchedRoute` (`Consumer`, `Authenticator`) —
none of the shared entry's; nothing is written through the entry's maps or slices; and on the map
path `UntypedRequestBinder.Bind` assigns nothing on the shared binder. -/
theorem per_request_writes_are_private :
    Facts.c09LookupCopiesEntry = true ∧ Facts.c09MatchedRouteEmbedsByValue = true ∧
    (∀ f ∈ Facts.c09RouteFieldWrites, f ∈ Facts.c09MatchedRouteOwnFields ∧ f ∉ Facts.c09RouteEntryFields) ∧
    Facts.c09RouteIndexWrites = [] ∧ Facts.c09BinderMapPathWrites = [] := by decide

/-- **Memo hits.** A request value whose context shows a stage's result gets that result back,
together with the very request it passed in, whatever the shared state is; nothing is looked up,
no authenticator, authorizer or consumer runs, and the shared state is unchanged. -/
theorem hit_routeInfo (env : Env) (st : State) (c : Ctx) (r : Nat × RouteCfg) (h : memoRoute c = some r) :
    routeInfo env st c = ⟨st, .same, some r, []⟩ := by simp [routeInfo, h]

theorem hit_contentType (env : Env) (c : Ctx) (p : Bytes × Bytes) (h : memoCT c = some p) :
    contentType env c = (.same, .ok p) := by simp [contentType, h]

theorem hit_responseFormat (env : Env) (c : Ctx) (offers : List Bytes) (f : Bytes) (h : memoFmt c = some f) :
    responseFormat env c offers = (.same, f) := by simp [responseFormat, h]

theorem hit_authorize (env : Env) (st : State) (c : Ctx) (i : Nat) (rc : RouteCfg) (u : Bytes)
    (hsec : rc.alts.isEmpty = false) (h : value c kPrinc = .princ u) :
    authorize env st c (some (i, rc)) = ⟨st, .same, .ok (.princ u), []⟩ := by simp [authorize, hsec, memoPrinc, h]

theorem hit_bindAndValidate (env : Env) (st : State) (c : Ctx) (route : Option (Nat × RouteCfg)) (r : BindRes)
    (h : memoBound c = some r) : bindAndValidate env st c route = ⟨st, .same, .done r, []⟩ := by
  simp [bindAndValidate, h]

example : memoCT [(kFmt, .fmt [97]), (kCT, .ct [116] [])] = some ([116], []) := by decide

/-- **T1 (main theorem).** For every configuration of the stage functions, every body length and
EVERY program — any sequence of the six accessors, each applied to the newest request value or to
any older one — the trace of the memo machine satisfies the Spec: whoever holds a request value a
stage returned (or one derived from it) gets the stage's result again, with none of the stage's
effects; `ResetAuth` re-arms authentication only; no request value sees the body consumed twice;
and every result NOT covered by a promise — route, content type, format, principal or error,
scopes, binding outcome — is the one the stage yields on the request as received (binding: with
what is left of its body), whatever was called before, on this or on any other request value. -/
theorem model_meets_spec (env : Env) (bodyLen : Nat) (prog : List Instr) :
    specOk env bodyLen prog (runProg env prog ⟨[], bodyLen⟩ [[]]) = true := by
  unfold specOk
  exact specGo_runProg env prog _ _ [[]] [{}] (inv_init env bodyLen)

/-- **T1, threaded form.** Start anywhere (any shared state, any request value). Let an operation
produce a result of a kind the property lists — a parsed content type, a non-empty negotiated
format, a principal, a binding outcome (valid or not). Then after ANY sequence of further
operations on the returned request (for authentication: one without `ResetAuth`), asking the same
stage again yields the same result, hands back the very request it was given, and has no effect of
the stage: at most a router lookup of the implicit `RouteInfo` (and none if a route was found
before, `route_reused`) — no authenticator, no authorizer, no consumer, no byte of the body. -/
theorem stage_result_reused (env : Env) (st : State) (c : Ctx) (op : Op) (ops : List Op) (op' : Op)
    (hstage : sameStage op op' = true) (hmemo : memoisable2 (stepCore env st c op).res2 = true)
    (hreset : op' = .authorize → Op.resetAuth ∉ ops) :
    (stepCore env (endThread env ops (stepCore env st c op).st (stepCore env st c op).held).1
        (endThread env ops (stepCore env st c op).st (stepCore env st c op).held).2 op').res2
      = (stepCore env st c op).res2 ∧
    (stepCore env (endThread env ops (stepCore env st c op).st (stepCore env st c op).held).1
        (endThread env ops (stepCore env st c op).st (stepCore env st c op).held).2 op').ret2 = .same ∧
    (stepCore env (endThread env ops (stepCore env st c op).st (stepCore env st c op).held).1
        (endThread env ops (stepCore env st c op).st (stepCore env st c op).held).2 op').effs.all isLookup = true := by
  exact stepCore_stage_hit env _ _ op' _
    (((stepCore_store env st c op hmemo).sameStage hstage).thread env ops _ hreset)

example : sameStage (.responseFormat [[97]]) (.responseFormat []) = true := rfl

/-- **The matched route is reused**: once any operation found the route, every later operation on
the returned request — after any sequence of operations, `ResetAuth` included — gets the same
`MatchedRoute` object together with the request it passed in, and the router is not asked again. -/
theorem route_reused (env : Env) (st : State) (c : Ctx) (op : Op) (ops : List Op) (op' : Op)
    (hfound : memoisable1 (stepCore env st c op).res1 = true) (hrp : hasRoutePart op' = true) :
    (stepCore env (endThread env ops (stepCore env st c op).st (stepCore env st c op).held).1
        (endThread env ops (stepCore env st c op).st (stepCore env st c op).held).2 op').res1
      = (stepCore env st c op).res1 ∧
    (stepCore env (endThread env ops (stepCore env st c op).st (stepCore env st c op).held).1
        (endThread env ops (stepCore env st c op).st (stepCore env st c op).held).2 op').ret1 = .same ∧
    (stepCore env (endThread env ops (stepCore env st c op).st (stepCore env st c op).held).1
        (endThread env ops (stepCore env st c op).st (stepCore env st c op).held).2 op').effs.all
      (fun e => !isLookup e) = true := by
  obtain ⟨x, hm, hr⟩ := stepCore_store_route env st c op hfound
  rw [hr]
  exact stepCore_route_hit env _ _ op' x
    (memoRoute_keeps (endThread_keeps env kRoute ops _ _ (fun _ => by decide)) hm) hrp

/-- **The body is consumed at most once**: whatever sequence of accessors a caller threads the
request through, starting from the request as received, a consumer is called at most once — so the
body is read at most once. -/
theorem body_consumed_at_most_once (env : Env) (st : State) (ops : List Op) :
    consumes (runThread env ops st []) ≤ 1 := by
  exact thread_consumes env ops st []

/-- operations other than `Authorize` never consult an authenticator or the authorizer -/
theorem only_authorize_consults (env : Env) (st : State) (c : Ctx) (op : Op) (h : op ≠ .authorize) :
    (stepCore env st c op).effs.all (fun e => !isAuthEff e) = true := by
  have hl : (routeInfo env st c).effs.all (fun e => !isAuthEff e) = true :=
    all_of_all (routeInfo_effs env st c) fun e h => by simp [(isLookup_excl h).1]
  cases op with
  | authorize => exact absurd rfl h
  | routeInfo => exact hl
  | contentType => rfl
  | responseFormat o => rfl
  | resetAuth => rfl
  | bindAndValidate =>
    simp only [stepCore]
    split
    · exact hl
    · rw [List.all_append, hl, Bool.true_and]
      exact all_of_all (bindAndValidate_effs env _ _ _ _).1 fun e h => by simp [(isConsume_excl h).2]

theorem thread_no_auth (env : Env) (r : Res2) (ops : List Op) (st : State) (c : Ctx)
    (h : Memoised c .authorize r) (hr : Op.resetAuth ∉ ops) :
    ∀ o ∈ runThread env ops st c, o.effs.all (fun e => !isAuthEff e) = true := by
  induction ops generalizing st c with
  | nil => intro o ho; cases ho
  | cons op ops ih =>
    intro o ho
    rcases List.mem_cons.mp ho with rfl | ho
    · by_cases hop : op = .authorize
      · subst hop
        exact all_of_all (stepCore_stage_hit env st c .authorize r h).2.2 fun e h => by simp [(isLookup_excl h).1]
      · exact only_authorize_consults env st c op hop
    · exact ih _ _ (h.step env st op fun _ e => hr (e ▸ List.mem_cons_self))
        (fun hm => hr (List.mem_cons_of_mem _ hm)) o ho

/-- **An accepting authenticator is not consulted again**: once `Authorize` has returned a
principal, no operation of any `ResetAuth`-free sequence on the returned request calls an
authenticator or the authorizer. -/
theorem accepting_authenticator_not_consulted_again (env : Env) (st : State) (c : Ctx) (u : Bytes) (ops : List Op)
    (hacc : (stepCore env st c .authorize).res2 = .princ u) (hnr : Op.resetAuth ∉ ops) :
    ∀ o ∈ runThread env ops (stepCore env st c .authorize).st (stepCore env st c .authorize).held,
      o.effs.all (fun e => !isAuthEff e) = true := by
  have h := stepCore_store env st c .authorize (by rw [hacc]; rfl)
  exact thread_no_auth env _ ops _ _ h hnr

/-- `ResetAuth` hides principal and scopes and leaves every other memo in place; the next
`Authorize` on a secured route authenticates afresh. -/
theorem resetAuth_rearms_authentication_only (env : Env) (st : State) (c : Ctx) (i : Nat) (rc : RouteCfg)
    (hsec : rc.alts.isEmpty = false) :
    memoRoute (resetAuth c) = memoRoute c ∧ memoCT (resetAuth c) = memoCT c ∧ memoFmt (resetAuth c) = memoFmt c ∧
    memoBound (resetAuth c) = memoBound c ∧ memoPrinc (resetAuth c) = none ∧
    (viewOf st (resetAuth c)).princ = none ∧ (viewOf st (resetAuth c)).scopes = [] ∧
    authorize env st (resetAuth c) (some (i, rc)) = authorizeMiss env st (resetAuth c) i rc := by
  have hp : value (resetAuth c) kPrinc = .nil := by
    unfold resetAuth; rw [value_push_ne _ _ ne_Princ_Scopes.symm, value_push_eq]
  have hs : value (resetAuth c) kScopes = .nil := by unfold resetAuth; rw [value_push_eq]
  have hm : memoPrinc (resetAuth c) = none := by simp [memoPrinc, hp]
  refine ⟨?_, ?_, ?_, ?_, hm, ?_, ?_, ?_⟩
  · unfold resetAuth; rw [memoRoute_push _ _ ne_Route_Scopes.symm, memoRoute_push _ _ (by decide)]
  · unfold resetAuth; rw [memoCT_push _ _ ne_CT_Scopes.symm, memoCT_push _ _ (by decide)]
  · unfold resetAuth; rw [memoFmt_push _ _ ne_Fmt_Scopes.symm, memoFmt_push _ _ (by decide)]
  · unfold resetAuth; rw [memoBound_push _ _ ne_Bound_Scopes.symm, memoBound_push _ _ (by decide)]
  · simp [viewOf, hp]
  · simp [viewOf, hs]
  · exact authorize_miss_eq env st _ i rc hsec hm

/-- A failed negotiation stores nothing and hands the same request back: the next asker negotiates
afresh, possibly with other offers and another outcome. -/
theorem failed_negotiation_not_memoised (env : Env) (c : Ctx) (offers offers' : List Bytes)
    (hm : memoFmt c = none) (hfail : (env.neg offers).isEmpty = true) :
    responseFormat env c offers = (.same, env.neg offers) ∧
    (responseFormat env ((responseFormat env c offers).1.held c) offers').2 = env.neg offers' := by
  have h1 : responseFormat env c offers = (.same, env.neg offers) := by simp [responseFormat, hm, hfail]
  refine ⟨h1, ?_⟩
  rw [h1]
  simp only [Ret.held, responseFormat, hm]
  split <;> rfl

/-- An authentication that succeeds WITHOUT a principal (anonymous access allowed, or an
authenticator accepting with a nil principal on such a route) stores nil under the principal key:
the value handed back shows no principal, and the next `Authorize` authenticates again. -/
theorem anonymous_not_memoised (env : Env) (st st' : State) (c : Ctx) (i : Nat) (rc : RouteCfg)
    (hm : memoPrinc c = none) (hanon : (authorize env st c (some (i, rc))).res = .ok .nil) :
    memoPrinc ((authorize env st c (some (i, rc))).ret.held c) = none ∧
    (rc.alts.isEmpty = false →
      authorize env st' ((authorize env st c (some (i, rc))).ret.held c) (some (i, rc)) =
        authorizeMiss env st' ((authorize env st c (some (i, rc))).ret.held c) i rc) := by
  have hnone : memoPrinc ((authorize env st c (some (i, rc))).ret.held c) = none := by
    rcases authorize_cases env st c (some (i, rc)) with
      e | ⟨_, _, _, _, ⟨_, hv, _⟩ | ⟨_, _, _, _, ⟨_, _, e⟩ | ⟨sc, pr, e⟩⟩⟩
    · rw [e]; exact hm
    · rw [hm] at hv; cases hv
    · rw [e]; exact hm
    · rw [e] at hanon ⊢
      cases pr with
      | some u => cases hanon
      | none => exact memoPrinc_nil _ ((value_push_ne _ _ ne_Princ_Scopes.symm).trans (value_push_eq _ _ _))
  exact ⟨hnone, fun hsec => authorize_miss_eq env st' _ i rc hsec hnone⟩

/-- A failed `Authorize` (error, or no applicable credentials) and an unsecured route return no
request at all: nothing is stored. -/
theorem failed_authentication_stores_nothing (env : Env) (st : State) (c : Ctx) (route : Option (Nat × RouteCfg))
    (code : Nat) (h : (authorize env st c route).res = .fail code ∨ (authorize env st c route).res = .unsecured) :
    (authorize env st c route).ret = .nil := by
  rcases authorize_cases env st c route with
    e | ⟨_, _, _, _, ⟨_, _, e⟩ | ⟨_, _, _, _, ⟨_, _, e⟩ | ⟨_, _, e⟩⟩⟩ <;> rw [e] at h ⊢ <;>
    rcases h with h | h <;> cases h

/-- A `Content-Type` header that does not parse stores nothing; without a matching route every
`RouteInfo` asks the router again. -/
theorem parse_error_and_no_route_store_nothing (env : Env) (st : State) (c : Ctx) :
    (∀ e, memoCT c = none → env.parseCT = .error e → contentType env c = (.nil, .error e)) ∧
    (memoRoute c = none → env.lookup = none → routeInfo env st c = ⟨st, .nil, none, [.lookup]⟩) := by
  constructor
  · intro e hm he; simp [contentType, hm, he]
  · intro hm hl; simp [routeInfo, hm, hl]

/-- scheme `k` with scope `r`; anonymous access also allowed -/
def exRoute : RouteCfg := ⟨[111], [], [[106]], [⟨true, [[]], []⟩, ⟨false, [[107]], [[114]]⟩], true⟩

/-- a request with a 3-byte body and no credentials; `k` accepts `u` when `cred` is set -/
def exEnv (cred : Bool) : Env :=
  { lookup := some exRoute, parseCT := .ok ([106], []), neg := fun o => o.headD [],
    authn := fun _ => if cred then ⟨true, some [117], none⟩ else ⟨false, none, none⟩, authz := none,
    hasBody := true, ctAllowed := fun _ => true, consumerFor := fun _ => some [106], bodyParam := true,
    bind := fun n => if n = 0 then ⟨[601], []⟩ else ⟨[], [98]⟩ }

-- the hypotheses of `stage_result_reused`, `route_reused` and
-- `accepting_authenticator_not_consulted_again` are met
example : sameStage .bindAndValidate .bindAndValidate = true ∧
    memoisable2 (stepCore (exEnv true) ⟨[], 3⟩ [] .bindAndValidate).res2 = true ∧
    memoisable1 (stepCore (exEnv true) ⟨[], 3⟩ [] .bindAndValidate).res1 = true ∧
    (stepCore (exEnv true) ⟨[], 3⟩ [] .authorize).res2 = .princ [117] := by decide

/-- With credentials: the second `Authorize` consults nobody; after `ResetAuth` the third one
authenticates again, while the binding done in between stays memoised (no second consumer call). -/
theorem witness_memo_and_reset :
    (runThread (exEnv true) [.authorize, .bindAndValidate, .authorize, .resetAuth, .authorize, .bindAndValidate]
        ⟨[], 3⟩ []).map (·.effs) =
      [[.lookup, .authn [107], .authz], [.consume [106] 3], [], [], [.authn [107], .authz], []] := by decide

/-- Anonymous access is not memoised: without credentials both `Authorize` calls ask the
authenticator of the other alternative and the authorizer. -/
theorem witness_anonymous_recomputed :
    (runThread (exEnv false) [.authorize, .authorize] ⟨[], 3⟩ []).map (fun o => (o.res2, o.effs)) =
      [(.anon, [.lookup, .authn [107], .authz]), (.anon, [.authn [107], .authz])] := by decide

/-- "…that holds the request value the stage returned": an asker still holding the ORIGINAL request
(value 0) after a binding gets a recomputation — new lookup, a second consumer call that finds the
body drained, another outcome; the holder of the returned value keeps getting the first outcome. -/
theorem witness_stale_value_recomputes :
    (runProg (exEnv true) [⟨.bindAndValidate, 0⟩, ⟨.bindAndValidate, 1⟩, ⟨.bindAndValidate, 1⟩] ⟨[], 3⟩ [[]]).map
        (fun o => (o.res2, o.effs)) =
      [(.bound [] [98], [.lookup, .consume [106] 3]), (.bound [601] [], [.lookup, .consume [106] 0]),
       (.bound [] [98], [])] := by decide

/-! ## T1b — "… are those derived from that request alone": history independence

`endProg env prog ⟨[], b⟩ [[]]` is the shared state and the list of ALL request values after an
arbitrary program on the request as received (body of `b` bytes); `k` picks any of the values, the
newest or a stale one. The pristine request is the state `⟨[], _⟩` with the empty context `[]`. -/

/-- Authentication proper never looks at `route.Authenticator`: whatever it shows (`cur`, left
behind by an earlier — possibly failed — authentication, aliased to the loop variable or not), the
outcome of `RouteAuthenticators.Authenticate` as `Authorize` reads it is the reference's: first
credentialed alternative yielding a principal, else anonymous if allowed and nobody reported an
error, else the last error; with the scopes of the alternative that let the request in. -/
theorem authentication_ignores_current_authenticator (env : Env) (alts : List AuthAlt) (cur : Option AuthAlt)
    (aliased : Bool) (effs : List Eff) :
    rasOutcome (rasAuth env alts none none cur aliased effs) = refAlts env alts none none :=
  (rasAuth_ref env alts none none cur aliased effs).1

/-- **`Authorize` is independent of history.** After ANY program, on ANY request value that shows
no principal (never authenticated, authenticated anonymously, failed, or `ResetAuth`), `Authorize`
returns exactly what it returns on the pristine request — same principal or same error code — and,
when it lets the request in, shows the same scopes. Failed authentications, `ResetAuth`, calls on
other request values and the `route.Authenticator` they left behind have no influence. -/
theorem authorize_result_independent_of_history (env : Env) (b : Nat) (prog : List Instr) (k : Nat)
    (hnil : value ((endProg env prog ⟨[], b⟩ [[]]).2.getD k []) kPrinc = .nil) :
    (stepCore env (endProg env prog ⟨[], b⟩ [[]]).1 ((endProg env prog ⟨[], b⟩ [[]]).2.getD k []) .authorize).res2 =
      (stepCore env ⟨[], b⟩ [] .authorize).res2 ∧
    (authenticated (stepCore env ⟨[], b⟩ [] .authorize).res2 = true →
      (stepCore env (endProg env prog ⟨[], b⟩ [[]]).1 ((endProg env prog ⟨[], b⟩ [[]]).2.getD k []) .authorize).obs.view.scopes =
        (stepCore env ⟨[], b⟩ [] .authorize).obs.view.scopes) := by
  obtain ⟨p, hst, hs⟩ := reach env b prog k
  obtain ⟨e1, s1⟩ := evaluated env _ _ .authorize p hst hs hnil
  obtain ⟨e0, s0⟩ := evaluated env _ _ .authorize {} (stOk_init env b) (sound_init env _) rfl
  simp only [fresh, scopesAlone] at e1 s1 e0 s0
  refine ⟨e1.trans e0.symm, fun ha => ?_⟩
  cases hl : env.lookup with
  | none => rw [e0, hl] at ha; cases ha
  | some rc =>
    have ha1 := e1.trans e0.symm ▸ ha
    simp only [hl, StepOut.obs, ha, ha1, Bool.not_true, Bool.false_or, beq_iff_eq] at s1 s0
    exact s1.trans s0.symm

/-- **The matched route and the path parameters** any operation reports — looked up now or taken
from the request value — are those the router finds for this request. -/
theorem route_independent_of_history (env : Env) (b : Nat) (prog : List Instr) (k : Nat) :
    routeAlone env (res1Of (routeInfo env (endProg env prog ⟨[], b⟩ [[]]).1
      ((endProg env prog ⟨[], b⟩ [[]]).2.getD k [])).route) = true := by
  obtain ⟨p, hst, hs⟩ := reach env b prog k
  exact routeAlone_model env _ _ p hst hs

/-- **`ContentType` is independent of history** — memoised or evaluated: it is the parse of the
request's header (a parse error is not memoised and is reported again, the same). -/
theorem contentType_result_independent_of_history (env : Env) (b : Nat) (prog : List Instr) (k : Nat) :
    (stepCore env (endProg env prog ⟨[], b⟩ [[]]).1 ((endProg env prog ⟨[], b⟩ [[]]).2.getD k []) .contentType).res2 =
      (stepCore env ⟨[], b⟩ [] .contentType).res2 := by
  obtain ⟨p, hst, hs⟩ := reach env b prog k
  rw [(evaluated env _ _ .contentType p hst hs trivial).1]
  exact (evaluated env _ _ .contentType {} (stOk_init env b) (sound_init env _) trivial).1.symm

/-- **`ResponseFormat` is independent of history** on a value that shows no format: a failed
negotiation (over whatever offers) leaves no trace; the result is the negotiation over THESE offers. -/
theorem responseFormat_result_independent_of_history (env : Env) (b : Nat) (prog : List Instr) (k : Nat)
    (offers : List Bytes) (hm : memoFmt ((endProg env prog ⟨[], b⟩ [[]]).2.getD k []) = none) :
    (stepCore env (endProg env prog ⟨[], b⟩ [[]]).1 ((endProg env prog ⟨[], b⟩ [[]]).2.getD k [])
        (.responseFormat offers)).res2 = .fmt (env.neg offers) := by
  obtain ⟨p, hst, hs⟩ := reach env b prog k
  exact (evaluated env _ _ (.responseFormat offers) p hst hs hm).1

/-- **`BindAndValidate` is independent of history, up to the body.** On a value that shows neither
a binding outcome nor a format, binding yields what it yields on the pristine request whose body
holds what is still unread — all of it, or nothing ("the body is consumed at most once": a consumed
body stays consumed, `reachable_body_full_or_consumed`). A `route.Consumer` set earlier, content
types parsed and formats negotiated on other values, authentications: no influence. -/
theorem bindAndValidate_result_independent_of_history (env : Env) (b : Nat) (prog : List Instr) (k : Nat)
    (hb : memoBound ((endProg env prog ⟨[], b⟩ [[]]).2.getD k []) = none)
    (hf : memoFmt ((endProg env prog ⟨[], b⟩ [[]]).2.getD k []) = none) :
    (stepCore env (endProg env prog ⟨[], b⟩ [[]]).1 ((endProg env prog ⟨[], b⟩ [[]]).2.getD k []) .bindAndValidate).res2 =
      (stepCore env ⟨[], (endProg env prog ⟨[], b⟩ [[]]).1.bodyLeft⟩ [] .bindAndValidate).res2 := by
  obtain ⟨p, hst, hs⟩ := reach env b prog k
  rw [(evaluated env _ _ .bindAndValidate p hst hs hb).1, hf]
  exact (evaluated env _ _ .bindAndValidate {} (stOk_init env _) (sound_init env _) rfl).1.symm

/-- …and with a format the value holds (negotiated by whoever asked first, from their offers),
binding is the reference's binding with THAT format: the one exception the property names. -/
theorem bindAndValidate_uses_promised_format_only (env : Env) (b : Nat) (prog : List Instr) (k : Nat) (r : Res2)
    (hb : memoBound ((endProg env prog ⟨[], b⟩ [[]]).2.getD k []) = none)
    (hf : fresh env { fmt := (memoFmt ((endProg env prog ⟨[], b⟩ [[]]).2.getD k [])).map Res2.fmt }
      (endProg env prog ⟨[], b⟩ [[]]).1.bodyLeft .bindAndValidate = some r) :
    (stepCore env (endProg env prog ⟨[], b⟩ [[]]).1 ((endProg env prog ⟨[], b⟩ [[]]).2.getD k []) .bindAndValidate).res2 = r := by
  obtain ⟨p, hst, hs⟩ := reach env b prog k
  rw [(evaluated env _ _ .bindAndValidate p hst hs hb).1, hf]; rfl

/-- the body of a reachable state is untouched or consumed — never partly read, never replayed -/
theorem reachable_body_full_or_consumed (env : Env) (b : Nat) (prog : List Instr) :
    (endProg env prog ⟨[], b⟩ [[]]).1.bodyLeft = b ∨ (endProg env prog ⟨[], b⟩ [[]]).1.bodyLeft = 0 := by
  obtain ⟨_, _, h, hl⟩ := inv_end env prog _ _ _ _ (inv_init env b)
  rw [h.body]; exact hl

/-- authentication optional: scheme `k` (scope `r`) first, anonymous access second -/
def exOptRoute : RouteCfg := ⟨[100], [], [[106]], [⟨false, [[107]], [[114]]⟩, ⟨true, [], []⟩], false⟩

/-- `k` reports 401 (`wrong`), or accepts `u` -/
def exOptEnv (wrong : Bool) : Env :=
  { lookup := some exOptRoute, parseCT := .ok ([106], []), neg := fun o => o.headD [],
    authn := fun _ => if wrong then ⟨true, none, some 401⟩ else ⟨true, some [117], none⟩, authz := none,
    hasBody := false, ctAllowed := fun _ => true, consumerFor := fun _ => some [106], bodyParam := false,
    bind := fun _ => ⟨[], [98]⟩ }

/-- the hypotheses of `authorize_result_independent_of_history` are met after a failed
authentication and after `ResetAuth`, by the newest and by stale values -/
example : value ((endProg (exOptEnv true) [⟨.authorize, 0⟩, ⟨.authorize, 0⟩] ⟨[], 0⟩ [[]]).2.getD 2 []) kPrinc = .nil ∧
    value ((endProg (exOptEnv false) [⟨.authorize, 0⟩, ⟨.resetAuth, 0⟩] ⟨[], 0⟩ [[]]).2.getD 2 []) kPrinc = .nil ∧
    value ((endProg (exOptEnv false) [⟨.authorize, 0⟩, ⟨.resetAuth, 0⟩] ⟨[], 0⟩ [[]]).2.getD 0 []) kPrinc = .nil ∧
    authenticated (stepCore (exOptEnv false) ⟨[], 0⟩ [] .authorize).res2 = true := by decide

/-- **A failed authentication leaves no trace**: wrong credentials on a route where authentication
is optional fail — and fail again, although `route.Authenticator` is no longer nil (last column;
`NeedsAuth()` has become false: with the loop variable shared it shows the alternative looked at
last, the anonymous one); with the right credentials, `Authorize`–`ResetAuth`–`Authorize` yields
the principal both times, with its scopes. -/
theorem witness_failed_authentication_leaves_no_trace :
    (runThread (exOptEnv true) [.authorize, .authorize] ⟨[], 0⟩ []).map (fun o => (o.res2, o.view.authn)) =
      [(.authErr 401, some []), (.authErr 401, some [])] ∧
    (runThread (exOptEnv false) [.authorize, .resetAuth, .authorize] ⟨[], 0⟩ []).map (fun o => (o.res2, o.view.scopes)) =
      [(.princ [117], [[114]]), (.na, []), (.princ [117], [[114]])] := by decide

/-- **The strengthened Spec is not vacuous**: a trace that differs from the model's only in the
second `Authorize` succeeding anonymously after the failed one (no promise is broken: a failure
promises nothing), and one in which `Authorize` after `ResetAuth` comes back anonymous instead of
with the principal, are both rejected; so is a second binding on a stale value that replays the
first outcome after the body was consumed. -/
theorem witness_spec_rejects_history_dependence :
    (let t := runProg (exOptEnv true) [⟨.authorize, 0⟩, ⟨.authorize, 0⟩] ⟨[], 0⟩ [[]]
     specOk (exOptEnv true) 0 [⟨.authorize, 0⟩, ⟨.authorize, 0⟩] t = true ∧
     specOk (exOptEnv true) 0 [⟨.authorize, 0⟩, ⟨.authorize, 0⟩]
       (t.take 1 ++ (t.drop 1).map fun o => { o with res2 := .anon, ret2 := .same }) = false) ∧
    (let t := runProg (exOptEnv false) [⟨.authorize, 0⟩, ⟨.resetAuth, 0⟩, ⟨.authorize, 0⟩] ⟨[], 0⟩ [[]]
     specOk (exOptEnv false) 0 [⟨.authorize, 0⟩, ⟨.resetAuth, 0⟩, ⟨.authorize, 0⟩] t = true ∧
     specOk (exOptEnv false) 0 [⟨.authorize, 0⟩, ⟨.resetAuth, 0⟩, ⟨.authorize, 0⟩]
       (t.take 2 ++ (t.drop 2).map fun o => { o with res2 := .anon, ret2 := .same }) = false) ∧
    (let t := runProg (exEnv true) [⟨.bindAndValidate, 0⟩, ⟨.bindAndValidate, 1⟩] ⟨[], 3⟩ [[]]
     specOk (exEnv true) 3 [⟨.bindAndValidate, 0⟩, ⟨.bindAndValidate, 1⟩] t = true ∧
     specOk (exEnv true) 3 [⟨.bindAndValidate, 0⟩, ⟨.bindAndValidate, 1⟩]
       (t.take 1 ++ (t.drop 1).map fun o => { o with res2 := .bound [] [98] }) = false) := by decide

/-- steps of different requests commute: they touch disjoint state -/
theorem steps_commute {ρ : Type} (envOf : ρ → Env) (reqs : Nat → ρ) (ls : Nat → Local) (i j : Nat) (h : i ≠ j) :
    gstep envOf reqs (gstep envOf reqs ls i) j = gstep envOf reqs (gstep envOf reqs ls j) i := by
  funext k
  unfold gstep upd
  by_cases hj : k = j <;> by_cases hi : k = i <;> simp_all [Ne.symm h]

/-- **T2 (non-interference).** N requests (indexed by ℕ) against one server, ANY schedule of their
steps: the local state of request `i` afterwards — shared objects handed to it, body position,
request value held, trace of results and effects — is what it is when request `i` runs alone for
as many steps as the schedule gave it. No other request's data enters into it. -/
theorem noninterference {ρ : Type} (envOf : ρ → Env) (reqs : Nat → ρ) : ∀ (sched : List Nat) (ls : Nat → Local) (i : Nat),
    runSched envOf reqs sched ls i = iter (lstep (envOf (reqs i))) (sched.count i) (ls i) := by
  intro sched
  induction sched with
  | nil => intro ls i; rfl
  | cons j rest ih =>
    intro ls i
    simp only [runSched]
    rw [ih]
    by_cases h : j = i
    · subst h
      simp [gstep, upd, List.count_cons_self, iter]
    · have : (j :: rest).count i = rest.count i := by simp [h]
      rw [this]
      simp [gstep, upd, Ne.symm h]

/-- **Each request gets its own results.** Once the schedule has given request `i` enough steps for
its program, its trace — every result, every effect — is exactly the trace of running it alone
against the same configuration: `runThread` on ITS environment, ITS body, ITS program. -/
theorem concurrent_trace_eq_sequential {ρ : Type} (envOf : ρ → Env) (reqs : Nat → ρ) (bodyLen : Nat → Nat)
    (progs : Nat → List Op) (sched : List Nat) (i : Nat) (hdone : (progs i).length ≤ sched.count i) :
    (runSched envOf reqs sched (fun j => Local.fresh (bodyLen j) (progs j)) i).trace =
      runThread (envOf (reqs i)) (progs i) ⟨[], bodyLen i⟩ [] := by
  rw [noninterference]
  simp only [Local.fresh]
  rw [iter_lstep_run _ _ _ _ _ _ hdone]
  simp

example : ((fun _ => serveProg [[106]]) 1).length ≤ ([0, 1, 1, 0, 1, 0, 1, 1, 0, 0] : List Nat).count 1 := by decide

/-- …hence under any interleaving every request's trace satisfies the Spec of ITS OWN program, judged
against ITS OWN stage functions: no other request's data enters into any result. -/
theorem concurrent_requests_meet_spec {ρ : Type} (envOf : ρ → Env) (reqs : Nat → ρ) (bodyLen : Nat → Nat)
    (progs : Nat → List Op) (sched : List Nat) (i : Nat) (hdone : (progs i).length ≤ sched.count i) :
    specOk (envOf (reqs i)) (bodyLen i) ((progs i).map (⟨·, 0⟩))
      (runSched envOf reqs sched (fun j => Local.fresh (bodyLen j) (progs j)) i).trace = true := by
  rw [concurrent_trace_eq_sequential envOf reqs bodyLen progs sched i hdone]
  have := model_meets_spec (envOf (reqs i)) (bodyLen i) ((progs i).map (⟨·, 0⟩))
  rwa [show ([[]] : List Ctx) = [] ++ [[]] from rfl, runProg_threaded] at this

/-- "… are those derived from that request alone …" (within one request) and "Within one request,
once a stage has produced a result it is reused …" — every program -/
def MemoPart : Prop :=
  ∀ (env : Env) (bodyLen : Nat) (prog : List Instr), specOk env bodyLen prog (runProg env prog ⟨[], bodyLen⟩ [[]]) = true

/-- "Under any interleaving … each request's [results] are those derived from that request alone"
— on the step model in which a step of request `i` reads the immutable configuration and the
local state of `i` only -/
def InterleavingPart : Prop :=
  ∀ (ρ : Type) (envOf : ρ → Env) (reqs : Nat → ρ) (bodyLen : Nat → Nat) (progs : Nat → List Op)
    (sched : List Nat) (i : Nat), (progs i).length ≤ sched.count i →
    (runSched envOf reqs sched (fun j => Local.fresh (bodyLen j) (progs j)) i).trace =
      runThread (envOf (reqs i)) (progs i) ⟨[], bodyLen i⟩ []

/-- The property in full. `StepModelFaithful` stands for: "the compiled handler chain really
consists of steps that read only immutable shared configuration and the request's own objects"
(what `per_request_writes_are_private` checks structurally on the source, and the correlation-token
stream observes); `DataRaceFree` for: "in every execution of N goroutines serving requests through
one handler, at any GOMAXPROCS, no two conflicting memory accesses are unordered by happens-before".
Both are facts about the compiled program and the Go memory model; nothing in Lean proves them, so
they are parameters here. -/
def FullStatement (StepModelFaithful DataRaceFree : Prop) : Prop :=
  MemoPart ∧ InterleavingPart ∧ StepModelFaithful ∧ DataRaceFree

/-- What is proved of `FullStatement`: the memoisation part for all programs and the interleaving
part on the step model. Missing: data-race freedom and the faithfulness of the step model to the
memory behaviour of the Go code — supported, not proved, by the `-race` build of the harness
(stream R: 2–64 goroutines of mixed requests with correlation tokens against one handler). -/
theorem full_statement_partial : MemoPart ∧ InterleavingPart :=
  ⟨model_meets_spec, fun _ envOf reqs bodyLen progs sched i h =>
    concurrent_trace_eq_sequential envOf reqs bodyLen progs sched i h⟩

end RtVerif.C09
