import RtVerif.Lemmas.C12Props
/-
  C12 — Client calls always terminate, release what they hold, and surface faults.
  Property theorems only (helpers live in Lemmas/C12*.lean).

  Part D: `drainingReadCloser` over ANY scripted body and ANY sequence of Read sizes followed by Close.
  Deadline: the decision logic of `Submit` is "the shorter of the request timeout and the caller's
  context".
  Part F: invariants over ALL executions (all interleavings of main thread, writer goroutine and
  context; all fault plans) of the call LTS.

  PARTIAL (see `FullStatement` at the end): wall-clock time and the Go scheduler are runtime facts;
  net/http's behaviour (closes the request body on every path, `Do` returns when the context ends,
  answers only after the request body was consumed) is an explicit assumption of the LTS.
-/
namespace RtVerif.C12
open RtVerif

/-! ## Part D — drainingReadCloser -/

/-- D1: whatever was read, with whatever buffer sizes, Close closes the underlying body exactly once. -/
theorem drc_closed_exactly_once (u : Under) (ks : List Nat) (h : u.Fresh) : (runD u ks).2.closes = 1 :=
  (runD_close u ks h).1

/-- D2: for ANY sequence of Read sizes followed by Close, the underlying body has been read to its
end (its terminal was returned and no byte is left) before it is closed — in particular when no Read
reported the end (then it is the drain in Close that reads it). -/
theorem drc_read_to_end_before_close (u : Under) (ks : List Nat) (h : u.Fresh) :
    (runD u ks).2.endAtClose = true ∧ (runD u ks).2.rest = [] :=
  (runD_close u ks h).2

/-- D3: the model meets the Spec of part D for every script and every read sequence. -/
theorem drc_meets_spec (u : Under) (ks : List Nat) (h : u.Fresh) :
    specD (runD u ks).1 (runD u ks).2.closes (runD u ks).2.endAtClose = true := by
  have := runD_close u ks h
  simp [specD, this.1, this.2.1]

example : Under.Fresh { rest := [1, 2, 3], term := .eof, sched := [.zero, .take 2] } := by decide

/-- D4: the wrapper is transparent: callers get exactly what the underlying body yields for the same
buffer sizes, and what they got followed by what is left is the body's data. -/
theorem drc_transparent (u : Under) (ks : List Nat) :
    (runD u ks).1 = (Under.reads u ks).2 ∧
    (runD u ks).1.flatMap (·.out) ++ (Under.reads u ks).1.rest = u.rest := by
  have := dreads_transparent Facts.c12MarkOnZero ks { u := u }
  simp only [runD, runDP]
  exact ⟨this.1, by rw [this.1]; exact reads_conserve ks u⟩

/-- D5 (F12b, repaired): a zero-length Read does not suppress the drain. -/
theorem zero_length_read_still_drains :
    (runD { rest := [1, 2, 3], term := .eof, sched := [] } [0]).2.endAtClose = true := by decide

/-- D6 (F12b was real): with the condition the code had before the fix (`err == io.EOF || n == 0`)
the same script violates the Spec — the body is closed with 3 bytes unread although no Read reported
its end. -/
theorem f12b_real_before_fix :
    ∃ u ks, u.Fresh ∧ specD (runDP true u ks).1 (runDP true u ks).2.closes (runDP true u ks).2.endAtClose = false :=
  ⟨{ rest := [1, 2, 3], term := .eof, sched := [] }, [0], by decide, by decide⟩

/-! ## The effective deadline -/

/-- T1: Submit's context logic computes "the shorter of the request timeout and the caller's
context" (zero timeout = no timeout, no deadline = +∞). -/
theorem effDeadline_is_spec (timeout : Int) (parent : Option Int) (now : Int) :
    effDeadline timeout parent now = specDeadline timeout parent now := by
  unfold effDeadline specDeadline
  rw [fact_timeout_zero]
  by_cases h : timeout = 0
  · simp [h]
  · cases parent with
    | none => simp [h]
    | some d =>
      simp only [Bool.true_and, beq_iff_eq, h, if_false]
      rw [Int.min_def]

/-- T2: the effective deadline is never later than either bound, and is one of them. -/
theorem effDeadline_bounds (timeout : Int) (parent : Option Int) (now e : Int)
    (h : effDeadline timeout parent now = some e) :
    (timeout ≠ 0 → e ≤ now + timeout) ∧ (∀ d, parent = some d → e ≤ d) ∧
    ((timeout ≠ 0 ∧ e = now + timeout) ∨ parent = some e) := by
  unfold effDeadline at h
  rw [fact_timeout_zero] at h
  by_cases ht : timeout = 0
  · simp [ht] at h; simp [ht, h]
  · cases parent with
    | none => simp [ht] at h; simp [ht, h]
    | some d =>
      simp [ht] at h
      subst h
      refine ⟨fun _ => Int.min_le_right _ _, fun d' hd' => by cases hd'; exact Int.min_le_left _ _, ?_⟩
      by_cases hd : d ≤ now + timeout
      · right; simp [Int.min_def, hd]
      · left; exact ⟨ht, by simp [Int.min_def, hd]⟩

example : effDeadline 30000 (some 25) 0 = some 25 := by decide
example : effDeadline 40 (some 3600000) 0 = some 40 := by decide

/-- T3: no deadline exactly when the timeout is zero and the caller's context has none. -/
theorem effDeadline_none_iff (timeout : Int) (parent : Option Int) (now : Int) :
    effDeadline timeout parent now = none ↔ timeout = 0 ∧ parent = none := by
  unfold effDeadline
  rw [fact_timeout_zero]
  by_cases ht : timeout = 0
  · simp [ht]
  · cases parent <;> simp [ht]

/-- T4: the caller's context is the operation's, else the runtime's, else Background. -/
theorem parentCtx_precedence (op rt : Ctx) :
    (op ≠ .nil → parentCtx op rt = op) ∧ (op = .nil → rt ≠ .nil → parentCtx op rt = rt) ∧
    (op = .nil → rt = .nil → (parentCtx op rt).dl = none) := by
  cases op <;> cases rt <;> simp [parentCtx, Ctx.dl]

/-- T5: by default every call has a deadline (`DefaultTimeout` is not zero). -/
theorem default_timeout_bounds_every_call (parent : Option Int) (now : Int) :
    (effDeadline (1000 * Facts.c12DefaultTimeoutSec) parent now).isSome = true := by
  have : ((1000 : Int) * Facts.c12DefaultTimeoutSec) ≠ 0 := by decide
  cases h : effDeadline (1000 * Facts.c12DefaultTimeoutSec) parent now with
  | some _ => rfl
  | none => exact absurd ((effDeadline_none_iff _ _ _).mp h).1 this

/-! ## Part F — every execution of the call LTS -/

/-- F1 (termination): every step of every thread lowers a natural-number measure — no execution of
a call is infinite; its length is bounded by `measure p (init p)`. -/
theorem every_step_lowers_the_measure (p : Plan) (hwf : p.WF) (s s' : St) (hr : Reach p s) (hs : s' ∈ succs p s) :
    measure p s' < measure p s :=
  measure_decreases (inv_reach hwf hr) hs

theorem executions_are_bounded (p : Plan) (hwf : p.WF) (l : List St) (h : Exec p (init p) l) :
    l.length ≤ measure p (init p) := by
  suffices ∀ s l, Reach p s → Exec p s l → l.length ≤ measure p s from this _ _ Reach.init h
  intro s l hr he
  induction he with
  | nil s => simp
  | cons hs _ ih =>
    have := measure_decreases (inv_reach hwf hr) hs
    have := ih (Reach.step hr hs)
    simp only [List.length_cons]; omega

/-- F2 (no deadlock, no leak): in EVERY execution, under EVERY fault plan, a state in which no thread
can move is a returned call whose writer goroutine is gone, with every file handed over closed
(exactly once), the stream payload closed, the response body closed (after being read to its end
when reuse is on), the cancel function called — or a call blocked on a silent peer under a context
that never ends (infinite effective deadline). -/
theorem quiescent_calls_have_released_everything (p : Plan) (hwf : p.WF) (s : St) (hr : Reach p s)
    (hq : succs p s = []) : Released p s ∨ Stalled p s := by
  rcases quiescent_final (inv_reach hwf hr) hq with ⟨hph, hg⟩ | hs
  · exact Or.inl (released_of_final hwf hr hph hg)
  · exact Or.inr hs

/-- F3: when the context can end (deadline or cancellation), no execution gets stuck: every maximal
execution ends in a returned call that released everything. -/
theorem bounded_context_always_returns (p : Plan) (hwf : p.WF) (hc : p.ctxEnds = true) (s : St) (hr : Reach p s)
    (hq : succs p s = []) : Released p s := by
  rcases quiescent_calls_have_released_everything p hwf s hr hq with h | h
  · exact h
  · rw [h.1] at hc; exact absurd hc (by decide)

/-- the placement of finding F12a: one upload file, authentication fails -/
def f12aPlan : Plan := { files := [{ reads := 2, fails := false }], mpMT := true, auth := .fail }

example : f12aPlan.WF ∧ f12aPlan.ctxEnds = true := by decide
/-- … on the repaired code its maximal execution returns the auth error, the goroutine is gone and
the file was closed once (before the fix: goroutine blocked forever, file never closed) -/
example : (predictSt f12aPlan).ph = .returned ∧ (predictSt f12aPlan).res = some .auth ∧
    (predictSt f12aPlan).g = .done ∧ (predictSt f12aPlan).fileCloses = 1 := by decide

/-- F4 (at return, before the goroutine settled): the moment `Submit` has returned, the pipe reader
is not open (so the writer goroutine cannot block on it: `goroutine_never_blocks_after_return`),
the stream payload and the response body are closed, the body was read to its end when reuse is on,
and the context is released. -/
theorem at_return (p : Plan) (hwf : p.WF) (s : St) (hr : Reach p s) (hph : s.ph = .returned) :
    s.pr ≠ .open ∧ (p.streamSrc.isSome = true → s.streamCloses = 1) ∧
    (s.haveResp = true → s.bodyCloses = 1 ∧ (p.reuse = true → s.endAtClose = true)) ∧
    (s.entered = true → s.released = true) ∧ s.res ≠ none := by
  have hI := inv_reach hwf hr
  obtain ⟨h1, h2, h3, h4⟩ := hI.at_return hph
  exact ⟨h1, h2, h3, h4, fun h => hI.resNone.mp h hph⟩

/-- F5: after the return a live writer goroutine always has a step of its own (it is never blocked
on the pipe), and it closes the files on its way out (F2). -/
theorem goroutine_never_blocks_after_return (p : Plan) (hwf : p.WF) (s : St) (hr : Reach p s)
    (hph : s.ph = .returned) (hg : s.g.alive = true) : gSteps s ≠ [] :=
  alive_has_gstep (inv_reach hwf hr) hph hg

/-- non-vacuity of F5: right after the failed authentication `Submit` has returned while the writer
goroutine is still alive (it leaves through the closed pipe) -/
example : ∃ s, Reach f12aPlan s ∧ s.ph = .returned ∧ s.g.alive = true := by
  let s0 := init f12aPlan
  let s1 := (succs f12aPlan s0).headD s0
  let s2 := (succs f12aPlan s1).headD s1
  let s3 := (succs f12aPlan s2).headD s2
  have r1 : Reach f12aPlan s1 := Reach.step Reach.init (by decide)
  have r2 : Reach f12aPlan s2 := Reach.step r1 (by decide)
  have r3 : Reach f12aPlan s3 := Reach.step r2 (by decide)
  exact ⟨s3, r3, by decide, by decide⟩

/-- F6: `ok` only if the complete response was obtained: response headers arrived, the reader
reported no error, a reader that reads to the end saw the end of the body, no upload source
failed, the writer goroutine is gone, and every earlier stage succeeded. -/
theorem ok_only_if_complete (p : Plan) (hwf : p.WF) (s : St) (hr : Reach p s) (hok : s.res = some .none) :
    s.haveResp = true ∧ p.readerErr = false ∧ (p.readN = none → p.rterm = .eof ∧ s.bodyLeft = 0) ∧
    s.srcFailed = false ∧ s.g.alive = false ∧ rankFacts p 8 := by
  have hI := inv_reach hwf hr
  obtain ⟨-, -, -, -, -, hrk⟩ := inv2_reach hwf hr
  obtain ⟨hh, hc1, hc2⟩ := hI.okRes hok
  have hph := hI.returned_of_res hok
  refine ⟨hh, hc1, hc2, ?_, ?_, ?_⟩
  · cases hsf : s.srcFailed with
    | false => rfl
    | true => have := (hI.srcF hsf).1; simp [hh] at this
  · cases hg : s.g.alive with
    | false => rfl
    | true => have := (hI.aliveNotPast hg).2.1; simp [hh] at this
  · simp [hph] at hrk; exact hrk hh

/-- non-vacuity of F6: a plain upload of two files with reuse on ends `ok` -/
example : (predictSt { files := [{ reads := 2, fails := false }, { reads := 0, fails := false }], form := 1, resp := .headers 2 .eof, reuse := true }).res
    = some .none := by decide

/-- F7: a failing upload source — a file of the multipart form or a stream payload — is NEVER
reported as a successful request, in no execution. -/
theorem failing_source_never_ok (p : Plan) (hwf : p.WF)
    (hf : p.files.any (·.fails) = true ∨ p.streamFails = true) (s : St) (hr : Reach p s) :
    s.res ≠ some .none := by
  intro hok
  have hI := inv_reach hwf hr
  obtain ⟨-, -, hdn, hpw, hsf, -⟩ := inv2_reach hwf hr
  obtain ⟨hh, -, -, -, hg, -⟩ := ok_only_if_complete p hwf s hr hok
  have hpast : past s = true := by simp [past, hh]
  rcases hf with hf | hf
  · have hne : p.files ≠ [] := by intro h; simp [h] at hf
    have hsw := startsWriter_of_files hne
    have hscript : hasFail p.script = true := by rw [hasFail_script, hf]
    cases hgs : s.g with
    | idle =>
      rcases hI.idleW hgs hsw with h | h
      · simp [pre, hI.returned_of_res hok] at h
      · simp [hok] at h
    | done =>
      have := hdn hgs (hpw hpast hgs)
      simp [hscript] at this
    | trailer => simp [G.alive, hgs] at hg
    | run t => simp [G.alive, hgs] at hg
  · have := hsf hpast; simp [hf] at this

example : ({ files := [{ reads := 2, fails := false }, { reads := 1, fails := true }], mpMT := true } : Plan).files.any (·.fails) = true := by decide

/-- F7a: with the sniffing buffer filled by `io.ReadFull` (window `w`), a source that fails within the
window fails BEFORE the part header is written: the writer's script for that file is the failing
read alone. -/
theorem readfull_failure_precedes_the_part_header (w : Nat) (s : Src) (hf : s.fails = true) (hs : s.soft = false)
    (hr : s.reads < w) :
    fileScriptW true w s = [.fail] := by
  simp [fileScriptW, hf, hs, hr]

/-- F7a': a source whose own error is `io.ErrUnexpectedEOF` passes the sniff as a short file; the
failure is met again by the copy, AFTER the part header and the sniffed prefix: it is the last action of
the file's script, never dropped. -/
theorem soft_failure_surfaces_after_the_prefix (w : Nat) (s : Src) (hf : s.fails = true) (hs : s.soft = true)
    (hr : s.reads < w) :
    fileScriptW true w s = .w :: ((if s.reads == 0 then [] else [.w]) ++ [.fail]) := by
  simp [fileScriptW, hf, hs, hr]

example : fileScript { reads := 3, fails := true, soft := true } = [.w, .w, .fail] ∧
    fileScript { reads := 0, fails := true, soft := true } = [.w, .fail] := by decide

example : fileScript { reads := 3, fails := true } = [.fail] ∧ fileScript { reads := 3, fails := false } = [.w, .w] ∧ fileScript { reads := 0, fails := false } = [.w] := by decide

/-- F7b: whichever way the sniffing buffer is filled, the script of a failing file ends with its
failing read, and the script of a healthy file has none: the writer never drops a failure and never
invents one. -/
theorem file_script_keeps_the_failure (full : Bool) (w : Nat) (s : Src) :
    (s.fails = true → (fileScriptW full w s).getLast? = some .fail) ∧
    (s.fails = false → hasFail (fileScriptW full w s) = false) := by
  constructor
  · intro hf
    simp only [fileScriptW, hf]
    (repeat' split) <;> simp_all [List.getLast?_append, List.getLast?_cons_cons, getLast?_cons_snoc]
  · intro hf
    rw [hasFail_fileScriptW, hf]

/-- F8: faults that certainly strike are never swallowed: no execution returns `ok` under a plan
with a writer / producer / authentication / URL error, a failing source, a transport error before
the body, a peer that never answers, a reader error, or a body that does not end with EOF while
the reader reads to the end. -/
theorem certain_fault_never_ok (p : Plan) (hwf : p.WF) (hf : p.certainFault = true) (s : St) (hr : Reach p s) :
    s.res ≠ some .none := by
  intro hok
  obtain ⟨hh, hre, hrn, -, -, hrk⟩ := ok_only_if_complete p hwf s hr hok
  obtain ⟨r1, r2, r4, r5, r6, r8⟩ := hrk
  have r1 := r1 (by omega); have r2 := r2 (by omega); have r4 := r4 (by omega)
  have r5 := r5 (by omega); have r6 := r6 (by omega); have r8 := r8 (by omega)
  have hfs : p.files.any (·.fails) = false ∧ p.streamFails = false := by
    constructor
    · cases h : p.files.any (·.fails) with
      | false => rfl
      | true => exact absurd hok (failing_source_never_ok p hwf (Or.inl h) s hr)
    · cases h : p.streamFails with
      | false => rfl
      | true => exact absurd hok (failing_source_never_ok p hwf (Or.inr h) s hr)
  simp only [Plan.certainFault, Bool.or_eq_true, beq_iff_eq, bne_iff_ne, Bool.and_eq_true] at hf
  have hsf : (p.streamSrc.map (·.fails)).getD false = false := hfs.2
  rcases hf with ((((((((((h | h) | h) | h) | h) | h) | h) | h) | h) | h) | h)
  · simp [r1] at h
  · exact r4.1 h
  · exact r4.2 h
  · simp [r5] at h
  · exact r2 h
  · simp [hfs.1] at h
  · simp [hsf] at h
  · exact r6 h
  · exact r8 h
  · simp [hre] at h
  · exact h.2 (hrn h.1).1

theorem ok_without_certain_fault (p : Plan) (hwf : p.WF) (s : St) (hr : Reach p s) (hok : s.res = some .none) :
    p.certainFault = false := by
  cases h : p.certainFault with
  | false => rfl
  | true => exact absurd hok (certain_fault_never_ok p hwf h s hr)

/-! ## Model meets Spec on the executions the harness provokes -/

/-- `predict p` (what the driver compares the real run with) is the observation of a maximal
execution of the LTS. -/
theorem predict_is_a_maximal_execution (p : Plan) (hwf : p.WF) :
    Reach p (predictSt p) ∧ succs p (predictSt p) = [] :=
  predict_maximal hwf

/-- The model satisfies the Spec of a call, for EVERY well-formed plan whose context can end. -/
theorem predict_meets_spec (p : Plan) (hwf : p.WF) (hc : p.ctxEnds = true) : specF p (predict p) = true := by
  obtain ⟨hr, hq⟩ := predict_maximal hwf
  have hR := bounded_context_always_returns p hwf hc _ hr hq
  have hok := ok_without_certain_fault p hwf _ hr
  unfold specF
  simp only [Bool.and_eq_true]
  refine ⟨⟨⟨⟨⟨⟨?_, ?_⟩, ?_⟩, ?_⟩, ?_⟩, ?_⟩, ?_⟩
  · simp [predict, obsOf]
  · simp only [predict, obsOf, Bool.or_eq_true, beq_iff_eq]
    by_cases he : (predictSt p).entered = true
    · right
      simp only [he, if_true, deadlineKind, specDeadlineKind, Plan.eff, effDeadline_is_spec]
    · left; simp [he]
  · simp only [predict, obsOf, decide_eq_true_eq, beq_iff_eq]
    intro h; simp [hok h]
  · simp only [predict, obsOf, List.all_eq_true, List.mem_map, decide_eq_true_eq]
    rintro c ⟨src, hm, rfl⟩
    have : p.files ≠ [] := by intro h; simp [h] at hm
    rw [hR.files_closed this]; decide
  · simp only [predict, obsOf]
    cases hs : p.streamSrc.isSome with
    | false => simp
    | true => simp [hR.stream_closed hs]
  · simp [predict, obsOf, hR.no_goroutine]
  · simp only [predict, obsOf]
    by_cases hh : (predictSt p).haveResp = true
    · simp only [hh, if_true, Bool.and_eq_true, decide_eq_true_eq]
      refine ⟨by rw [hR.body_closed hh]; decide, ?_⟩
      intro hre; simp [hR.body_drained hh hre]
    · simp [hh]

/-! ## The full statement, and the part of it that is proved -/

/-- everything the LTS says, for all plans and all executions -/
def LogicPart : Prop :=
  (∀ u ks, Under.Fresh u → specD (runD u ks).1 (runD u ks).2.closes (runD u ks).2.endAtClose = true) ∧
  (∀ t pa now, effDeadline t pa now = specDeadline t pa now) ∧
  (∀ p : Plan, p.WF → ∀ s, Reach p s →
    (∀ s', s' ∈ succs p s → measure p s' < measure p s) ∧
    (succs p s = [] → Released p s ∨ Stalled p s) ∧
    (s.res = some .none → p.certainFault = false))

/-- The property in full. `WallClock` stands for: "each transition of the LTS takes bounded real time
and the transition `Do returns when the context ends` happens no later than the deadline computed
by `effDeadline` (plus scheduling latency)"; `NetHTTPContract` for: "net/http closes the request
body on every path, `Client.Do` returns once the request's context is done, and delivers a response
only after the request body was consumed" — facts about the Go runtime, its scheduler and net/http
that no Lean model exhibits. They are parameters here precisely because nothing in Lean proves
them; the harness measures them (elapsed time against the observed deadline, goroutine stacks, close
counters, a real http.Transport against an httptest.Server): support, not proof. -/
def FullStatement (WallClock NetHTTPContract : Prop) : Prop := LogicPart ∧ WallClock ∧ NetHTTPContract

/-- What is proved of `FullStatement`: the logic part. Missing: the two runtime parameters. -/
theorem full_statement_partial : LogicPart :=
  ⟨drc_meets_spec, effDeadline_is_spec, fun p hwf s hr =>
    ⟨fun s' hs => every_step_lowers_the_measure p hwf s s' hr hs,
     quiescent_calls_have_released_everything p hwf s hr,
     ok_without_certain_fault p hwf s hr⟩⟩

end RtVerif.C12
