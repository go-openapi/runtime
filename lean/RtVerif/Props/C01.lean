import RtVerif.Model.C01
import RtVerif.Props.C05
import RtVerif.Lemmas.C01Bridge
import RtVerif.Lemmas.C01Composite
import RtVerif.Lemmas.C01Allow
import RtVerif.Lemmas.C01CompBridge
import RtVerif.Lemmas.C01SpecLink
/-
  C01 — property theorems for the dispatch model.

  `dispatch` composes `path.Clean`, the per-method trie tables (C05) and the 404/405 decision.
  The theorems lift C05's `lookup_spec` through that composition: first in terms of the trie key
  `convert (fullPath …)`, then, for simple templates and for templates with composite segments
  (`{a}-{b}`, `{id}.json`, `{name}.{ext}`), in terms of the template text and the Spec's own
  enumerators of its instantiations.
-/
namespace RtVerif.C01
open RtVerif Bytes

theorem mem_recordsFor {api : Api} {mn : Bytes} {kv : Bytes × Nat} (h : kv ∈ recordsFor api mn) :
    ∃ op, api.ops[kv.2]? = some op ∧ toUpper op.method = mn ∧ hasHandler api op = true ∧
      kv.1 = convert (fullPath api op) := by
  obtain ⟨⟨op, i⟩, hmem, hf⟩ := List.mem_filterMap.mp h
  simp only [Option.ite_none_right_eq_some, Bool.and_eq_true, beq_iff_eq, Option.some.injEq] at hf
  obtain ⟨⟨hm, hh⟩, rfl⟩ := hf
  exact ⟨op, List.mem_zipIdx_iff_getElem?.mp hmem, hm, hh, rfl⟩

theorem lookupUnder_eq_some {api : Api} {m cleaned : Bytes} {o : C05.LookupOut} :
    lookupUnder api m cleaned = some o ↔
      ∃ t, C05.build (recordsFor api m) = .ok t ∧ C05.lookup t cleaned = o := by
  unfold lookupUnder C05.route
  cases C05.build (recordsFor api m) <;> simp

theorem lookupUnder_spec {api : Api} {m cleaned : Bytes} {o : C05.LookupOut}
    (h : lookupUnder api m cleaned = some o) :
    C05.specLookup (recordsFor api m) cleaned o = true := by
  obtain ⟨t, hb, rfl⟩ := lookupUnder_eq_some.mp h
  exact C05.lookup_spec _ t cleaned hb

theorem found_record {api : Api} {m cleaned : Bytes} {v : Nat} {names vals : List Bytes}
    (h : lookupUnder api m cleaned = some (.found v names vals)) :
    ∃ op, api.ops[v]? = some op ∧ toUpper op.method = m ∧ hasHandler api op = true ∧
      C05.foundOk (recordsFor api m) cleaned names vals (convert (fullPath api op)) = true := by
  have hs := lookupUnder_spec h
  simp only [C05.specLookup, List.any_eq_true, Bool.and_eq_true, beq_iff_eq] at hs
  obtain ⟨kv, hkv, rfl, hfound⟩ := hs
  obtain ⟨op, hop, hm, hh, hkey⟩ := mem_recordsFor hkv
  exact ⟨op, hop, hm, hh, hkey ▸ hfound⟩

theorem ran_lookup {api : Api} {m p : Bytes} {i : Nat} {ps : List (Bytes × Bytes)}
    (h : dispatch api m p = .ran i ps) :
    ∃ op names vals, lookupUnder api (toUpper m) (GoPath.clean p) = some (.found i names vals) ∧
      api.ops[i]? = some op ∧ collectParams (fullPath api op) names vals = some ps := by
  unfold dispatch at h
  simp only at h
  split at h
  · rename_i v names vals hhit
    -- the hit is a match under the request's method
    have hl : lookupUnder api (toUpper m) (GoPath.clean p) = some (.found v names vals) := by
      split at hhit
      · split at hhit
        · cases hhit; assumption
        · cases hhit
      · cases hhit
    split at h
    · split at h
      · cases h; exact ⟨_, _, _, hl, ‹_›, ‹_›⟩
      · cases h
    · cases h
  · split at h <;> cases h

/-- **Soundness of dispatch.**  The operation that runs is registered under the request's upper-cased
method, has a handler, and the cleaned escaped path instantiates its converted key (soundness,
naming, literal-over-parameter preference: the whole C05 spec). -/
theorem ran_sound (api : Api) (m p : Bytes) (i : Nat) (ps : List (Bytes × Bytes))
    (h : dispatch api m p = .ran i ps) :
    ∃ op names vals, api.ops[i]? = some op ∧ toUpper op.method = toUpper m ∧ hasHandler api op = true ∧
      collectParams (fullPath api op) names vals = some ps ∧
      C05.specLookup (recordsFor api (toUpper m)) (GoPath.clean p) (.found i names vals) = true := by
  obtain ⟨op, names, vals, hl, hop, hps⟩ := ran_lookup h
  obtain ⟨op', hop', hm, hh, _⟩ := found_record hl
  obtain rfl : op = op' := Option.some.inj (hop.symm.trans hop')
  exact ⟨op, names, vals, hop, hm, hh, hps, lookupUnder_spec hl⟩

theorem mem_sortBytes {x : Bytes} {l : List Bytes} : x ∈ sortBytes l ↔ x ∈ l := by
  have hins : ∀ (a : Bytes) (l : List Bytes), x ∈ sortBytes.ins a l ↔ x = a ∨ x ∈ l := by
    intro a l
    induction l with
    | nil => simp [sortBytes.ins]
    | cons b bs ihb =>
      simp only [sortBytes.ins]
      split
      · simp
      · simp only [List.mem_cons, ihb, or_left_comm]
  induction l with
  | nil => simp [sortBytes]
  | cons y ys ih => exact (hins y (sortBytes ys)).trans ((or_congr_right ih).trans List.mem_cons.symm)

/-- does some key filed under `m` match the cleaned path? -/
def matchesUnder (api : Api) (m cleaned : Bytes) : Bool :=
  match lookupUnder api m cleaned with | some (.found _ _ _) => true | _ => false

theorem matchesUnder_found {api : Api} {m cleaned : Bytes} (h : matchesUnder api m cleaned = true) :
    ∃ v names vals, lookupUnder api m cleaned = some (.found v names vals) := by
  unfold matchesUnder at h
  split at h
  · exact ⟨_, _, _, ‹_›⟩
  · cases h

/-- no match under a method whose table was accepted: C05's completeness applies -/
theorem miss_spec {api : Api} {m cleaned : Bytes} {t : C05.Table} (hb : C05.build (recordsFor api m) = .ok t)
    (h : matchesUnder api m cleaned = false) : C05.specLookup (recordsFor api m) cleaned .notFound = true := by
  cases hl : C05.lookup t cleaned with
  | found v ns vs => simp [matchesUnder, lookupUnder_eq_some.mpr ⟨t, hb, hl⟩] at h
  | notFound => exact hl ▸ C05.lookup_spec _ t cleaned hb

/-- **The 404/405 decision**: when no operation runs under the request's method, the answer is 405
with exactly the other methods whose table matches the cleaned path (as a sorted set), or 404 when
there is none. -/
theorem allow_exact (api : Api) (m p : Bytes) :
    (∀ a, dispatch api m p = .notAllowed a →
        a ≠ [] ∧ ∀ x, x ∈ a ↔ (x ∈ methodsOf api ∧ x ≠ toUpper m ∧ matchesUnder api x (GoPath.clean p) = true)) ∧
    (dispatch api m p = .notFound →
        ∀ x ∈ methodsOf api, x ≠ toUpper m → matchesUnder api x (GoPath.clean p) = false) := by
  unfold dispatch
  simp only
  split
  · -- something was found: the outcome is `ran` or `panic`, neither 404 nor 405
    split
    · split <;> exact ⟨fun a h => Out.noConfusion h, fun h => Out.noConfusion h⟩
    · exact ⟨fun a h => Out.noConfusion h, fun h => Out.noConfusion h⟩
  · split
    · rename_i hempty
      refine ⟨fun a h => Out.noConfusion h, fun _ x hx hne => ?_⟩
      simp only [List.isEmpty_iff, List.filter_eq_nil_iff, Bool.and_eq_true, bne_iff_ne, ne_eq,
        not_and] at hempty
      exact Bool.eq_false_iff.mpr (hempty x hx hne)
    · rename_i hne
      refine ⟨?_, fun h => Out.noConfusion h⟩
      intro a h
      cases h
      refine ⟨fun hnil => hne ?_, fun x => ?_⟩
      · -- a sorted list is empty only if the list is
        refine List.isEmpty_iff.mpr (List.eq_nil_iff_forall_not_mem.mpr fun y hy => ?_)
        have := mem_sortBytes.mpr hy
        rw [hnil] at this; cases this
      · rw [mem_sortBytes, List.mem_filter]
        simp only [Bool.and_eq_true, bne_iff_ne, ne_eq]
        exact Iff.rfl

/-- **Completeness**: if no operation ran, no key filed under the request's method is instantiated
by the cleaned path with non-empty parameter texts (whenever that method's table was accepted). -/
theorem refused_unfit (api : Api) (m p : Bytes)
    (h : ∀ i ps, dispatch api m p ≠ .ran i ps) (hnp : dispatch api m p ≠ .panic)
    (hm : toUpper m ∈ methodsOf api) (t : C05.Table)
    (hb : C05.build (recordsFor api (toUpper m)) = .ok t) :
    C05.specLookup (recordsFor api (toUpper m)) (GoPath.clean p) .notFound = true := by
  refine miss_spec hb (Bool.eq_false_iff.mpr fun hx => ?_)
  obtain ⟨v, names, vals, hlu⟩ := matchesUnder_found hx
  have hc : (methodsOf api).contains (toUpper m) = true := by simpa using hm
  unfold dispatch at h hnp
  simp only [hc, ↓reduceIte, hlu] at h hnp
  cases hop : api.ops[v]? with
  | none => simp [hop] at hnp
  | some op =>
    cases hcp : collectParams (fullPath api op) names vals with
    | none => simp [hop, hcp] at hnp
    | some ps => exact h v ps (by simp [hop, hcp])

/-- the request's method is compared in upper case -/
theorem method_case_insensitive (api : Api) (m m' p : Bytes) (h : toUpper m = toUpper m') :
    dispatch api m p = dispatch api m' p := by
  unfold dispatch; rw [h]

/-- only the cleaned path matters: dot segments, duplicate and trailing slashes are normalised -/
theorem path_only_through_clean (api : Api) (m p p' : Bytes) (h : GoPath.clean p = GoPath.clean p') :
    dispatch api m p = dispatch api m p' := by
  unfold dispatch; rw [h]


/-- **What runs, what the trie captured, what the handler receives** — for a template `/s1/s2/…` of
static and parameterised segments whose key the trie router files as parameterised, or as static
text made of literal bytes only, and in whose text `collectParams` finds the first placeholder of
every parameterised segment with that segment's pattern. -/
theorem ran_params_X (api : Api) (m p : Bytes) (i : Nat) (ps : List (Bytes × Bytes))
    (hran : dispatch api m p = .ran i ps) (xs : List XS) (hw : WFX xs)
    (hlit : C05.isParamKey (keyX xs) = false → ∀ c ∈ keyX xs, litKind c)
    (hcp : ∀ vals, collectParams (renderX xs) (firstNames xs) vals = some (flatParams xs vals))
    (hfp : ∀ op, api.ops[i]? = some op → fullPath api op = renderX xs)
    (hroot : GoPath.isRooted p = true) :
    ∃ op vals, api.ops[i]? = some op ∧ toUpper op.method = toUpper m ∧
      matchX xs (pathSegs p) = some vals ∧ ps = flatParams xs vals := by
  obtain ⟨op, names, vals, hl, hop, hps⟩ := ran_lookup hran
  obtain ⟨op', hop', hm, _, hfound⟩ := found_record hl
  obtain rfl : op = op' := Option.some.inj (hop.symm.trans hop')
  obtain ⟨hclean, hsegs⟩ := clean_rooted_renderP p hroot
  rw [hfp op hop, convert_renderX xs hw, hclean] at hfound
  obtain ⟨hmk, rfl⟩ := foundOk_sound hlit hfound
  rw [hfp op hop, show keyX xs ++ [C05.cTerm] = tailKeyX xs from rfl, namesOf_tailKeyX xs hw, hcp] at hps
  exact ⟨op, vals, hop, hm, (matchKey_keyX xs hw _ hsegs).symm.trans hmk, (Option.some.inj hps).symm⟩

/-! ## The bridge to the property's own words

`ran_sound` speaks of the trie key `convert (fullPath …)`.  For *simple* templates — every segment
static text or one whole-segment `{name}` — that key is instantiated by a path exactly when the
template is instantiated segment by segment (`instantiates`, the Spec the driver applies), with the
same parameter texts. -/

/-- the template→key conversion of a simple template, segment by segment -/
theorem convert_simple (segs : List SSeg) (hw : WFT segs) : convert (renderT segs) = keyOf segs := by
  rw [renderT_eq, keyOf_eq]
  exact convert_renderX _ (wfx_toXS hw)

/-- **Bridge** (all simple templates, all rendered paths): trie matching = segment-wise instantiation. -/
theorem key_matches_iff_template_instantiated (segs : List SSeg) (hw : WFT segs) (hne : segs ≠ [])
    (ps : List Bytes) (hps : ∀ q ∈ ps, slash ∉ q) :
    C05.matchKey false (convert (renderT segs) ++ [C05.cTerm]) (renderP ps) =
      (instantiates (renderT segs) (renderP ps)).map (fun l => l.map (·.2)) :=
  by
  rw [convert_simple segs hw, instantiates_simple segs hw ps hps, keyOf_eq, ← matchX_toXS]
  exact matchKey_keyX _ (wfx_toXS hw) ps hps

/-- non-vacuity: `/pets/{id}` against `/pets/42` -/
example : WFT [.lit [112, 101, 116, 115], .ph [105, 100]] ∧
    renderT [.lit [112, 101, 116, 115], .ph [105, 100]] = [47, 112, 101, 116, 115, 47, 123, 105, 100, 125] ∧
    instantiates (renderT [.lit [112, 101, 116, 115], .ph [105, 100]]) (renderP [[112, 101, 116, 115], [52, 50]])
      = some [([105, 100], [52, 50])] := by
  refine ⟨?_, rfl, by decide⟩
  unfold WFT
  decide


/-- **C01 for simple templates, in the property's own words.**  If an operation runs, its method is
the request's (upper-cased), its path template — under the base path — is instantiated segment by
segment by the request's cleaned, still percent-encoded path, and the handler's path parameters are
exactly the percent-decoded texts that instantiate the placeholders, by name. -/
theorem simple_ran_params (api : Api) (m p : Bytes) (i : Nat) (ps : List (Bytes × Bytes))
    (hran : dispatch api m p = .ran i ps) (segs : List SSeg) (hw : WFT segs) (hne : segs ≠ [])
    (hfp : ∀ op, api.ops[i]? = some op → fullPath api op = renderT segs)
    (hroot : GoPath.isRooted p = true) :
    ∃ op raws, api.ops[i]? = some op ∧ toUpper op.method = toUpper m ∧
      instantiates (fullPath api op) (GoPath.clean p) = some raws ∧
      ps = raws.map (fun kv => (kv.1, decode kv.2)) := by
  obtain ⟨op, vals, hop, hm, hmx, rfl⟩ := ran_params_X api m p i ps hran _ (wfx_toXS hw)
    (by rw [← keyOf_eq]; exact keyOf_static_bytes segs hw)
    (fun vals => by rw [← renderT_eq]; exact collectParams_X _ _ (paramsOf_simple segs hw) vals)
    (fun op h => (hfp op h).trans (renderT_eq segs)) hroot
  obtain ⟨hclean, hsegs⟩ := clean_rooted_renderP p hroot
  refine ⟨op, rawParams (segs.map SSeg.toXS) vals, hop, hm, ?_, flatParams_eq _ _⟩
  rw [hfp op hop, hclean, instantiates_simple segs hw _ hsegs, matchSegs_toXS, hmx]
  rfl


/-- **405 with Allow = exactly the methods under which some template fits** — for a description all
of whose templates are simple (every segment static text or one whole-segment placeholder) and whose
per-method tables the trie router accepted.  `Allow` (as a set) lies between the methods under which
a template is instantiated with non-empty texts and those under which one is instantiated at all;
the two coincide unless the cleaned path is the root `/` (`allow_exact_templates_nonroot`).
No template under the request's own method fits (with non-empty texts), in the 405 and in the 404
case; in the 404 case none does under any method. -/
theorem allow_exact_templates (api : Api) (m p : Bytes)
    (hsimple : ∀ op ∈ api.ops, ∃ segs, WFT segs ∧ segs ≠ [] ∧ fullPath api op = renderT segs)
    (hbuilt : ∀ x ∈ methodsOf api, ∃ t, C05.build (recordsFor api x) = .ok t)
    (hroot : GoPath.isRooted p = true) :
    (∀ a, dispatch api m p = .notAllowed a →
      a ≠ [] ∧
      (∀ x ∈ a, x ∈ methodsOf api ∧ x ≠ toUpper m ∧
        ∃ op ∈ api.ops, toUpper op.method = x ∧
          (instantiates (fullPath api op) (GoPath.clean p)).isSome = true) ∧
      (∀ op ∈ api.ops, toUpper op.method ≠ toUpper m →
        fitsStrict (fullPath api op) (GoPath.clean p) = true → toUpper op.method ∈ a)) ∧
    (dispatch api m p = .notFound →
      ∀ op ∈ api.ops, toUpper op.method ≠ toUpper m → fitsStrict (fullPath api op) (GoPath.clean p) = false) ∧
    ((∀ i ps, dispatch api m p ≠ .ran i ps) → dispatch api m p ≠ .panic →
      ∀ op ∈ api.ops, toUpper op.method = toUpper m → fitsStrict (fullPath api op) (GoPath.clean p) = false) := by
  -- the key of every template reads it segment by segment, and is literal bytes only when static
  have hkey : ∀ op ∈ api.ops,
      (C05.isParamKey (convert (fullPath api op)) = false → ∀ c ∈ convert (fullPath api op), litKind c) ∧
      C05.matchKey false (convert (fullPath api op) ++ [C05.cTerm]) (GoPath.clean p) =
        (instantiates (fullPath api op) (GoPath.clean p)).map (fun l => l.map (·.2)) := by
    intro op hmem
    obtain ⟨segs, hw, hne, hfp⟩ := hsimple op hmem
    obtain ⟨hclean, hsegs⟩ := clean_rooted_renderP p hroot
    rw [hfp, hclean]
    exact ⟨convert_simple segs hw ▸ keyOf_static_bytes segs hw,
      key_matches_iff_template_instantiated segs hw hne _ hsegs⟩
  -- a match under a method: some template under it is instantiated
  have hloose : ∀ x, matchesUnder api x (GoPath.clean p) = true →
      ∃ op ∈ api.ops, toUpper op.method = x ∧ (instantiates (fullPath api op) (GoPath.clean p)).isSome = true := by
    intro x hx
    obtain ⟨v, names, vals, hl⟩ := matchesUnder_found hx
    obtain ⟨op, hop, hm', _, hfound⟩ := found_record hl
    have hmem : op ∈ api.ops := List.mem_of_getElem? hop
    exact ⟨op, hmem, hm', foundOk_loose (hkey op hmem).1 (hkey op hmem).2 hfound⟩
  -- a miss under a method: no template under it fits
  have hunfit : ∀ op ∈ api.ops,
      C05.specLookup (recordsFor api (toUpper op.method)) (GoPath.clean p) .notFound = true →
      fitsStrict (fullPath api op) (GoPath.clean p) = false := by
    intro op hmem hspec
    obtain ⟨i, hi⟩ := recordsFor_of_mem hmem
    exact notFound_unfit (hkey op hmem).1 (hkey op hmem).2 hi hspec
  have hstrict : ∀ op ∈ api.ops, matchesUnder api (toUpper op.method) (GoPath.clean p) = false →
      fitsStrict (fullPath api op) (GoPath.clean p) = false := by
    intro op hmem hx
    obtain ⟨t, hb⟩ := hbuilt _ (mem_methodsOf hmem)
    exact hunfit op hmem (miss_spec hb hx)
  obtain ⟨h405, h404⟩ := allow_exact api m p
  refine ⟨?_, ?_, ?_⟩
  · intro a ha
    obtain ⟨hne, hiff⟩ := h405 a ha
    refine ⟨hne, ?_, ?_⟩
    · intro x hx
      obtain ⟨h1, h2, h3⟩ := (hiff x).mp hx
      exact ⟨h1, h2, hloose x h3⟩
    · intro op hmem hne' hfit
      refine (hiff _).mpr ⟨mem_methodsOf hmem, hne', ?_⟩
      cases hmu : matchesUnder api (toUpper op.method) (GoPath.clean p) with
      | true => rfl
      | false => rw [hstrict op hmem hmu] at hfit; cases hfit
  · intro hnf op hmem hne'
    exact hstrict op hmem (h404 hnf _ (mem_methodsOf hmem) hne')
  · intro hnr hnp op hmem hme
    have hmeth : toUpper m ∈ methodsOf api := hme ▸ mem_methodsOf hmem
    obtain ⟨t, hb⟩ := hbuilt _ hmeth
    exact hunfit op hmem (hme ▸ refused_unfit api m p hnr hnp hmeth t hb)

/-- away from the root path "fits" needs no qualification: Allow is *exactly* the set of the other
methods under which some template is instantiated by the cleaned path -/
theorem allow_exact_templates_nonroot (api : Api) (m p : Bytes)
    (hsimple : ∀ op ∈ api.ops, ∃ segs, WFT segs ∧ segs ≠ [] ∧ fullPath api op = renderT segs)
    (hbuilt : ∀ x ∈ methodsOf api, ∃ t, C05.build (recordsFor api x) = .ok t)
    (hroot : GoPath.isRooted p = true) (hk : GoPath.kept p ≠ [])
    (a : List Bytes) (h : dispatch api m p = .notAllowed a) (x : Bytes) :
    x ∈ a ↔ (x ≠ toUpper m ∧ ∃ op ∈ api.ops, toUpper op.method = x ∧
      (instantiates (fullPath api op) (GoPath.clean p)).isSome = true) := by
  obtain ⟨h405, _, _⟩ := allow_exact_templates api m p hsimple hbuilt hroot
  obtain ⟨_, hl, hs⟩ := h405 a h
  constructor
  · intro hx
    obtain ⟨_, h2, h3⟩ := hl x hx
    exact ⟨h2, h3⟩
  · rintro ⟨hne, op, hmem, rfl, hfit⟩
    obtain ⟨segs, hw, hne', hfp⟩ := hsimple op hmem
    rw [hfp] at hfit
    exact hs op hmem hne (by rw [hfp]; exact loose_strict_of_nonroot segs hw p hroot hk hfit)

set_option maxRecDepth 20000 in
/-- non-vacuity: the description GET /pets/{id}, POST /pets meets the hypotheses -/
example :
    (∀ op ∈ exApi.ops, ∃ segs, WFT segs ∧ segs ≠ [] ∧ fullPath exApi op = renderT segs) ∧
    (∀ x ∈ methodsOf exApi, ∃ t, C05.build (recordsFor exApi x) = .ok t) := by
  have hw0 : WFT [.lit [112,101,116,115], .ph [105,100]] := by unfold WFT; decide
  have hw1 : WFT [.lit [112,101,116,115]] := by unfold WFT; decide
  -- every template is simple; its key has no reserved byte and names every parameter once
  have hsimple : ∀ op ∈ exApi.ops, ∃ segs, WFT segs ∧ segs ≠ [] ∧ fullPath exApi op = renderT segs ∧
      C05.isBadKey (keyOf segs) = false ∧ C05.hasDup (firstNames (segs.map SSeg.toXS)) = false := by
    intro op hop
    simp only [exApi, List.mem_cons, List.not_mem_nil, or_false] at hop
    rcases hop with rfl | rfl
    · exact ⟨_, hw0, by simp, by decide, by decide, by decide⟩
    · exact ⟨_, hw1, by simp, by decide, by decide, by decide⟩
  refine ⟨fun op hop => ?_, fun x _ => build_ok_of_names _ fun kv hkv _ => ?_⟩
  · obtain ⟨segs, h1, h2, h3, _⟩ := hsimple op hop
    exact ⟨segs, h1, h2, h3⟩
  · obtain ⟨op, hop, _, _, hkey⟩ := mem_recordsFor hkv
    obtain ⟨segs, hw, _, hfp, hbad, hdup⟩ := hsimple op (List.mem_of_getElem? hop)
    rw [hkey, hfp, convert_simple segs hw]
    refine ⟨hbad, ?_⟩
    rw [keyOf_eq]
    exact (namesOf_tailKeyX _ (wfx_toXS hw)).symm ▸ hdup


/-! ## Composite segments: `pre {n0} st0 {n1} st1 … {nk} stk`

`segText`/`patAfter` spell the pattern text, `renderVals phs vs` the segment text the values `vs`
make of it, `allInst phs t` is the Spec's enumerator of the instantiations of the text `t`. -/

/-- **the Spec's enumerator is exact**: it lists the value lists that reproduce the segment text when
put between the static texts, and only those -/
theorem allInst_exact (phs : List (Bytes × Bytes)) (t : Bytes) (vs : List Bytes) :
    vs ∈ allInst phs t ↔ renderVals phs vs = some t :=
  mem_allInst phs t vs

/-- **what `decodeCompositParams` returns** (names of the placeholders in order, one value each,
never a panic) **is an instantiation whenever the segment text has one at all** — for every pattern
with brace-free names and static texts, adjacent placeholders and empty values included. -/
theorem composite_split_instantiates (n0 st0 : Bytes) (r : List (Bytes × Bytes)) (t : Bytes)
    (hw : PhsWF ((n0, st0) :: r)) :
    ∃ vals, decodeComposite ((patAfter st0 r).length + 2) n0 t (patAfter st0 r) =
        some ((((n0, st0) :: r).map (·.1)).zip vals) ∧
      vals.length = r.length + 1 ∧
      ((allInst ((n0, st0) :: r) t ≠ []) → vals ∈ allInst ((n0, st0) :: r) t) := by
  refine ⟨greedy ((n0, st0) :: r) t, decodeComposite_patAfter n0 st0 r t hw, by simp [greedy_length], fun hne => ?_⟩
  obtain ⟨us, hus⟩ := List.exists_mem_of_ne_nil _ hne
  exact (mem_allInst _ _ _).mpr (greedy_complete _ t ⟨us, (mem_allInst _ _ _).mp hus⟩)

/-- non-vacuity: `{name}.{ext}` against `a.b.c` (two instantiations; the code's is the leftmost) -/
example : PhsWF [([110], [46]), ([101], [])] ∧
    allInst [([110], [46]), ([101], [])] [97, 46, 98, 46, 99] = [[[97], [98, 46, 99]], [[97, 46, 98], [99]]] ∧
    decodeComposite 9 [110] [97, 46, 98, 46, 99] [46, 123, 101, 125] = some [([110], [97]), ([101], [98, 46, 99])] := by
  refine ⟨?_, by decide, by decide⟩
  unfold PhsWF
  decide

/-- **unique instantiation ⇒ exactly it**: if `us` is the only instantiation of the segment text,
`decodeCompositParams` returns `us`, by name. -/
theorem composite_split_unique (n0 st0 : Bytes) (r : List (Bytes × Bytes)) (t : Bytes) (us : List Bytes)
    (hw : PhsWF ((n0, st0) :: r)) (hus : us ∈ allInst ((n0, st0) :: r) t)
    (huniq : ∀ vs ∈ allInst ((n0, st0) :: r) t, vs = us) :
    decodeComposite ((patAfter st0 r).length + 2) n0 t (patAfter st0 r) =
      some ((((n0, st0) :: r).map (·.1)).zip us) := by
  obtain ⟨vals, hdc, _, hin⟩ := composite_split_instantiates n0 st0 r t hw
  rw [hdc, huniq vals (hin (List.ne_nil_of_mem hus))]

/-- **C01 for a composite segment, in the property's own words.**  For the template
`A ++ {n0} ++ st0 {n1} st1 … {nk} stk ++ B` (`B` empty or the following segments) and the still
escaped text `raw` the trie captured for `n0`: if `us` is the one instantiation of `raw`, the handler
receives exactly the percent-decoded `us`, by name. -/
theorem composite_values_unique (A B n0 st0 : Bytes) (r : List (Bytes × Bytes)) (raw : Bytes) (us : List Bytes)
    (hw : PhsWF ((n0, st0) :: r))
    (hidx : indexOf (needleOf n0) (A ++ needleOf n0 ++ patAfter st0 r ++ B) = some A.length)
    (hne : patAfter st0 r ≠ []) (hns : slash ∉ patAfter st0 r)
    (hB : B = [] ∨ ∃ B', B = slash :: B')
    (hus : us ∈ allInst ((n0, st0) :: r) raw)
    (huniq : ∀ vs ∈ allInst ((n0, st0) :: r) raw, vs = us) :
    paramsOf (A ++ needleOf n0 ++ patAfter st0 r ++ B) n0 raw =
      some ((((n0, st0) :: r).map (·.1)).zip (us.map decode)) := by
  rw [paramsOf_at A B n0 st0 r raw hw hidx hns hB]
  have := greedy_complete _ raw ⟨us, (mem_allInst _ _ _).mp hus⟩
  rw [huniq _ ((mem_allInst _ _ _).mpr this)]

/-- **the explicit class**: the values `us` render the segment text, and every separator between two
placeholders occurs in the text that remains from the value in front of it on at its designated
place only (`SepOnce`; for a one-byte separator: it occurs neither in that value nor behind it,
`onlyAt_single`).  Then `us` is the only instantiation and the handler receives it, decoded. -/
theorem composite_values_sepOnce (A B n0 st0 : Bytes) (r : List (Bytes × Bytes)) (raw : Bytes) (us : List Bytes)
    (hw : PhsWF ((n0, st0) :: r))
    (hidx : indexOf (needleOf n0) (A ++ needleOf n0 ++ patAfter st0 r ++ B) = some A.length)
    (hne : patAfter st0 r ≠ []) (hns : slash ∉ patAfter st0 r)
    (hB : B = [] ∨ ∃ B', B = slash :: B')
    (hus : renderVals ((n0, st0) :: r) us = some raw) (hsep : SepOnce ((n0, st0) :: r) us) :
    (∀ vs ∈ allInst ((n0, st0) :: r) raw, vs = us) ∧
    paramsOf (A ++ needleOf n0 ++ patAfter st0 r ++ B) n0 raw =
      some ((((n0, st0) :: r).map (·.1)).zip (us.map decode)) := by
  have huniq : ∀ vs ∈ allInst ((n0, st0) :: r) raw, vs = us := fun vs hvs =>
    unique_of_sepOnce _ us raw hus hsep vs ((mem_allInst _ _ _).mp hvs)
  exact ⟨huniq, composite_values_unique A B n0 st0 r raw us hw hidx hne hns hB ((mem_allInst _ _ _).mpr hus) huniq⟩

/-- non-vacuity: template `/f/{n}.{e}/x`, captured text `a%2Eb.c` (the escaped dot belongs to the
value): the class holds and the handler receives n = `a.b`, e = `c` -/
example :
    let A : Bytes := [47, 102, 47]
    let B : Bytes := [47, 120]
    let raw : Bytes := [97, 37, 50, 69, 98, 46, 99]
    PhsWF [([110], [46]), ([101], [])] ∧
    indexOf (needleOf [110]) (A ++ needleOf [110] ++ patAfter [46] [([101], [])] ++ B) = some A.length ∧
    renderVals [([110], [46]), ([101], [])] [[97, 37, 50, 69, 98], [99]] = some raw ∧
    SepOnce [([110], [46]), ([101], [])] [[97, 37, 50, 69, 98], [99]] ∧
    paramsOf (A ++ needleOf [110] ++ patAfter [46] [([101], [])] ++ B) [110] raw =
      some [([110], [97, 46, 98]), ([101], [99])] := by
  refine ⟨?_, by decide, by decide, ?_, by decide⟩
  · unfold PhsWF
    decide
  · refine ⟨⟨[99], by decide, ?_⟩, trivial⟩
    exact onlyAt_single 46 _ _ (by decide) (by decide)

/-- **C01 for templates with composite segments, in the property's own words.**  The template is
`/s1/s2/…`, every segment static text or `pre {n0} st0 {n1} st1 … {nk} stk` (a whole-segment
placeholder included), placeholder names distinct, the converted key one the trie router takes for
parameterised (`/:` in it — not the class F01h).  If an operation runs: its method is the
request's; every static segment equals the path segment at its place and every `pre` is a prefix of
its path segment (`matchX`); the handler receives, per segment, the leftmost splitting of the text
behind `pre`, every fragment percent-decoded, by name (`flatParams`).  And whenever the cleaned
path instantiates the template at all (`InstOf`), the values received are the percent-decoded
texts of an instantiation — of THE instantiation when there is only one. -/
theorem composite_ran_params (api : Api) (m p : Bytes) (i : Nat) (ps : List (Bytes × Bytes))
    (hran : dispatch api m p = .ran i ps) (xs : List XS) (hw : WFX xs)
    (hnd : (allNames xs).Nodup) (hpk : C05.isParamKey (keyX xs) = true)
    (hfp : ∀ op, api.ops[i]? = some op → fullPath api op = renderX xs)
    (hroot : GoPath.isRooted p = true) :
    ∃ op vals, api.ops[i]? = some op ∧ toUpper op.method = toUpper m ∧
      matchX xs (pathSegs p) = some vals ∧ ps = flatParams xs vals ∧
      ((∃ raws, InstOf xs (pathSegs p) raws) →
        ∃ raws, InstOf xs (pathSegs p) raws ∧ ps = raws.map (fun kv => (kv.1, decode kv.2))) := by
  obtain ⟨op, vals, hop, hm, hmx, hps⟩ := ran_params_X api m p i ps hran xs hw
    (fun h => by rw [hpk] at h; cases h) (collectParams_X _ _ (paramsOf_of_nodup xs hw hnd)) hfp hroot
  exact ⟨op, vals, hop, hm, hmx, hps, fun hex =>
    ⟨rawParams xs vals, instOf_greedy xs _ vals hmx hex, by rw [hps, flatParams_eq]⟩⟩

/-- non-vacuity: `/f/{n}.{e}` -/
example : WFX [.lit [102], .par [] [110] [46] [([101], [])]] ∧
    renderX [.lit [102], .par [] [110] [46] [([101], [])]] = [47, 102, 47, 123, 110, 125, 46, 123, 101, 125] ∧
    (allNames [.lit [102], .par [] [110] [46] [([101], [])]]).Nodup ∧
    C05.isParamKey (keyX [.lit [102], .par [] [110] [46] [([101], [])]]) = true ∧
    matchX [.lit [102], .par [] [110] [46] [([101], [])]] [[102], [97, 46, 98]] = some [[97, 46, 98]] ∧
    flatParams [.lit [102], .par [] [110] [46] [([101], [])]] [[97, 46, 98]] = [([110], [97]), ([101], [98])] := by
  refine ⟨?_, by decide, by decide, by decide, by decide, by decide⟩
  simp only [WFX, List.forall_mem_cons, XS.wf, List.not_mem_nil, false_imp_iff, implies_true, and_true]
  decide

/-- **the `ran` clause of the driver's Spec (`specDispatchC`), route and values, is met** on every
template with composite segments of the class of `composite_ran_params` that the cleaned path
instantiates at all: the operation is registered under the request's method and the values the
handler receives are the percent-decoded texts of one of the instantiations `instAll` lists — of
the only one when `instAll` lists one. -/
theorem composite_ran_meets_spec (api : Api) (m p : Bytes) (i : Nat) (ps : List (Bytes × Bytes))
    (hran : dispatch api m p = .ran i ps) (xs : List XS) (hw : WFX xs) (hne : xs ≠ [])
    (hnd : (allNames xs).Nodup) (hpk : C05.isParamKey (keyX xs) = true)
    (hfp : ∀ op, api.ops[i]? = some op → fullPath api op = renderX xs)
    (hroot : GoPath.isRooted p = true)
    (hfit : fitsLooseC (renderX xs) (GoPath.clean p) = true) :
    ∃ op, api.ops[i]? = some op ∧ toUpper op.method = toUpper m ∧
      (instAll (fullPath api op) (GoPath.clean p)).any
        (fun raws => ps == raws.map (fun kv => (kv.1, decode kv.2))) = true := by
  obtain ⟨op, vals, hop, hm, _, _, himp⟩ := composite_ran_params api m p i ps hran xs hw hnd hpk hfp hroot
  obtain ⟨hclean, hsegs⟩ := clean_rooted_renderP p hroot
  refine ⟨op, hop, hm, ?_⟩
  rw [hfp op hop, hclean]
  rw [hclean] at hfit
  have hmem := mem_instAll xs hw hne _ hsegs (pathSegs_ne_nil p)
  obtain ⟨r0, hr0⟩ := List.exists_mem_of_ne_nil _ (by simpa [fitsLooseC] using hfit)
  obtain ⟨raws, hinst, hps⟩ := himp ⟨r0, (hmem r0).mp hr0⟩
  simp only [List.any_eq_true, beq_iff_eq]
  exact ⟨raws, (hmem raws).mpr hinst, hps⟩

/-- The full statement for descriptions with composite segments — what the driver's Spec
(`specDispatchC`) demands, for all inputs outside the recorded classes.  Proved of it: the whole
`ran` clause but the preference among templates (`composite_ran_meets_spec`: method, and the values
are the decoded texts of one of the instantiations `instAll` lists), for templates of the class of
`composite_ran_params`; `instAll` is exact there (`mem_instAll`, `allInst_exact`).  NOT proved for
composite templates: the preference clause and the 404/405 clauses in terms of templates (they hold
at the level of the trie key: `ran_sound`, `refused_unfit`, `allow_exact`).  The correspondence
check judges every generated case with this very predicate. -/
def CompositeRanStatement : Prop :=
  ∀ (api : Api) (m p : Bytes),
    (api.ops.all fun op => wellFormedT (fullPath api op)) = true →
    dupKeys api = false → buildRefused api = false → oddStatic api = false →
    staticComposite api (GoPath.clean p) = false → compositeMisfit api (GoPath.clean p) = false →
    specDispatchC api m p (dispatch api m p) = true

/-- F01g (fixed): the split runs on the escaped text, every fragment is decoded on its own —
`/x/{a}-{b}` with `/x/foo%2Dbar-baz` gives a = `foo-bar`, b = `baz` (the code before the repair
decoded first and split `foo-bar-baz` at the first `-`). -/
theorem F01g_escaped_separator :
    paramsOf [47, 120, 47, 123, 97, 125, 45, 123, 98, 125] [97]
        [102, 111, 111, 37, 50, 68, 98, 97, 114, 45, 98, 97, 122] =
      some [([97], [102, 111, 111, 45, 98, 97, 114]), ([98], [98, 97, 122])] ∧
    decodeComposite 6 [97] (decode [102, 111, 111, 37, 50, 68, 98, 97, 114, 45, 98, 97, 122]) [45, 123, 98, 125] =
      some [([97], [102, 111, 111]), ([98], [98, 97, 114, 45, 98, 97, 122])] := by
  constructor <;> decide

/-- F01h: `/v{major}.{minor}` becomes the key `/v:major`, which the trie router files as static
text (no `/:` in it): only the literal path `/v:major` is matched. -/
theorem F01h_prefix_key_is_static :
    convert [47, 118, 123, 109, 97, 106, 111, 114, 125, 46, 123, 109, 105, 110, 111, 114, 125] =
      [47, 118, 58, 109, 97, 106, 111, 114] ∧
    C05.isParamKey [47, 118, 58, 109, 97, 106, 111, 114] = false := by
  refine ⟨?_, by decide⟩
  -- the template is one segment `v` `{major}` `.` `{minor}`
  refine convert_renderX [.par [118] [109, 97, 106, 111, 114] [46] [([109, 105, 110, 111, 114], [])]] ?_
  simp only [WFX, List.forall_mem_cons, XS.wf, List.not_mem_nil, false_imp_iff, implies_true, and_true]
  decide

/-- F01i: the trie keeps `{id}` of `{id}.json` only; for the captured text `5.xml`, which has no
instantiation, the handler is given id = "" all the same. -/
theorem F01i_misfit_runs_with_empty_value :
    allInst [([105, 100], [46, 106, 115, 111, 110])] [53, 46, 120, 109, 108] = [] ∧
    paramsOf [47, 112, 47, 123, 105, 100, 125, 46, 106, 115, 111, 110] [105, 100] [53, 46, 120, 109, 108] =
      some [([105, 100], [])] := by
  constructor <;> decide

end RtVerif.C01
