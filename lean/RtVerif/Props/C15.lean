import RtVerif.Lemmas.C15
/-
  C15 — "Built-in codecs round-trip values and never truncate, alias or panic."

  Property theorems for the byte-stream, text and discard codecs. `c : Case` is an arbitrary call:
  direction, codec, closing option, stream argument (nil / plain / closable), data kind (all the
  kinds of `K`, typed-nil pointers and `*interface{}` pre-states included) with arbitrary content,
  an arbitrary scripted reader (any bytes, EOF or error terminal — i.e. an error at any offset —,
  terminal delivered with the last bytes or separately, ANY per-call schedule: 1-byte chunks,
  zero-length reads of any number) and an arbitrary scripted writer (per-call caps, total
  capacity — i.e. a write error at any offset —, honest or lying about short writes).
  No theorem below bounds any of these.

  The JSON / XML / YAML codecs are calls into external libraries: see `FullStatement` at the end.
-/
namespace RtVerif.C15
open RtVerif Bytes _root_.RtVerif.Stream

/-- The order in which the four codec bodies examine their arguments is the order the model
follows (`bcInner`/`bcDispatch`/`bcStore`, `tcInner`/`tcStore`, `bpInner`/`bpDispatch`, `tpInner`):
stream nil check; [byte-stream: closer installed and deferred]; `data == nil`; typed-nil check
(F15a repair, after the deferred closer: F15d repair); then the interface assertions and
type-switch cases in this order; in the text consumer the empty-input shortcut sits inside the
`TextUnmarshaler` branch, after the nil-pointer check (F15b/F15c repair). Regenerated from the
source by factgen on every run: an edit that reorders or removes a check breaks this theorem. -/
theorem code_shape_facts :
    Facts.c15ByteStreamConsumer =
      ["nil:reader", "assert:reader:io.Closer", "defer:(func() literal)", "nil:data", "nilptr:data",
       "assert:data:io.ReaderFrom", "assert:data:io.Writer", "case:encoding.BinaryUnmarshaler",
       "case:*any", "case:string", "case:[]byte", "case:default"] ∧
    Facts.c15ByteStreamProducer =
      ["nil:writer", "assert:writer:io.Closer", "defer:(func() literal)", "nil:data", "nilptr:data",
       "assert:data:io.ReadCloser", "defer:rc.Close", "case:io.WriterTo", "case:io.Reader",
       "case:encoding.BinaryMarshaler", "case:error", "case:default"] ∧
    Facts.c15TextConsumer =
      ["nil:reader", "nilptr:data", "assert:data:encoding.TextUnmarshaler", "empty:b"] ∧
    Facts.c15TextProducer =
      ["nil:writer", "nil:data", "nilptr:data", "assert:data:encoding.TextMarshaler",
       "assert:data:error", "assert:data:fmt.Stringer"] :=
  ⟨rfl, rfl, rfl, rfl⟩

/-- The two option calls of the JSON codec are made, before decoding / encoding. -/
theorem json_option_facts :
    Facts.c15JSONConsumer = ["call:UseNumber", "call:Decode"] ∧
    Facts.c15JSONProducer = ["call:SetEscapeHTML:false", "call:Encode"] :=
  ⟨rfl, rfl⟩

/-- The loop models use the constants of the installed Go. -/
theorem stdlib_facts : minRead = Facts.bytesMinRead ∧ copyBuf = Facts.ioCopyBufSize := ⟨rfl, rfl⟩

/-- For every call, what the model does satisfies the Spec. -/
theorem model_meets_spec (c : Case) : spec c (model c).obs = true := model_spec c

/-- A sample call: a 5-byte binary body (invalid UTF-8) delivered as 0+1+0+0+2+2 bytes, the error
terminal coming together with the last bytes, consumed with the closing option into a
pre-populated `*[]byte`. -/
def sampleConsume : Case :=
  { dir := .consume, codec := .bytestream, close := true, stream := .closer, kind := .pbyt,
    content := [111, 108, 100], flag := 0, aux := none,
    rdata := [255, 0, 254, 10, 195], rterm := .user 3, rtog := true, rsched := [0, 1, 0, 0, 2],
    rcerr := some (.user 4), wcaps := [], wlimit := none, wlie := false, wcerr := none }

/-- A sample call: a scripted `io.ReadCloser` payload produced into a writer that takes at most one
byte of the second write. -/
def sampleProduce : Case :=
  { dir := .produce, codec := .bytestream, close := true, stream := .closer, kind := .rdc,
    content := [], flag := 0, aux := none,
    rdata := [1, 2, 3, 4, 5], rterm := .eof, rtog := false, rsched := [2, 0, 3],
    rcerr := none, wcaps := [0, 2], wlimit := none, wlie := false, wcerr := some (.user 5) }

/-- No call panics, and no call fails to return (the loops end on every scripted stream). -/
theorem never_panics_never_hangs (c : Case) : (model c).res ≠ .panic ∧ (model c).res ≠ .hang := by
  by_cases h : c.codec = .discard ∨ c.stream = .nil
  · rw [model_idle c h]
    split <;> exact ⟨nofun, nofun⟩
  have hc : c.codec ≠ .discard := fun e => h (.inl e)
  have hs : c.stream ≠ .nil := fun e => h (.inr e)
  show (model c).obs.res ≠ .panic ∧ (model c).obs.res ≠ .hang
  cases hd : c.dir with
  | consume =>
    rw [consume_obs c hd hc hs]
    exact (c_core c hc).live
  | produce =>
    rw [produce_obs c hd hc hs]
    exact (p_core c hc).live

/-- Destinations that are replaced (`*string`, `*[]byte`, named variants, `*interface{}` holding a
string or a []byte; for the text codec the string ones): whatever the chunking, with EOF the call
succeeds and the destination holds exactly the stream's bytes (whatever it held before); with an
error terminal — at any offset, delivered alone or with the last bytes — that error is returned. -/
theorem consume_replaces_exactly (c : Case) (hd : c.dir = .consume) (hc : c.codec ≠ .discard)
    (hs : c.stream ≠ .nil) (hk : c.dstClass = .replace) :
    (c.rterm = .eof → (model c).res = .ok ∧ (model c).obs.val = c.rdata) ∧
    (c.rterm ≠ .eof → (model c).res = .rd c.rterm) :=
  specStored_iff.mp (consume_clause c hd hc hs hk)

example : sampleConsume.dir = .consume ∧ sampleConsume.codec ≠ .discard ∧ sampleConsume.stream ≠ .nil ∧
    sampleConsume.dstClass = .replace ∧ sampleConsume.rterm ≠ .eof := by decide

/-- `*bytes.Buffer` (an `io.ReaderFrom`): the stream's bytes are appended to what it holds. -/
theorem consume_appends_exactly (c : Case) (hd : c.dir = .consume) (hc : c.codec ≠ .discard)
    (hs : c.stream ≠ .nil) (hk : c.dstClass = .append) :
    (c.rterm = .eof → (model c).res = .ok ∧ (model c).obs.val = c.content ++ c.rdata) ∧
    (c.rterm ≠ .eof → (model c).res = .rd c.rterm) :=
  specStored_iff.mp (consume_clause c hd hc hs hk)

example : ({ sampleConsume with kind := .buf } : Case).dstClass = .append := by decide

/-- Unmarshalers: with EOF and a method that accepts, the call succeeds and the method was handed
exactly the stream's bytes; a failing method makes the call fail; a read error is returned. The
text consumer does not hand over an empty input (it succeeds and leaves the value alone). -/
theorem consume_unmarshals_exactly (c : Case) (hd : c.dir = .consume) (hc : c.codec ≠ .discard)
    (hs : c.stream ≠ .nil) (hk : c.dstClass = .unmarshal) :
    (c.rterm = .eof → c.flag = 0 → (model c).res = .ok) ∧
    ((model c).res = .ok → c.rterm = .eof ∧
      ((c.flag = 0 ∧ (model c).obs.val = c.rdata) ∨
       (c.codec = .text ∧ c.rdata = [] ∧ (model c).obs.val = c.content))) ∧
    (c.rterm ≠ .eof → (model c).res = .rd c.rterm) :=
  specUnmarshal_iff.mp (consume_clause c hd hc hs hk)

example : ({ sampleConsume with kind := .bin } : Case).dstClass = .unmarshal ∧
    ({ sampleConsume with codec := .text, kind := .txt } : Case).dstClass = .unmarshal := by decide

/-- An `io.Writer` destination (through `io.Copy`): the writer only ever holds a prefix of the
stream; with an honest writer a success means it holds all of it and the stream ended with EOF;
EOF and a writer that refuses nothing give success; a read error is returned unless a write error
came first. -/
theorem consume_into_writer (c : Case) (hd : c.dir = .consume) (hc : c.codec ≠ .discard)
    (hs : c.stream ≠ .nil) (hk : c.dstClass = .sink) :
    (model c).obs.wgot <+: c.rdata ∧
    (c.wlie = false → (model c).res = .ok → (model c).obs.wgot = c.rdata ∧ c.rterm = .eof) ∧
    (c.rterm = .eof → c.snkFaultFree = true → (model c).res = .ok) ∧
    (c.rterm ≠ .eof → (model c).res = .rd c.rterm ∨ (model c).res.isWriteError = true) :=
  specCopied_iff.mp (consume_clause c hd hc hs hk)

example : ({ sampleConsume with kind := .wr } : Case).dstClass = .sink := by decide

/-- What a single source value must give: `p` are its bytes. -/
def WrittenExactly (c : Case) (p : Bytes) : Prop :=
  (model c).obs.wgot <+: p ∧
  (c.wlie = false → (model c).res = .ok → (model c).obs.wgot = p) ∧
  (c.snkFaultFree = true → (model c).res = .ok ∧ (model c).obs.wgot = p) ∧
  ((model c).res = .ok ∨ (model c).res.isWriteError = true)

/-- Strings, byte slices, pointers to and types over them, errors, Stringers (text), `io.WriterTo`
buffers: the writer only ever holds a prefix of the source bytes; an honest writer and a success
mean it holds exactly the source bytes; a writer that refuses nothing gives success; a failure is
the write error (or `io.ErrShortWrite`). Any caps, any capacity. -/
theorem produce_writes_exactly (c : Case) (hd : c.dir = .produce) (hc : c.codec ≠ .discard)
    (hs : c.stream ≠ .nil) (hk : c.srcClass = .bytes) : WrittenExactly c c.content :=
  specWritten_iff.mp (produce_clause c hd hc hs hk)

example : ({ sampleProduce with kind := .pnbyt, content := [0, 255, 7] } : Case).srcClass = .bytes ∧
    ({ sampleProduce with codec := .text, kind := .strg, content := [0, 255, 7] } : Case).srcClass = .bytes := by
  decide

/-- Marshalers: a failing method makes the call fail with nothing written; otherwise as above. -/
theorem produce_marshals_exactly (c : Case) (hd : c.dir = .produce) (hc : c.codec ≠ .discard)
    (hs : c.stream ≠ .nil) (hk : c.srcClass = .marshal) :
    (c.flag = 0 → WrittenExactly c c.content) ∧
    (c.flag ≠ 0 → (model c).res.isError = true ∧ (model c).obs.wgot = []) := by
  have h := produce_clause c hd hc hs hk
  unfold specSrc at h
  refine ⟨fun hf => ?_, fun hf => ?_⟩
  · rw [hf] at h
    exact specWritten_iff.mp h
  · rw [if_neg (by simpa using hf)] at h
    simp at h
    exact h

example : ({ sampleProduce with kind := .bin, flag := 3 } : Case).srcClass = .marshal := by decide

/-- A value that is an `error` AND has other text methods (`fmt.Stringer`, and for the byte-stream
codec `encoding.TextMarshaler`): what is written is exactly its `Error()` text — `"E:"` followed by the
content in the harness's convention, where `String()` would give `"S:"…` and `MarshalText` the bare
content — whenever no method of higher rank applies (`MarshalText` for the text codec,
`MarshalBinary` for the byte-stream codec: these kinds are in the marshal class). -/
theorem produce_writes_error_text_exactly (c : Case) (hd : c.dir = .produce) (hc : c.codec ≠ .discard)
    (hs : c.stream ≠ .nil) (hk : c.srcClass = .errText) : WrittenExactly c (ePre ++ c.content) :=
  specWritten_iff.mp (produce_clause c hd hc hs hk)

example : ({ sampleProduce with kind := .tes, content := [0, 255, 7] } : Case).srcClass = .errText ∧
    ({ sampleProduce with codec := .text, kind := .tes, content := [0, 255, 7] } : Case).srcClass = .marshal ∧
    ({ sampleProduce with codec := .text, kind := .es } : Case).srcClass = .errText ∧
    ({ sampleProduce with codec := .text, kind := .bes } : Case).srcClass = .errText ∧
    ({ sampleProduce with kind := .bes } : Case).srcClass = .marshal ∧
    ({ sampleProduce with codec := .text, kind := .ts } : Case).srcClass = .marshal ∧
    ({ sampleProduce with kind := .ts } : Case).srcClass = .json := by
  decide

/-- Structs and slices: exactly the bytes of the (external) JSON rendering are written; when the
rendering fails the call fails with nothing written. -/
theorem produce_writes_json_exactly (c : Case) (hd : c.dir = .produce) (hc : c.codec ≠ .discard)
    (hs : c.stream ≠ .nil) (hk : c.srcClass = .json) :
    (∀ j, c.aux = some j → WrittenExactly c j) ∧
    (c.aux = none → (model c).res.isError = true ∧ (model c).obs.wgot = []) := by
  have h := produce_clause c hd hc hs hk
  unfold specSrc at h
  refine ⟨fun j hj => ?_, fun hj => ?_⟩
  · rw [hj] at h
    exact specWritten_iff.mp h
  · rw [hj] at h
    simp at h
    exact h

example : ({ sampleProduce with kind := .pstrct, aux := some [123, 125] } : Case).srcClass = .json := by decide

/-- `io.Reader` payloads (through `io.Copy`): as for a writer destination. -/
theorem produce_copies_reader (c : Case) (hd : c.dir = .produce) (hc : c.codec ≠ .discard)
    (hs : c.stream ≠ .nil) (hk : c.srcClass = .stream) :
    (model c).obs.wgot <+: c.rdata ∧
    (c.wlie = false → (model c).res = .ok → (model c).obs.wgot = c.rdata ∧ c.rterm = .eof) ∧
    (c.rterm = .eof → c.snkFaultFree = true → (model c).res = .ok) ∧
    (c.rterm ≠ .eof → (model c).res = .rd c.rterm ∨ (model c).res.isWriteError = true) :=
  specCopied_iff.mp (produce_clause c hd hc hs hk)

example : sampleProduce.dir = .produce ∧ sampleProduce.codec ≠ .discard ∧ sampleProduce.stream ≠ .nil ∧
    sampleProduce.srcClass = .stream := by decide

/-- A write error at any offset is returned, never a shorter success: an honest writer whose
capacity is smaller than what has to be written makes the call fail, with at most `l` bytes out.
(`p`: the source bytes — the content, the payload stream, or the JSON rendering.) -/
theorem write_error_is_returned (c : Case) (hd : c.dir = .produce) (hc : c.codec ≠ .discard)
    (hs : c.stream ≠ .nil) (hl : c.wlie = false) (l : Nat) (hlim : c.wlimit = some l) (p : Bytes)
    (hp : (c.srcClass = .bytes ∧ p = c.content) ∨ (c.srcClass = .marshal ∧ c.flag = 0 ∧ p = c.content) ∨
          (c.srcClass = .json ∧ c.aux = some p) ∨ (c.srcClass = .stream ∧ p = c.rdata) ∨
          (c.srcClass = .errText ∧ p = ePre ++ c.content))
    (hshort : l < p.length) :
    (model c).res ≠ .ok ∧ (model c).obs.wgot.length ≤ l := by
  have hw : (model c).obs.wgot.length ≤ l := by
    rw [produce_obs c hd hc hs]
    exact (p_core c hc).within l hlim
  refine ⟨?_, hw⟩
  intro hok
  have hall : (model c).obs.wgot = p := by
    rcases hp with ⟨hk, rfl⟩ | ⟨hk, hf, rfl⟩ | ⟨hk, ha⟩ | ⟨hk, rfl⟩ | ⟨hk, rfl⟩
    · exact (produce_writes_exactly c hd hc hs hk).2.1 hl hok
    · exact ((produce_marshals_exactly c hd hc hs hk).1 hf).2.1 hl hok
    · exact ((produce_writes_json_exactly c hd hc hs hk).1 p ha).2.1 hl hok
    · exact ((produce_copies_reader c hd hc hs hk).2.1 hl hok).1
    · exact (produce_writes_error_text_exactly c hd hc hs hk).2.1 hl hok
  rw [hall] at hw
  omega

example : ∃ c : Case, c.dir = .produce ∧ c.codec ≠ .discard ∧ c.stream ≠ .nil ∧ c.wlie = false ∧
    c.wlimit = some 3 ∧ c.srcClass = .stream ∧ 3 < c.rdata.length :=
  ⟨{ sampleProduce with wlimit := some 3 }, by decide⟩

/-- Round trip of a producer/consumer pair of the text or byte-stream codec: what the producer
wrote for a value with byte content into a writer that refuses nothing, delivered to the consumer
by ANY scripted reader ending in EOF (any chunking, zero-length reads, data with EOF), is stored as
exactly the value's content in a replaced destination. -/
theorem round_trip (p q : Case)
    (hp : p.dir = .produce ∧ p.codec ≠ .discard ∧ p.stream ≠ .nil ∧ p.srcClass = .bytes)
    (hw : p.snkFaultFree = true)
    (hq : q.dir = .consume ∧ q.codec ≠ .discard ∧ q.stream ≠ .nil ∧ q.dstClass = .replace)
    (hwire : q.rdata = (model p).obs.wgot) (heof : q.rterm = .eof) :
    (model p).res = .ok ∧ (model q).res = .ok ∧ (model q).obs.val = p.content := by
  have h1 := (produce_writes_exactly p hp.1 hp.2.1 hp.2.2.1 hp.2.2.2).2.2.1 hw
  have h2 := (consume_replaces_exactly q hq.1 hq.2.1 hq.2.2.1 hq.2.2.2).1 heof
  exact ⟨h1.1, h2.1, by rw [h2.2, hwire, h1.2]⟩

example : ∃ p q : Case, (p.dir = .produce ∧ p.codec ≠ .discard ∧ p.stream ≠ .nil ∧ p.srcClass = .bytes) ∧
    p.snkFaultFree = true ∧ (q.dir = .consume ∧ q.codec ≠ .discard ∧ q.stream ≠ .nil ∧ q.dstClass = .replace) ∧
    q.rdata = (model p).obs.wgot ∧ q.rterm = .eof ∧ q.rsched = [1, 0, 1] ∧ q.rtog = true :=
  ⟨{ sampleProduce with codec := .text, kind := .nstr, content := [104, 255, 0], wcaps := [] },
   { sampleConsume with codec := .text, kind := .pstr, rdata := [104, 255, 0], rterm := .eof,
                        rsched := [1, 0, 1] }, by decide⟩

/-- "The underlying stream is closed if and only if the closing option was requested": exactly one
`Close` with the option (byte-stream codec, a stream that has `Close`) — also when the data is
refused —, none otherwise; a consumer never closes a writer destination. -/
theorem stream_closed_iff_requested (c : Case) :
    (c.dir = .consume →
      (model c).obs.rcloses = (if c.closeAsked = true then 1 else 0) ∧ (model c).obs.wcloses = 0) ∧
    (c.dir = .produce → (model c).obs.wcloses = (if c.closeAsked = true then 1 else 0)) := by
  by_cases h : c.codec = .discard ∨ c.stream = .nil
  · have hca : c.closeAsked = false := by
      unfold Case.closeAsked
      rcases h with h | h <;> simp [h]
    rw [hca, model_idle c h]
    exact ⟨fun _ => ⟨rfl, rfl⟩, fun _ => rfl⟩
  · have hc : c.codec ≠ .discard := fun e => h (.inl e)
    have hs : c.stream ≠ .nil := fun e => h (.inr e)
    refine ⟨fun hd => ?_, fun hd => ?_⟩
    · have C := c_core c hc
      rw [consume_obs c hd hc hs]
      exact ⟨(congrArg (· + _) C.rcloses).trans (Nat.zero_add _), C.wcloses⟩
    · rw [produce_obs c hd hc hs]
      exact (congrArg (· + _) (p_core c hc).wcloses).trans (Nat.zero_add _)

/-- The option is honoured also for refused data: nil interface and typed-nil destinations. -/
example : (model { sampleConsume with kind := .nil }).obs.rcloses = 1 ∧
    (model { sampleConsume with kind := .nil }).res = .nilData ∧
    (model { sampleConsume with kind := .pbytNil }).obs.rcloses = 1 ∧
    (model { sampleConsume with kind := .pbytNil }).res = .nilPtr := by decide

/-- "A closable source payload is always closed": an `io.ReadCloser` given to the byte-stream
producer with a writer is closed exactly once, whatever happens to the copy. -/
theorem closable_payload_always_closed (c : Case) (hd : c.dir = .produce) (hc : c.codec = .bytestream)
    (hs : c.stream ≠ .nil) (hk : c.kind.closable = true) : (model c).obs.rcloses = 1 := by
  have hcd : c.codec ≠ .discard := fun e => nomatch hc.symm.trans e
  rw [produce_obs c hd hcd hs]
  show (pBody c).2.r.closes + 0 = 1
  rw [(p_core c hcd).rcloses, if_pos ⟨hc, hk⟩]

example : sampleProduce.kind.closable = true ∧ (model sampleProduce).res = .wr werr ∧
    (model sampleProduce).obs.rcloses = 1 ∧ (model sampleProduce).obs.wcloses = 1 := by decide

/-- Every destination outside the supported tables gets an error (never a panic: see above). -/
theorem unsupported_destination_yields_error (c : Case) (hd : c.dir = .consume) (hc : c.codec ≠ .discard)
    (hs : c.stream ≠ .nil) (hk : c.dstClass = .unsupported) : (model c).res.isError = true :=
  consume_clause c hd hc hs hk

/-- Likewise for source values of the producers. -/
theorem unsupported_source_yields_error (c : Case) (hd : c.dir = .produce) (hc : c.codec ≠ .discard)
    (hs : c.stream ≠ .nil) (hk : c.srcClass = .unsupported) : (model c).res.isError = true :=
  produce_clause c hd hc hs hk

/-- What "unsupported" covers: the nil interface, every typed-nil pointer (also of types that
implement a supported interface), and `*interface{}` destinations pre-populated with anything but a
string or a []byte — for all four codecs. -/
theorem nil_and_prepopulated_are_unsupported (k : K) :
    ((feat k).ty = .nil ∨ (feat k).nilPtr = true →
      bcDst k = .unsupported ∧ tcDst k = .unsupported ∧ bpSrc k = .unsupported ∧ tpSrc k = .unsupported) ∧
    (k = .pifNil ∨ k = .pifInt → bcDst k = .unsupported ∧ tcDst k = .unsupported) := by
  cases k <;> decide

/-- The kind dispatch table is internally coherent: a typed-nil value has a pointer type, only
`*interface{}` values carry a pre-state, and the nil interface implements nothing. -/
theorem feat_table_coherent (k : K) :
    ((feat k).nilPtr = true → ∃ e, (feat k).ty = .ptr e) ∧
    ((feat k).ipre ≠ .none → (feat k).ty = .ptr .iface) ∧
    ((feat k).ty = .nil → feat k = { ty := .nil }) := by
  cases k <;> simp [feat]

/-- The refusals are the dedicated errors, before anything is read or written (the text consumer
buffers its input first: there a read error comes first). -/
theorem typed_nil_is_refused (c : Case) (hs : c.stream ≠ .nil) (hn : (feat c.kind).nilPtr = true)
    (hc : c.codec = .bytestream ∨ (c.codec = .text ∧ c.dir = .produce)) :
    (model c).res = .nilPtr ∧ (model c).obs.wgot = [] ∧ (model c).obs.rleft = c.rdata.length := by
  obtain ⟨e, he⟩ := (feat_table_coherent c.kind).1 hn
  have hty : (feat c.kind).ty ≠ .nil := by rw [he]; nofun
  have hcd : c.codec ≠ .discard := by
    rcases hc with h | ⟨h, _⟩ <;> rw [h] <;> nofun
  show (model c).obs.res = .nilPtr ∧ _
  cases hd : c.dir with
  | consume =>
    have hb : c.codec = .bytestream := hc.resolve_right fun h => nomatch hd.symm.trans h.2
    have : cBody c = (.nilPtr, st0 c) := by simp [cBody, bcInner, hb, hty, hn]
    rw [consume_obs c hd hcd hs, this]
    exact ⟨rfl, rfl, rfl⟩
  | produce =>
    have : pBody c = (.nilPtr, st0 c) := by simp [pBody, bpInner, tpInner, hty, hn]
    rw [produce_obs c hd hcd hs, this]
    exact ⟨rfl, rfl, rfl⟩

example : (feat .bufNil).nilPtr = true ∧ (feat .pstrNil).nilPtr = true ∧ (feat .pifNilPtr).nilPtr = true := by
  decide

/-- A nil stream argument is an error and nothing happens. -/
theorem nil_stream_yields_error (c : Case) (hc : c.codec ≠ .discard) (hs : c.stream = .nil) :
    (model c).res = .noStream ∧ (model c).obs.rcloses = 0 ∧ (model c).obs.wcloses = 0 ∧
    (model c).obs.wgot = [] ∧ (model c).obs.val = c.content := by
  rw [model_idle c (.inr hs), if_neg hc]
  exact ⟨rfl, rfl, rfl, rfl, rfl⟩

/-- The discard codec: success, and nothing is read, written, stored or closed. -/
theorem discard_touches_nothing (c : Case) (hc : c.codec = .discard) :
    (model c).res = .ok ∧ (model c).obs.val = c.content ∧ (model c).obs.rleft = c.rdata.length ∧
    (model c).obs.rcloses = 0 ∧ (model c).obs.wcloses = 0 ∧ (model c).obs.wgot = [] := by
  rw [model_idle c (.inl hc), if_pos hc]
  exact ⟨rfl, rfl, rfl, rfl, rfl, rfl⟩

/-- The outcome of buffering a scripted stream with `bytes.Buffer.ReadFrom` does not depend on how
the buffer grows (the sizes of the slices it offers to `Read`, all at least `bytes.MinRead`), nor
on the call budget of the model: all the bytes, the terminal with `io.EOF` turned into nil, for
EVERY schedule of the stream (any number of zero-length reads included). -/
theorem buffering_is_chunking_independent (r : Src) (hr : Open r) (sz : Nat → Nat)
    (hsz : ∀ i, minRead ≤ sz i) (f : Nat) (hf : fuel r ≤ f) :
    (readFromLoop srcReader sz f 0 r).1 = (r.data, eofNil r.term, false) := by
  have hpos : ∀ i, 0 < sz i := fun i => Nat.lt_of_lt_of_le (by unfold minRead; omega) (hsz i)
  exact (readFromLoop_spec src_rlaws sz hpos f 0 r hr.inv (Nat.lt_of_lt_of_le (fuel_gt r) hf)).1

example : Open sampleConsume.src ∧ (readAll sampleConsume.src).1 = ([255, 0, 254, 10, 195], some (.user 3), false) :=
  ⟨⟨rfl, rfl⟩, by decide⟩

/-- What the text and byte-stream (and discard) part of the property says of every call. -/
def TextAndByteStreamPart : Prop := ∀ c : Case, spec c (model c).obs = true

/-- The property in full. `ExternalRoundTrips` stands for: "for every supported value `v`,
`JSONConsumer` applied to what `JSONProducer` wrote for `v` yields a value equal to `v` (numbers
beyond float64 precision included), and likewise for the XML and YAML pairs" — a statement about
`encoding/json`, `encoding/xml` and `gopkg.in/yaml.v3`, which this development does not model.
It is a parameter here precisely because nothing in Lean proves it. -/
def FullStatement (ExternalRoundTrips : Prop) : Prop :=
  TextAndByteStreamPart ∧ ExternalRoundTrips

/-- What is proved of `FullStatement`: the text / byte-stream / discard part. Missing: the round
trips through the external JSON, XML and YAML libraries; they are TESTED by stream J of the harness
(generated documents and generic trees, integers beyond 2^53 and beyond 2^64, `<>&` in strings,
nested maps and slices), and the two option calls the JSON round trip relies on are facts extracted
from the source (`json_option_facts`). -/
theorem full_statement_partial : TextAndByteStreamPart := model_spec

end RtVerif.C15
