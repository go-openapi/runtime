import RtVerif.Lemmas.C17
/-
  C17 — "Probing a request for a body never loses, reorders or fabricates body bytes."

  Property theorems. `g : Scenario` is an arbitrary request (any body bytes, any terminal, any
  per-call schedule of the underlying stream, any ContentLength / Content-Length header, body
  scripted / http.NoBody / nil), `ops` an arbitrary history of `HasBody | Read k | Close | Drain k`.
  The only hypotheses used are the ones named in the Spec: `okRuns g.sched` (runs of zero-length
  reads shorter than bufio's limit of 100) and, for the value of the answer, `lenWF g`.
-/
namespace RtVerif.C17
open RtVerif Bytes _root_.RtVerif.Stream

/-- The hand model of `bufio.Reader` uses the constants of the installed Go. -/
theorem bufio_facts :
    bufSize = Facts.bufioDefaultBufSize ∧ maxEmpty = Facts.bufioMaxConsecutiveEmptyReads :=
  ⟨rfl, rfl⟩

/-- The model treats a nil `*peekingReader` as an empty body for `Read` and `Close` alike: both
methods carry the nil-receiver guard (F17a repair). -/
theorem nil_guards_present :
    Facts.peekingCloseNilGuard = true ∧ Facts.peekingReadNilGuard = true := ⟨rfl, rfl⟩

/-- A scenario meeting the hypotheses used below: a 5-byte body delivered as 2+1+2 bytes with
zero-length reads in between, error terminal delivered together with the last bytes, no length
declared. -/
def sample : Scenario :=
  { kind := .src, data := [1, 2, 3, 4, 5], term := .user 4, together := true,
    sched := [0, 2, 0, 0, 1], cerr := some (.user 3), cl := 0, hdr := [] }

/-- For all requests, stream behaviours and histories, the trace of the model satisfies the Spec
(bytes, terminal, answers, no direct close once a probe took the body over, close accounting, reads
after close, no read reaching the closed underlying stream). -/
theorem model_meets_spec (g : Scenario) (ops : List Op) :
    specTrace g ops (model g ops).1 (model g ops).2.1 (model g ops).2.2 = true := by
  unfold specTrace
  cases hok : okRuns g.sched with
  | false => rfl
  | true =>
    have h := run_init hok ops
    show (!true || ((specGo g { rest := g.sData } ops (runOps g.req ops).1).1 &&
      specCloses g (final g ops).1 (reportedCloses g (final g ops).2) &&
      specLate g (final g ops).1 (reportedLate g (final g ops).2))) = true
    rw [h.1, sim_closes _ h.2, sim_late _ h.2]; rfl

/-- "The answer is true exactly when a positive length is declared or, no length being declared, at
least one byte can be read." -/
theorem answer_iff (g : Scenario) (hok : okRuns g.sched = true) (hwf : lenWF g = true) :
    (hasBody g.req).1 = true ↔
      (∃ n, declared g = some n ∧ 0 < n) ∨ (declared g = none ∧ g.sData ≠ []) := by
  rw [(has_spec g.req (sim_init g hok)).1, modelAnswer_spec _ hwf, specAnswer]
  cases hd : declared g <;> simp

example : ∃ g, okRuns g.sched = true ∧ lenWF g = true ∧ g.sData ≠ [] ∧ declared g = none :=
  ⟨{ kind := .src, data := [1, 2, 3], term := .user 4, together := true, sched := [0, 2, 0, 0, 1],
     cerr := none, cl := -1, hdr := [] }, by decide⟩
example : ∃ g, okRuns g.sched = true ∧ lenWF g = true ∧ declared g = some 12 :=
  ⟨{ kind := .src, data := [1, 2, 3], term := .eof, together := false, sched := [],
     cerr := none, cl := 12, hdr := [49, 50] }, by decide⟩

/-- The code's own reading of "declared" coincides with the text's on well-formed requests: what
the two length checks decide. -/
theorem declared_characterisation (g : Scenario) (hwf : lenWF g = true) :
    (0 < g.cl → ∃ n, declared g = some n ∧ 0 < n) ∧
    (¬ 0 < g.cl → g.hdr.isEmpty = false → ∃ n, declared g = some n ∧ ¬ 0 < n) ∧
    (¬ 0 < g.cl → g.hdr.isEmpty = true → declared g = none) := by
  rw [declared_eq hwf, undeclared]
  exact ⟨fun hc => ⟨g.cl, by simp [hc], hc⟩, fun hc hh => ⟨g.cl, by simp [hh], hc⟩, fun hc hh => by simp [hc, hh]⟩

/-- "Asking again gives the same answer": at any point of any history, any number of consecutive
probes all return the same value (no assumption on the length fields). -/
theorem probes_agree (g : Scenario) (hok : okRuns g.sched = true) (ops : List Op) (m : Nat) :
    ∃ a, (runOps (runOps g.req ops).2 (List.replicate m .hasBody)).1 = List.replicate m (.has a) := by
  have h := (run_init hok ops).2
  show ∃ a, (runOps (final g ops).2 (List.replicate m .hasBody)).1 = _
  generalize final g ops = x at h
  refine ⟨modelAnswer g x.1, ?_⟩
  -- a probe changes nothing in the tracker
  induction m generalizing x with
  | zero => rfl
  | succ m ih =>
    obtain ⟨hv, hs⟩ := has_spec x.2 h
    simp only [List.replicate_succ, runOps]
    show Out.has (hasBody x.2).1 :: (runOps (x.1, (hasBody x.2).2).2 _).1 = _
    rw [ih (x.1, (hasBody x.2).2) hs, hv]

example : okRuns sample.sched = true := by decide

/-- "Afterwards the request body yields exactly the original byte sequence followed by the original
terminal condition, for any chunking": after ANY history of probes and reads (any number of
probes, any read-buffer sizes, any schedule of the underlying stream), reading until an error
returns the remaining bytes and then the original terminal — all the bytes handed out, in order,
are exactly the original bytes. -/
theorem integrity (g : Scenario) (hok : okRuns g.sched = true) (hsrc : g.kind = .src)
    (ops : List Op) (hnc : ∀ op ∈ ops, op ≠ .close) (k : Nat) (hk : 0 < k) :
    ∃ d, (model g (ops ++ [.drain k])).1 = (model g ops).1 ++ [.dr d (some g.term) false] ∧
      delivered (model g ops).1 ++ d = g.data := by
  obtain ⟨hc, hd⟩ := final_delivered hok ops hnc
  have hs := (run_init hok ops).2
  obtain ⟨b, hb, ho | hcl⟩ := sim_src _ hs hsrc
  · have hdr : (drainLoop (tower b.depth) (final g ops).2.limit b.st k).1 = _ :=
      towerSem_R b.depth ▸ (drainLoop_spec (tower_laws b.depth) _ b.st k ho.inv hk
        (by have := ho.mu; have := hs.limit; omega)).1
    refine ⟨(final g ops).1.rest, ?_, by rw [hd]; simp [Scenario.sData, hsrc]⟩
    rw [model_snoc]
    simp only [step, hb, drainOp, hdr, ho.content, ho.trm, Scenario.sTerm, hsrc, if_true]
  · cases hc.symm.trans hcl.tclosed

example : ∃ (g : Scenario) (ops : List Op), okRuns g.sched = true ∧ g.kind = .src ∧
    (∀ op ∈ ops, op ≠ .close) ∧ ops = [.hasBody, .read 2, .hasBody, .read 0, .hasBody] :=
  ⟨{ kind := .src, data := [1, 2, 3, 4, 5], term := .user 4, together := true, sched := [0, 2, 0, 0, 1],
     cerr := none, cl := 0, hdr := [] }, _, by decide, rfl, by decide, rfl⟩

/-- The special case of the statement as worded: probe any number of times, then drain. -/
theorem probes_then_drain (g : Scenario) (hok : okRuns g.sched = true) (hsrc : g.kind = .src)
    (m k : Nat) (hk : 0 < k) :
    ∃ a, (model g (List.replicate m .hasBody ++ [.drain k])).1 =
      List.replicate m (.has a) ++ [.dr g.data (some g.term) false] := by
  obtain ⟨a, ha⟩ := probes_agree g hok [] m
  have ha : (model g (List.replicate m .hasBody)).1 = List.replicate m (.has a) := ha
  obtain ⟨d, h1, h2⟩ := integrity g hok hsrc (List.replicate m .hasBody)
    (by intro op hop; rw [List.mem_replicate] at hop; rw [hop.2]; intro h; cases h) k hk
  refine ⟨a, ?_⟩
  rw [ha, delivered_replicate_has, List.nil_append] at h2
  rw [h1, ha, h2]

example : okRuns sample.sched = true ∧ sample.kind = .src ∧ 0 < 3 := by decide

/-- "Closing the body closes the underlying stream exactly once": once a probe has wrapped the body
(no length declared), however many `Close` calls a history contains, and whatever else it does, the
underlying stream is closed once if there is a `Close`, and not at all otherwise. -/
theorem close_once (g : Scenario) (hok : okRuns g.sched = true) (hsrc : g.kind = .src)
    (hcl : ¬ 0 < g.cl) (hh : g.hdr = []) (ops : List Op) :
    (model g (.hasBody :: ops)).2.1 = if ops.contains .close then 1 else 0 := by
  have hu : takesOver g = true := by simp [takesOver, undeclared, hcl, hh, hsrc]
  obtain ⟨h1, h2⟩ := final_probe hok hu [] ops
  rw [closes_eq hok hsrc, List.nil_append] at *
  rw [h1, h2]
  exact Nat.zero_add _

example : ∃ g : Scenario, okRuns g.sched = true ∧ g.kind = .src ∧ ¬ 0 < g.cl ∧ g.hdr = [] :=
  ⟨{ kind := .src, data := [7, 8], term := .eof, together := false, sched := [1, 0, 1],
     cerr := some (.user 3), cl := -1, hdr := [] }, by decide⟩

/-! ## The body after asking is the library's

Every history that contains a probe is `ops1 ++ HasBody :: ops2` with `ops1` free of probes; what
happens in `ops1` is between the caller and its own stream. -/

/-- On requests as net/http produces them, "no `Content-Length` header and `ContentLength ≤ 0`" is
the text's "no length being declared". -/
theorem undeclared_iff (g : Scenario) (hwf : lenWF g = true) :
    undeclared g = true ↔ declared g = none := by
  rw [declared_eq hwf]
  cases undeclared g <;> simp

/-- "Closing the body closes the underlying stream exactly once", for the body as it is after
asking: whatever the caller did to its own stream before the first probe (`ops1`), all the `Close`
calls that follow the probe — with any reads, drains and further probes in between — close the
underlying stream once if there is one, and not at all otherwise. -/
theorem after_probe_closes_once (g : Scenario) (hok : okRuns g.sched = true) (hsrc : g.kind = .src)
    (hu : undeclared g = true) (ops1 ops2 : List Op) (h1 : ∀ op ∈ ops1, op ≠ .hasBody) :
    (model g (ops1 ++ .hasBody :: ops2)).2.1 =
      ops1.count .close + (if ops2.contains .close then 1 else 0) := by
  obtain ⟨h3, h4⟩ := final_probe hok (takesOver_of hsrc hu) ops1 ops2
  obtain ⟨h5, h6⟩ := final_unwrapped hsrc ops1 h1
  rw [closes_eq hok hsrc, h3, h4, h5, h6]
  rfl

example : ∃ (g : Scenario) (ops1 : List Op), okRuns g.sched = true ∧ g.kind = .src ∧
    undeclared g = true ∧ (∀ op ∈ ops1, op ≠ .hasBody) ∧ ops1 = [.read 1, .close, .read 2] :=
  ⟨{ kind := .src, data := [], term := .eof, together := false, sched := [0, 0], cerr := none,
     cl := -1, hdr := [] }, _, by decide, rfl, by decide, by decide, rfl⟩

/-- The instance the text is about — an empty body, probed, closed twice, read: one close of the
underlying stream, and the read is answered without asking the stream. -/
theorem empty_body_probe_close_close_read :
    model { kind := .src, data := [], term := .eof, together := false, sched := [], cerr := none,
            cl := 0, hdr := [] } [.hasBody, .close, .close, .read 8] =
      ([.has false, .cl none false, .cl (some .already) false, .rd [] (some .ueof)], 1, 0) := by
  decide

/-- The same for a probe at ANY position of a history (earlier probes and closes included): the
`Close` calls that follow it close the underlying stream at most once more, and not at all when
there is none. -/
theorem after_any_probe_at_most_once (g : Scenario) (hok : okRuns g.sched = true)
    (hsrc : g.kind = .src) (hu : undeclared g = true) (ops1 ops2 : List Op) :
    (model g (ops1 ++ [.hasBody])).2.1 ≤ (model g (ops1 ++ .hasBody :: ops2)).2.1 ∧
    (model g (ops1 ++ .hasBody :: ops2)).2.1 ≤ (model g (ops1 ++ [.hasBody])).2.1 + 1 ∧
    (ops2.contains .close = false →
      (model g (ops1 ++ .hasBody :: ops2)).2.1 = (model g (ops1 ++ [.hasBody])).2.1) := by
  obtain ⟨h1, h2⟩ := final_probe hok (takesOver_of hsrc hu) ops1 []
  obtain ⟨h3, h4⟩ := final_probe hok (takesOver_of hsrc hu) ops1 ops2
  rw [closes_eq hok hsrc, closes_eq hok hsrc, h1, h2, h3, h4]
  cases (final g ops1).1.lib <;> cases ops2.contains .close <;> simp

example : okRuns sample.sched = true ∧ sample.kind = .src ∧ undeclared sample = true := by decide

/-- After a probe took the body over, no `Close` of the history lands directly on the caller's
stream: every one goes through the library's body (any request kind with a body, any position of
the probe). -/
theorem after_probe_no_direct_close (g : Scenario) (hok : okRuns g.sched = true)
    (hu : takesOver g = true) (ops1 ops2 : List Op) :
    ∃ outs2, (model g (ops1 ++ .hasBody :: ops2)).1 = (model g (ops1 ++ [.hasBody])).1 ++ outs2 ∧
      outs2.length = ops2.length ∧ ∀ e, Out.cl e true ∉ outs2 := by
  have hassoc : ops1 ++ Op.hasBody :: ops2 = (ops1 ++ [.hasBody]) ++ ops2 := by simp
  rw [hassoc]
  show ∃ outs2, (runOps g.req ((ops1 ++ [.hasBody]) ++ ops2)).1 = _ ∧ _
  rw [runOps_append]
  exact ⟨_, rfl, runOps_length _ _, run_wrapped_outs ops2 _ (final_wrapped hok hu ops1)⟩

example : ∃ g : Scenario, okRuns g.sched = true ∧ takesOver g = true ∧ g.kind = .nobody :=
  ⟨{ kind := .nobody, data := [], term := .eof, together := false, sched := [], cerr := none,
     cl := 0, hdr := [] }, by decide⟩

/-- "Reads after close … rather than returning stale data", at the underlying stream: when every
`Close` of a history comes after a probe, no `Read` ever reaches the underlying stream after it
was closed — the library's body answers them itself. -/
theorem no_read_reaches_closed_stream (g : Scenario) (hok : okRuns g.sched = true)
    (hsrc : g.kind = .src) (hu : undeclared g = true) (ops1 ops2 : List Op)
    (h1 : ∀ op ∈ ops1, op ≠ .close) :
    (model g (ops1 ++ .hasBody :: ops2)).2.2 = 0 := by
  apply late_eq hok hsrc
  rw [(final_probe hok (takesOver_of hsrc hu) ops1 ops2).1]
  exact (final_noclose ops1 h1).1

example : ∃ (g : Scenario) (ops1 : List Op), okRuns g.sched = true ∧ g.kind = .src ∧
    undeclared g = true ∧ (∀ op ∈ ops1, op ≠ .close) ∧ ops1 = [.read 1, .hasBody, .drain 2] :=
  ⟨{ kind := .src, data := [9], term := .user 2, together := true, sched := [0], cerr := some (.user 1),
     cl := 0, hdr := [] }, _, by decide, rfl, by decide, by decide, rfl⟩

/-! ## The Spec is not satisfied by leaving the caller's stream in place

What a `HasBody` that installs its wrapper only when the probe finds content does on an empty body
(`h,c,c` and `h,c,r8`: the request still holds the caller's stream). -/

def emptySrc : Scenario :=
  { kind := .src, data := [], term := .eof, together := false, sched := [], cerr := none, cl := 0, hdr := [] }

/-- Two closes reported as direct after the probe, the underlying stream closed twice: rejected. -/
theorem spec_rejects_unwrapped_double_close :
    specTrace emptySrc [.hasBody, .close, .close]
      [.has false, .cl none true, .cl none true] 2 0 = false := by decide

/-- Already the first direct close after the probe is rejected, whatever the counters say. -/
theorem spec_rejects_direct_close_after_probe :
    specTrace emptySrc [.hasBody, .close] [.has false, .cl none true] 1 0 = false := by decide

/-- Two closes through a body that forwards both to the underlying stream: rejected by the count. -/
theorem spec_rejects_forwarded_double_close :
    specTrace emptySrc [.hasBody, .close, .close]
      [.has false, .cl none false, .cl none false] 2 0 = false := by decide

/-- A read after close that fails, but only because it reached the closed underlying stream:
rejected by the late-read counter (and accepted when the library answers it itself). -/
theorem spec_rejects_read_reaching_closed_stream :
    specTrace emptySrc [.hasBody, .close, .read 8]
      [.has false, .cl none false, .rd [] (some .srcClosed)] 1 1 = false ∧
    specTrace emptySrc [.hasBody, .close, .read 8]
      [.has false, .cl none false, .rd [] (some .ueof)] 1 0 = true := by decide

/-- A direct close BEFORE any probe stays the caller's own, and is accepted as before. -/
theorem spec_accepts_direct_close_before_probe :
    specTrace emptySrc [.close, .hasBody, .close]
      [.cl none true, .has false, .cl none false] 2 1 = true := by decide

/-- "Reads after close fail rather than returning stale data": after a `Close` anywhere in a
history, and whatever happens in between (further probes included), a `Read` returns no data, and
an error when its buffer is not empty. -/
theorem read_after_close (g : Scenario) (hok : okRuns g.sched = true) (hsrc : g.kind = .src)
    (ops1 ops2 : List Op) (k : Nat) :
    ∃ e, (model g (ops1 ++ .close :: (ops2 ++ [.read k]))).1 =
        (model g (ops1 ++ .close :: ops2)).1 ++ [.rd [] e] ∧ (0 < k → e ≠ none) := by
  have hassoc : ops1 ++ Op.close :: (ops2 ++ [.read k]) = (ops1 ++ Op.close :: ops2) ++ [.read k] := by simp
  have hs := (run_init hok (ops1 ++ Op.close :: ops2)).2
  obtain ⟨b, hb, ho | hc⟩ := sim_src _ hs hsrc
  · cases ho.tclosed.symm.trans (final_closed hok hsrc ops1 ops2)
  · obtain ⟨h1, h2, _⟩ := (tower_laws b.depth).dead_read b.st k hc.dead
    rw [towerSem_R] at h1 h2
    refine ⟨((tower b.depth).read b.st k).1.2, ?_, h2⟩
    rw [hassoc, model_snoc]
    simp only [step, hb, readOp, h1]

example : okRuns sample.sched = true ∧ sample.kind = .src := by decide

/-- `HasBody` on a nil body stores a typed-nil `*peekingReader`; closing, reading, closing again and
probing again all work on it (before the repair the first `Close` dereferenced nil). -/
theorem nil_body_probe_then_close :
    model { kind := .nilpr, data := [], term := .eof, together := false, sched := [], cerr := none,
            cl := 0, hdr := [] } [.hasBody, .close, .read 5, .close, .hasBody, .close, .close] =
      ([.has false, .cl none false, .rd [] (some .eof), .cl none false, .has false,
        .cl none false, .cl (some .already) false], 0, 0) := by
  decide

end RtVerif.C17
