import RtVerif.Model.C08
import RtVerif.Lemmas.C08
/-
  `respond` / `serve` are transcriptions of `Context.Respond` and of the handler built by
  `Context.APIHandler`; the theorems state, for every configuration, route, request, handler
  outcome and producer behaviour, what the property text demands of them, first clause by clause
  and then as "the model meets the executable Spec" (the Spec the driver applies to the real code).
-/
namespace RtVerif.C08
open RtVerif Bytes

/-- Status = the declared success status, Content-Type = the negotiated type, no body for HEAD /
204; otherwise the producer looked up for that type (parameters ignored) writes the value and is the
only one called: by `pickProducer_registered`, the producer registered for it when there is one. -/
theorem plain_value_response (cfg : Cfg) (produces : List Bytes) (r : Route) (req : Req)
    (enc : Bytes → ProdRes) (ebody : Bytes) (code : Nat)
    (hop : r.hasOp = true) (hs : r.success = some code) :
    respond cfg produces (some r) req .value enc ebody =
      if code == 204 || req.method == headB then { ct := negotiated cfg produces req, status := code }
      else match pickProducer cfg r (stripParams (negotiated cfg produces req)) with
        | some k => produceOrPanic enc k { ct := negotiated cfg produces req, status := code }
        | none => { ct := negotiated cfg produces req, status := code, outcome := .panicNoProducer } := by
  simp only [respond, routeHasOp, hop, if_true, respondPlainOp, hs, responseFormat_eq, lookupKey_eq]
  rfl

/-- The negotiated type (hence the Content-Type of every handler result) is one of the operation's
produces entries or the API default — or empty when the Accept header admits none of them. -/
theorem negotiated_is_declared_or_default (cfg : Cfg) (produces : List Bytes) (req : Req)
    (hmemo : req.memo = none) :
    negotiated cfg produces req = [] ∨ negotiated cfg produces req ∈ produces ∨
      negotiated cfg produces req = cfg.dflt := by
  unfold negotiated
  rw [hmemo]
  rcases C07.specChoice_mem req.specs (produces.filter (· != cfg.dflt) ++ [cfg.dflt]) [] with h | h
  · exact Or.inl h
  · rcases List.mem_append.mp h with h | h
    · exact Or.inr (Or.inl (List.mem_filter.mp h).1)
    · exact Or.inr (Or.inr (by simpa using h))

def exJSON : Bytes := [97, 112, 112, 108, 105, 99, 97, 116, 105, 111, 110, 47, 106, 115, 111, 110]
def exText : Bytes := [116, 101, 120, 116, 47, 112, 108, 97, 105, 110]                         -- text/plain
def exTextCharset : Bytes := exText ++ [59, 32, 99, 104, 97, 114, 115, 101, 116, 61, 117, 116, 102, 45, 56]  -- text/plain; charset=utf-8
def exPNG : Bytes := [105, 109, 97, 103, 101, 47, 112, 110, 103]                              -- image/png
def exGET : Bytes := [71, 69, 84]
def exCfg : Cfg := ⟨exJSON, [exJSON, exText]⟩
/-- `produces: ["text/plain; charset=utf-8"]` as the router stores it (default appended) -/
def exRoute : Route := ⟨[exTextCharset, exJSON], true, some 200⟩
def exEnc (k : Bytes) : ProdRes := if k == exText then ⟨true, [104, 105]⟩ else ⟨true, [34, 104, 105, 34, 10]⟩
def exReq : Req := ⟨exGET, [], none, []⟩
/-- `Accept: image/png` -/
def exAcceptPNG : List C07.Spec := [⟨exPNG, ⟨1, 0, 0⟩⟩]

/-- F08a, repaired: `produces: text/plain; charset=utf-8` is answered by the text/plain producer,
under the negotiated header, with the declared status (hypotheses of `plain_value_response` met). -/
example :
    exRoute.hasOp = true ∧ exRoute.success = some 200 ∧ ¬(200 = 204 ∨ exReq.method = headB) ∧
    negotiated exCfg exRoute.produces exReq = exTextCharset ∧
    registeredFor exCfg exRoute (stripParams (negotiated exCfg exRoute.produces exReq)) = true ∧
    (respond exCfg exRoute.produces (some exRoute) exReq .value exEnc []).calls = [(exText, true)] ∧
    (respond exCfg exRoute.produces (some exRoute) exReq .value exEnc []).body = [104, 105] ∧
    (respond exCfg exRoute.produces (some exRoute) exReq .value exEnc []).ct = exTextCharset := by decide

/-- A Responder is handed the producer registered for the negotiated type (parameters ignored) —
the same one a plain value would be written with; `middleware.Error(code, payload)`
(`errorResp.WriteResponse`) writes its status, and its payload encoded by that same producer. -/
theorem responder_receives_that_producer {cfg : Cfg} {produces : List Bytes} {r : Route} {req : Req}
    (hreg : registeredFor cfg r (stripParams (negotiated cfg produces req)) = true)
    (d : Data) (enc : Bytes → ProdRes) (ebody : Bytes) (hv : d ≠ .value) (he : ∀ e s, d ≠ .error e s) :
    respond cfg produces (some r) req d enc ebody =
      match d with
      | .errorResp code => produce enc (stripParams (negotiated cfg produces req))
          { ct := negotiated cfg produces req, status := if code > 0 then code else 500 }
      | _ => { ct := negotiated cfg produces req, handed := [stripParams (negotiated cfg produces req)],
               status := 209 } := by
  cases d with
  | value => exact absurd rfl hv
  | error e s => exact absurd rfl (he e s)
  | _ =>
    simp only [respond, respondResponder, responseFormat_eq, ← stripParams_eq,
      pickProducer_registered hreg]

example : registeredFor exCfg exRoute (stripParams (negotiated exCfg exRoute.produces exReq)) = true ∧
    (respond exCfg exRoute.produces (some exRoute) exReq .custom exEnc []).handed = [exText] := by decide

/-- An error handed to `Respond` reaches the API's error responder, exactly once and as it is, with
the JSON content type if nothing was negotiated (the negotiated type otherwise) and with the
`WWW-Authenticate` challenge when a basic authenticator marked the request; the status is the
error's, and `Respond` runs no handler. -/
theorem error_reaches_error_responder (cfg : Cfg) (produces : List Bytes) (route : Option Route) (req : Req)
    (e : ErrV) (s : Bool) (enc : Bytes → ProdRes) (ebody : Bytes) :
    respond cfg produces route req (.error e s) enc ebody =
      { status := serveStatus e, ct := errorsJSON, body := ebody
        www := if req.marker != [] then [challenge req.marker] else []
        errcalls := [⟨e, s,
          if negotiated cfg produces req == [] then jsonMime else negotiated cfg produces req,
          if req.marker != [] then challenge req.marker else []⟩] } := by
  simp only [respond, responseFormat_eq, respondError_eq]
  rfl

/-- When the marker is set: a basic authenticator marks the request with its configured realm (the
documented default name for an empty one) exactly when the request carries no basic credentials or
the authentication function rejects them with an error. -/
theorem basicMarker_iff (realm : Bytes) (creds : Bool) (fn : AuthFn) :
    ((creds = false ∨ ∃ e, fn = .err e) → basicMarker realm creds fn = effRealm realm) ∧
    (¬(creds = false ∨ ∃ e, fn = .err e) → basicMarker realm creds fn = []) := by
  cases creds <;> cases fn <;> simp [basicMarker]

/-- A failed basic-auth attempt (no basic credentials, or credentials the authentication function
rejects) is answered through the error responder with `WWW-Authenticate: Basic realm="<realm>"`
naming the configured realm; the handler does not run. -/
theorem failed_basic_auth_is_challenged (c : ApiCase) (enc : Bytes → ProdRes) (ebody : Bytes) (realm : Bytes)
    (hsec : c.sec = some realm) (hfail : c.creds = false ∨ ∃ e, c.fn = .err e) :
    (serve c enc ebody).www = [challenge (effRealm realm)] ∧
    (∃ call, (serve c enc ebody).errcalls = [call] ∧ call.www = challenge (effRealm realm)) ∧
    (serve c enc ebody).ran = false := by
  obtain ⟨e, s, hout⟩ : ∃ e s, serve c enc ebody = respond c.cfg c.route.produces (some c.route)
      ⟨c.method, c.specs, none, effRealm realm⟩ (.error e s) enc ebody := by
    cases hc : c.creds with
    | false => exact ⟨_, _, serve_no_creds c enc ebody hsec hc⟩
    | true =>
      obtain ⟨e, he⟩ := hfail.resolve_left (by simp [hc])
      exact ⟨_, _, serve_rejected c enc ebody hsec hc he⟩
  have hb : (effRealm realm != []) = true := by simpa using effRealm_ne_nil realm
  rw [hout, error_reaches_error_responder]
  simp [hb]

/-- The error the authentication function returned is the one the error responder receives. -/
theorem rejected_credentials_error_is_served (c : ApiCase) (enc : Bytes → ProdRes) (ebody : Bytes)
    (realm : Bytes) (e : ErrV) (hsec : c.sec = some realm) (hc : c.creds = true) (hfn : c.fn = .err e) :
    ∃ call, (serve c enc ebody).errcalls = [call] ∧ call.cls = e ∧ call.supplied = true ∧
      (serve c enc ebody).status = serveStatus e := by
  rw [serve_rejected c enc ebody hsec hc hfn, error_reaches_error_responder]
  exact ⟨_, rfl, rfl, rfl, rfl⟩

example :  -- absent credentials, realm "my realm" … and the empty realm falls back to "API"
    (serve ⟨exCfg, exRoute, exGET, [], some [109, 121], false, .ok, .value⟩ exEnc []).www
      = [[66, 97, 115, 105, 99, 32, 114, 101, 97, 108, 109, 61, 34, 109, 121, 34]] ∧
    (serve ⟨exCfg, exRoute, exGET, [], some [], true, .err (.api 401), .value⟩ exEnc []).www
      = [[66, 97, 115, 105, 99, 32, 114, 101, 97, 108, 109, 61, 34, 65, 80, 73, 34]] := by decide

/-- the security stage lets the request through: unprotected operation, or accepted credentials -/
def AuthPasses (c : ApiCase) : Prop := c.sec = none ∨ (c.creds = true ∧ c.fn = .ok)

theorem serve_of_pass {c : ApiCase} (hauth : AuthPasses c) (enc : Bytes → ProdRes) (ebody : Bytes) :
    serve c enc ebody = afterAuth c enc ebody := by
  rcases hauth with h | ⟨h1, h2⟩
  · simp [serve, h]
  · cases hs : c.sec <;> simp [serve, hs, authorize, h1, h2]

/-- C07 (T6): a request whose Accept header admits none of the types its operation declares
(non-empty) is answered 406 through the error responder, and the handler does not run. -/
theorem not_acceptable_is_406 (c : ApiCase) (enc : Bytes → ProdRes) (ebody : Bytes)
    (hauth : AuthPasses c) (hne : c.route.produces ≠ [])
    (hnone : C07.specChoice c.specs c.route.produces [] = []) :
    (serve c enc ebody).status = 406 ∧ (serve c enc ebody).ran = false ∧
    (∃ call, (serve c enc ebody).errcalls = [call] ∧ call.cls = .compApi 406) := by
  have hna : notAcceptable c = true := by simp [notAcceptable_eq, hnone, hne]
  rw [serve_of_pass hauth, afterAuth, if_pos hna, error_reaches_error_responder]
  exact ⟨rfl, rfl, _, rfl, rfl⟩

example :  -- `Accept: image/png` against produces text/plain (+ JSON default): hypotheses met, 406
    AuthPasses ⟨exCfg, exRoute, exGET, exAcceptPNG, none, false, .ok, .value⟩ ∧ exRoute.produces ≠ [] ∧
    C07.specChoice exAcceptPNG exRoute.produces [] = [] ∧
    (serve ⟨exCfg, exRoute, exGET, exAcceptPNG, none, false, .ok, .value⟩ exEnc []).status = 406 :=
  ⟨Or.inl rfl, by decide, by decide, by decide⟩

/-- Otherwise the handler runs and its outcome goes through `Respond` (so the clauses above apply
to every request served by the API handler). -/
theorem handler_outcome_is_responded (c : ApiCase) (enc : Bytes → ProdRes) (ebody : Bytes)
    (hauth : AuthPasses c)
    (hacc : c.route.produces = [] ∨ C07.specChoice c.specs c.route.produces [] ≠ []) :
    serve c enc ebody =
      { respond c.cfg c.route.produces (some c.route) ⟨c.method, c.specs, none, []⟩ c.data enc ebody
        with ran := true } := by
  have hna : notAcceptable c = false := by
    rcases hacc with h | h <;> simp [notAcceptable_eq, h]
  rw [serve_of_pass hauth, afterAuth, hna]
  rfl

/-- The error clause of the Spec holds for every `Respond` call that is handed an error. -/
theorem error_clause_holds (cfg : Cfg) (produces : List Bytes) (route : Option Route) (req : Req)
    (failedBasic : Option Bytes) (e : ErrV) (s : Bool) (enc : Bytes → ProdRes) (ebody : Bytes)
    (hfb : ∀ realm, failedBasic = some realm → req.marker = effRealm realm) :
    specError (negotiated cfg produces req) e s failedBasic
      (respond cfg produces route req (.error e s) enc ebody) = true := by
  rw [error_reaches_error_responder]
  cases failedBasic with
  | none => simp [specError]
  | some realm =>
    have hne : (effRealm realm != []) = true := by simpa using effRealm_ne_nil realm
    simp only [specError, hfb realm rfl, hne, if_true]
    simp [challenge, effRealm]

/-- Every `Respond` call satisfies the Spec — all configurations, routes, requests, outcomes and
producer behaviours; `failedBasic` is tied to the request by the marker the authenticator left. -/
theorem respond_meets_spec (cfg : Cfg) (produces : List Bytes) (route : Option Route) (req : Req)
    (failedBasic : Option Bytes) (d : Data) (enc : Bytes → ProdRes) (ebody : Bytes)
    (hfb : ∀ realm, failedBasic = some realm → req.marker = effRealm realm) :
    specRespond cfg produces route req failedBasic d enc (respond cfg produces route req d enc ebody) = true := by
  cases d with
  | error e s => exact error_clause_holds cfg produces route req failedBasic e s enc ebody hfb
  | value =>
    simp only [specRespond]
    cases hr : routeHasOp route with
    | none => rfl
    | some r =>
      obtain ⟨rfl, hop⟩ := routeHasOp_some hr
      cases hs : r.success with
      | none => simp only [hs]
      | some code =>
        simp only [hs, plain_value_response cfg produces r req enc ebody code hop hs]
        cases code == 204 || req.method == headB
        · simp only [Bool.false_eq_true, if_false]
          cases hreg : registeredFor cfg r (stripParams (negotiated cfg produces req))
          · split <;> simp
          · simp [pickProducer_registered hreg]
        · simp
  | custom | errResponder | errorResp _ =>
    simp only [specRespond]
    cases route with
    | none => rfl
    | some r =>
      simp only
      split
      · rename_i hreg
        simp [responder_receives_that_producer hreg]
      · rfl

example :  -- the hypothesis is met by what the authenticator does: the marker it leaves
    ∀ realm, (some [109, 121] : Option Bytes) = some realm →
      (⟨exGET, [], none, basicMarker [109, 121] false .ok⟩ : Req).marker = effRealm realm := by
  intro realm h; cases h; decide

/-- The Spec's demands on a request that passed the security stage: 406 without running the handler
when nothing is acceptable, otherwise the handler ran and its outcome meets the `Respond` clauses. -/
theorem authenticated_request_meets_spec (c : ApiCase) (enc : Bytes → ProdRes) (ebody : Bytes) (hauth : AuthPasses c) :
    (if (!c.route.produces.isEmpty && C07.specChoice c.specs c.route.produces [] == []) = true then
      (serve c enc ebody).status == 406 && !(serve c enc ebody).ran &&
        specError (negotiated c.cfg c.route.produces ⟨c.method, c.specs, none, []⟩) (.compApi 406) false none
          (serve c enc ebody)
    else (serve c enc ebody).ran &&
      specRespond c.cfg c.route.produces (some c.route) ⟨c.method, c.specs, none, []⟩ none c.data enc
        (serve c enc ebody)) = true := by
  rw [serve_of_pass hauth, afterAuth, ← notAcceptable_eq]
  cases notAcceptable c
  · simp only [Bool.false_eq_true, if_false, Bool.true_and, specRespond_ran]
    exact respond_meets_spec _ _ _ _ none _ _ _ nofun
  · simpa [error_reaches_error_responder, serveStatus, asHTTPCode] using error_clause_holds c.cfg
      c.route.produces (some c.route) ⟨c.method, c.specs, none, []⟩ none (.compApi 406) false enc ebody nofun

/-- Every request served through the API handler satisfies the Spec: the challenge for failed
basic attempts, 406 without running the handler when nothing is acceptable, and the `Respond`
clauses for whatever the handler returned. -/
theorem serve_meets_spec (c : ApiCase) (enc : Bytes → ProdRes) (ebody : Bytes) :
    specServe c enc (serve c enc ebody) = true := by
  -- a failed basic attempt: the error `e` went to the responder, with the challenge
  have failed : ∀ realm e s, specError (negotiated c.cfg c.route.produces ⟨c.method, c.specs, none, []⟩)
      e s (some realm) (respond c.cfg c.route.produces (some c.route)
        ⟨c.method, c.specs, none, effRealm realm⟩ (.error e s) enc ebody) = true :=
    fun realm e s => error_clause_holds c.cfg c.route.produces (some c.route)
      ⟨c.method, c.specs, none, effRealm realm⟩ (some realm) e s enc ebody (fun _ h => by cases h; rfl)
  unfold specServe
  cases hsec : c.sec with
  | none => exact authenticated_request_meets_spec c enc ebody (Or.inl hsec)
  | some realm =>
    cases hc : c.creds with
    | false =>
      rw [serve_no_creds c enc ebody hsec hc]
      simpa [error_reaches_error_responder] using failed realm (.api 401) false
    | true =>
      cases hfn : c.fn with
      | ok => exact authenticated_request_meets_spec c enc ebody (Or.inr ⟨hc, hfn⟩)
      | nilnil => rfl
      | err e =>
        rw [serve_rejected c enc ebody hsec hc hfn]
        simpa [error_reaches_error_responder] using failed realm e true

/-- the body of a quoted string, read back (`esc`: the previous byte was a backslash): `\\c` stands
for `c`, a bare `"` or a trailing backslash is malformed -/
def unqGo : Bool → Bytes → Option Bytes
  | false, [] => some []
  | true, [] => none
  | true, c :: r => (unqGo false r).map (c :: ·)
  | false, c :: r =>
    if c == 92 then unqGo true r else if c == 34 then none else (unqGo false r).map (c :: ·)

def unqBody (l : Bytes) : Option Bytes := unqGo false l

/-- `"…"` read back -/
def unquote : Bytes → Option Bytes
  | [] => none
  | c :: t => if c == 34 && t.getLast? == some 34 then unqBody t.dropLast else none

/-- the realm a client reads from a `WWW-Authenticate: Basic realm="…"` value -/
def realmOfChallenge (h : Bytes) : Option Bytes :=
  if h.take basicRealmEq.length == basicRealmEq then unquote (h.drop basicRealmEq.length) else none

theorem unqBody_escapes (s : Bytes) :
    unqBody (s.flatMap (fun b => if b == 34 || b == 92 then [92, b] else [b])) = some s := by
  unfold unqBody
  induction s with
  | nil => rfl
  | cons x xs ih =>
    rw [List.flatMap_cons]
    by_cases hx : (x == 34 || x == 92) = true
    · -- an escaped byte: the backslash is dropped, the byte kept whatever it is
      simp only [hx, List.cons_append, List.nil_append, unqGo, beq_self_eq_true, ↓reduceIte, ih,
        Option.map_some]
    · have h : (x == 34) = false ∧ (x == 92) = false := by simpa using hx
      simp only [h.1, h.2, Bool.or_self, Bool.false_eq_true, ↓reduceIte, List.cons_append,
        List.nil_append, unqGo, ih, Option.map_some]

theorem unquote_goQuote (s : Bytes) : unquote (goQuote s) = some s := by
  unfold goQuote
  simp only [List.cons_append, List.nil_append, unquote, List.getLast?_concat, List.dropLast_concat,
    beq_self_eq_true, Bool.and_self, if_true]
  exact unqBody_escapes s

/-- **Round trip of the challenge**: whatever realm is configured (any bytes, quotes and backslashes
included), the header value the server sends reads back as exactly that realm. -/
theorem realmOfChallenge_challenge (realm : Bytes) : realmOfChallenge (challenge realm) = some realm := by
  unfold realmOfChallenge challenge
  rw [List.take_left', List.drop_left']
  · simp only [beq_self_eq_true, if_true]; exact unquote_goQuote realm
  · rfl
  · rfl

example : realmOfChallenge (challenge [97, 34, 92, 98]) = some [97, 34, 92, 98] := by decide

/-- quoting can be read back, so it loses nothing -/
theorem goQuote_injective (a b : Bytes) (h : goQuote a = goQuote b) : a = b :=
  Option.some.inj (unquote_goQuote a ▸ unquote_goQuote b ▸ congrArg unquote h)

/-- Two challenges are equal only for equal realms: the header *names* the realm. -/
theorem challenge_injective (a b : Bytes) (h : challenge a = challenge b) : a = b :=
  goQuote_injective a b (List.append_cancel_left h)

/-- A failed basic-auth attempt for configured realm `r1` is never answered with the challenge of a
different configured (non-empty) realm `r2`. -/
theorem challenge_distinguishes_realms (r1 r2 : Bytes) (h1 : r1 ≠ []) (h2 : r2 ≠ [])
    (h : challenge (effRealm r1) = challenge (effRealm r2)) : r1 = r2 := by
  simpa [effRealm, h1, h2] using challenge_injective _ _ h

theorem foldl_optMin (l : List Nat) (a : Nat) :
    l.foldl (fun acc c => match acc with | none => some c | some m => some (min m c)) (some a) =
      some (l.foldl min a) := by
  induction l generalizing a with
  | nil => rfl
  | cons x xs ih => exact ih (min a x)

theorem declaredSuccess_eq_min? (codes : List Nat) :
    declaredSuccess codes = (codes.filter fun c => 200 ≤ c && c < 300).min? := by
  unfold declaredSuccess
  cases codes.filter fun c => 200 ≤ c && c < 300 with
  | nil => rfl
  | cons x xs => exact foldl_optMin xs x

/-- `declaredSuccess` answers a declared 2xx code that no other declared 2xx code is below. -/
theorem declaredSuccess_is_lowest_2xx (codes : List Nat) (m : Nat) (h : declaredSuccess codes = some m) :
    m ∈ codes ∧ 200 ≤ m ∧ m < 300 ∧ ∀ c ∈ codes, 200 ≤ c → c < 300 → m ≤ c := by
  rw [declaredSuccess_eq_min?, List.min?_eq_some_iff] at h
  have hm := List.mem_filter.mp h.1
  simp only [Bool.and_eq_true, decide_eq_true_eq] at hm
  exact ⟨hm.1, hm.2.1, hm.2.2, fun c hc h200 h300 =>
    h.2 c (List.mem_filter.mpr ⟨hc, by simp [h200, h300]⟩)⟩

/-- and it answers nothing exactly when no 2xx code is declared (default-only responses) -/
theorem declaredSuccess_none_iff (codes : List Nat) :
    declaredSuccess codes = none ↔ ∀ c ∈ codes, ¬(200 ≤ c ∧ c < 300) := by
  simp [declaredSuccess_eq_min?]

example : declaredSuccess [404, 201, 200, 500] = some 200 := by decide
example : declaredSuccess [404, 500] = none := by decide

end RtVerif.C08
