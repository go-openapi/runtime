import RtVerif.Model.C05
/-
  C05DA — the BASE/CHECK double array of denco, inside the model.

  `Model/C05.lean` treats the router as a DFS over the implicit trie of the raw keys and abstracts
  the double array as the child function of that trie.  This file is the executable model of the
  double array itself (`middleware/denco/router.go`: `doubleArray`, `baseCheck`, `build`, `arrange`,
  `findBase`, `findEmptyIndex`, `makeSiblings`, `SetBase/SetCheck`, `nextIndex`, `lookup`,
  `Router.Build`, `Router.Lookup`), transcribed statement by statement.  `Props/C05DA.lean` proves
  that it refines the trie model, so that every C05 theorem transfers to the array level.

  Representation choices (each one is exercised by the correspondence stream, which compares the
  REAL arrays element for element with the ones computed here):
  * an element of `bc` (a `uint32`: BASE 22 bits | flags 2 bits | CHECK 8 bits) is the record
    `Elem`; `Elem.encode` is the `uint32`.  `SetBase`/`SetCheck` OR into the word, as in Go.
  * a record carries its REMAINING key (`Key[depth:]`) instead of `(Key, depth)`: all records handed
    to one `build` call share `Key[:depth]`, so sorting by `Key` is sorting by the remaining key.
  * Go slices are immutable lists (the sub-slices `srcs[start:end]` of the siblings are disjoint).
  * `usedBase` (a Go map used as a set) is a list.
  * Go's recursion (`build`, `lookup`) is unbounded; here it runs on fuel, running out of fuel is the
    explicit outcome `fuel` (Props/C05DA: it never happens for the fuel `Router.Build` provides).
  * a Go run-time panic (index out of range, nil dereference, slice bounds) is the outcome `panic`.
-/
namespace RtVerif.C05DA
open RtVerif Bytes
open RtVerif.C05 (Rec cParam cWild cTerm cSep isReserved notKeySep notPathSep sortRecs)

/-! ## `baseCheck` -/

/-- One element of `doubleArray.bc`. -/
structure Elem where
  base : Nat := 0        -- bits 10..31
  single : Bool := false -- bit 8  (`paramTypeSingle`)
  wild : Bool := false   -- bit 9  (`paramTypeWildcard`)
  check : UInt8 := 0     -- bits 0..7
deriving Repr, DecidableEq, BEq, Inhabited

/-- `MaxSize = 1<<22 - 1` -/
def maxSize : Nat := 4194303

/-- the `uint32` -/
def Elem.encode (e : Elem) : Nat :=
  1024 * e.base + (if e.wild then 512 else 0) + (if e.single then 256 else 0) + e.check.toNat

/-- `IsEmpty`: `bc & 0xfffffcff == 0` — BASE and CHECK are zero, the flags are not looked at. -/
def Elem.isEmpty (e : Elem) : Bool := e.base == 0 && e.check == 0
/-- `IsAnyParam` -/
def Elem.isAnyParam (e : Elem) : Bool := e.single || e.wild
/-- `SetBase`: `*bc |= baseCheck(base) << flagsBits` (the conversion keeps 22 bits of `base`) -/
def Elem.setBase (e : Elem) (b : Nat) : Elem := { e with base := e.base ||| (b % 4194304) }
/-- `SetCheck`: `*bc |= baseCheck(check)` -/
def Elem.setCheck (e : Elem) (c : UInt8) : Elem := { e with check := e.check ||| c }
def Elem.setSingle (e : Elem) : Elem := { e with single := true }
def Elem.setWild (e : Elem) : Elem := { e with wild := true }

/-- an entry of `doubleArray.node` -/
structure Node where
  names : List Bytes
  val : Nat
deriving Repr, DecidableEq, BEq

abbrev BC := Array Elem

/-- `da.bc[i]` read where the Go code has made sure that `i` is in range -/
def el (bc : BC) (i : Nat) : Elem := bc.getD i {}

/-- `da.bc[i].Set…()`; out of range leaves the array alone (callers that can be out of range in Go
test the index first and panic) -/
def upd (bc : BC) (i : Nat) (f : Elem → Elem) : BC := bc.modify i f

/-- `nextIndex(base, c) = base ^ int(c)` -/
def nextIndex (base : Nat) (c : UInt8) : Nat := base ^^^ c.toNat

/-- `rootIndex` -/
def rootIndex : Nat := 1

/-- `isFree`: the root is never unused -/
def isFree (bc : BC) (i : Nat) : Bool := i != rootIndex && (el bc i).isEmpty

/-! ## `findEmptyIndex`, `findBase` -/

def findEmptyFrom (bc : BC) : Nat → Nat → Nat
  | 0, i => i
  | n + 1, i => if i < bc.size then (if isFree bc i then i else findEmptyFrom bc n (i + 1)) else i

/-- `findEmptyIndex(start)`: the first unused element at or after `start`, else `len(bc)`
(`start` itself when it is beyond the array). -/
def findEmptyIndex (bc : BC) (start : Nat) : Nat := findEmptyFrom bc (bc.size - start) start

/-- `da.bc = append(da.bc, make([]baseCheck, next-len(da.bc)+1)...)` when `len(da.bc) <= next` -/
def grow (bc : BC) (next : Nat) : BC :=
  if bc.size ≤ next then bc ++ Array.replicate (next + 1 - bc.size) ({} : Elem) else bc

/-- the inner loop of `findBase`: are the places of all siblings unused? (grows `bc` on the way) -/
def tryBase (base : Nat) : List UInt8 → BC → BC × Bool
  | [], bc => (bc, true)
  | c :: cs, bc =>
    let bc := grow bc (nextIndex base c)
    if isFree bc (nextIndex base c) then tryBase base cs bc else (bc, false)

/-- the outer loop of `findBase` from the candidate `idx` on -/
def findBaseLoop (used : List Nat) (first : UInt8) (cs : List UInt8) : Nat → Nat → BC → Option (BC × Nat)
  | 0, _, _ => none
  | fuel + 1, idx, bc =>
    let base := nextIndex idx first
    if used.contains base then findBaseLoop used first cs fuel (findEmptyIndex bc (idx + 1)) bc
    else
      let r := tryBase base cs bc
      if r.2 then some (r.1, base)
      else findBaseLoop used first cs fuel (findEmptyIndex r.1 (idx + 1)) r.1

def listMax : List Nat → Nat
  | [] => 0
  | x :: xs => max x (listMax xs)

/-- iterations `findBase` can need: every candidate index beyond all elements in use and all used
bases succeeds (Lemmas/C05DABuild `findBase_ok`) -/
def findBaseFuel (bc : BC) (used : List Nat) : Nat := bc.size + listMax used + 600

/-- `findBase(siblings, start, usedBase)`; `none` = out of fuel.  `cs` are the sibling characters. -/
def findBase (bc : BC) (used : List Nat) (cs : List UInt8) (start : Nat) : Option (BC × Nat) :=
  match cs with
  | [] => none   -- `siblings[0]`: `arrange` never calls it without siblings
  | first :: _ => findBaseLoop used first cs (findBaseFuel bc used) (start + 1) bc

/-! ## `makeSiblings` -/

structure Sib where
  start : Nat
  stop : Nat
  c : UInt8
deriving Repr, DecidableEq, BEq

inductive Err where
  | reserved        -- Build: a parameterised key contains '#' or NUL
  | tooManyRecords  -- Build: more than MaxSize records
  | tooManyElems    -- arrange: BASE beyond MaxSize
  | dupName         -- makeNode: duplicated parameter name
  | notSorted       -- makeSiblings: "BUG: routing table hasn't been sorted"
  | panic           -- a Go run-time panic
  | fuel            -- the model ran out of fuel
deriving Repr, DecidableEq, BEq

/-- `sib[n-1].end = i` -/
def closeLast : List Sib → Nat → List Sib
  | [], _ => []
  | s :: t, i => { s with stop := i } :: t

/-- the loop of `makeSiblings`; `acc` holds the siblings found so far, the latest first -/
def mkSibsLoop : List Rec → Nat → UInt8 → List Sib → Option Rec → Except Err (List Sib × Option Rec)
  | [], i, _, acc, leaf => .ok ((closeLast acc i).reverse, leaf)
  | r :: rs, i, pc, acc, leaf =>
    match r.key with
    | [] => mkSibsLoop rs (i + 1) pc acc (some r)
    | c :: _ =>
      if pc < c then mkSibsLoop rs (i + 1) c (⟨i, 0, c⟩ :: closeLast acc i) leaf
      else if pc == c then mkSibsLoop rs (i + 1) pc acc leaf
      else .error .notSorted

/-- `makeSiblings(records, depth)` on the remaining keys -/
def mkSiblings (rs : List Rec) : Except Err (List Sib × Option Rec) := mkSibsLoop rs 0 0 [] none

/-! ## `build` -/

structure St where
  bc : BC
  node : Array (Option Node)
  used : List Nat
deriving Repr

/-- `arrange` after `makeSiblings`: nothing to place without siblings; else find a BASE, refuse it
beyond `MaxSize`, store it in the element `idx`.  Returns the BASE (0 when there are no siblings:
it is not used then). -/
def arrange (sibs : List Sib) (idx : Nat) (st : St) : Except Err (St × Nat) :=
  if sibs.isEmpty then .ok (st, 0)
  else
    match findBase st.bc st.used (sibs.map (·.c)) idx with
    | none => .error .fuel
    | some (bc, base) =>
      if base > maxSize then .error .tooManyElems
      else if idx < bc.size then
        .ok ({ st with bc := upd bc idx (·.setBase base), used := base :: st.used }, base)
      else .error .panic

/-- `makeNode`: a record whose parameter names are not distinct is refused -/
def leafStep (leaf : Option Rec) (idx : Nat) (st : St) : Except Err St :=
  match leaf with
  | none => .ok st
  | some r =>
    if C05.hasDup r.names then .error .dupName
    else if idx < st.bc.size then
      .ok { st with bc := upd st.bc idx (·.setBase st.node.size), node := st.node.push (some ⟨r.names, r.val⟩) }
    else .error .panic

/-- `for _, sib := range siblings { da.setCheck(nextIndex(base, sib.c), sib.c) }` -/
def setChecks (base : Nat) : List Sib → BC → Except Err BC
  | [], bc => .ok bc
  | s :: t, bc =>
    if nextIndex base s.c < bc.size then setChecks base t (upd bc (nextIndex base s.c) (·.setCheck s.c))
    else .error .panic

/-- the ':' case: `name := r.Key[depth+1:next]; r.Key = r.Key[next:]` -/
def stripSingle (r : Rec) : Rec :=
  { r with key := (r.key.drop 1).dropWhile notKeySep,
           names := r.names ++ [(r.key.drop 1).takeWhile notKeySep] }

/-- the '*' case: `name := r.Key[depth+1:len(r.Key)-1]; r.Key = ""` -/
def stripWild (r : Rec) : Rec :=
  { r with key := [], names := r.names ++ [(r.key.drop 1).dropLast] }

/-- the default case: the child looks at `depth+1` -/
def dropHead (r : Rec) : Rec := { r with key := r.key.drop 1 }

/-- `srcs[sib.start:sib.end]` -/
def slice (srcs : List Rec) (s : Sib) : List Rec := (srcs.drop s.start).take (s.stop - s.start)

/-- the second loop over the siblings in `build`; `rec` is `build` with less fuel -/
def buildSibs (rec : List Rec → Nat → St → Except Err St) (srcs : List Rec) (base idx : Nat) :
    List Sib → St → Except Err St
  | [], st => .ok st
  | s :: rest, st =>
    let records := slice srcs s
    let next := nextIndex base s.c
    if s.c == cParam then
      -- a record with an exhausted key in the slice: `r.Key[depth+1:next]` panics
      if records.any (fun r => r.key.isEmpty) then .error .panic
      else
        match rec (records.map stripSingle) next { st with bc := upd st.bc idx (·.setSingle) } with
        | .error e => .error e
        | .ok st' => buildSibs rec srcs base idx rest st'
    else if s.c == cWild then
      -- `r.Key[depth+1:len(r.Key)-1]` panics unless something follows the '*'
      if records.any (fun r => r.key.length < 2) then .error .panic
      else
        match rec (records.map stripWild) next { st with bc := upd st.bc idx (·.setWild) } with
        | .error e => .error e
        | .ok st' => buildSibs rec srcs base idx rest st'
    else
      match rec (records.map dropHead) next st with
      | .error e => .error e
      | .ok st' => buildSibs rec srcs base idx rest st'

/-- `doubleArray.build(srcs, idx, depth, usedBase)` -/
def build : Nat → List Rec → Nat → St → Except Err St
  | 0, _, _, _ => .error .fuel
  | fuel + 1, srcs, idx, st =>
    let srcs := sortRecs srcs
    match mkSiblings srcs with
    | .error e => .error e
    | .ok (sibs, leaf) =>
      match arrange sibs idx st with
      | .error e => .error e
      | .ok (st1, base) =>
        match leafStep leaf idx st1 with
        | .error e => .error e
        | .ok st2 =>
          match setChecks base sibs st2.bc with
          | .error e => .error e
          | .ok bc3 => buildSibs (build fuel) srcs base idx sibs { st2 with bc := bc3 }

/-! ## `Router.Build` -/

structure Router where
  statics : List (Bytes × Nat)
  bc : BC
  node : Array (Option Node)
  fuel : Nat   -- ghost: bound of the recursion depth of `lookup` (total length of the keys + 1)
deriving Repr

/-- `newDoubleArray` -/
def St.new : St := ⟨#[{}], #[none], []⟩

def buildFuel (recs : List (Bytes × Nat)) : Nat := C05.weight (C05.paramRecs recs) + 1

/-- `Router.Build` -/
def routerBuild (recs : List (Bytes × Nat)) : Except Err Router :=
  if (recs.filter fun kv => C05.isParamKey kv.1).any (fun kv => C05.isBadKey kv.1) then .error .reserved
  else if (C05.paramRecs recs).length > maxSize then .error .tooManyRecords
  else
    match build (buildFuel recs) (C05.paramRecs recs) rootIndex St.new with
    | .error e => .error e
    | .ok st => .ok ⟨recs.filter fun kv => !C05.isParamKey kv.1, st.bc, st.node, buildFuel recs⟩

/-! ## `doubleArray.lookup` -/

/-- how the literal walk (the `for i` loop) ends -/
inductive Walk where
  | done (idx : Nat) (indices : List (Nat × Nat))   -- the path is used up at element `idx`
  | back (indices : List (Nat × Nat))               -- `goto BACKTRACKING`
  | panic
deriving Repr, DecidableEq

/-- the `for i := 0; i < len(path); i++` loop; `indices` latest first -/
def walk (bc : BC) : Bytes → Nat → Nat → List (Nat × Nat) → Walk
  | [], _, idx, ind => .done idx ind
  | c :: rest, i, idx, ind =>
    if idx < bc.size then
      let ind := if (el bc idx).isAnyParam then (i, idx) :: ind else ind
      if isReserved c then .back ind
      else
        let n := nextIndex (el bc idx).base c
        if n ≥ bc.size then .back ind
        else if (el bc n).check != c then .back ind
        else walk bc rest (i + 1) n ind
    else .panic

inductive LRes where
  | found (nd : Option Node) (vals : List Bytes)
  | miss
  | panic
  | fuel
deriving Repr, DecidableEq

/-- after the loop: the termination edge -/
def termStep (bc : BC) (node : Array (Option Node)) (idx : Nat) : Option (Option (Option Node)) :=
  -- none = panic; some none = no termination edge; some (some nd) = `return da.node[...]`
  if idx < bc.size then
    let next := nextIndex (el bc idx).base cTerm
    if next < bc.size && (el bc next).check == cTerm then
      match node[(el bc next).base]? with
      | some nd => some (some nd)
      | none => none
    else some none
  else none

/-- the wildcard branch of BACKTRACKING (taken when `IsWildcardParam`) -/
def wildStep (bc : BC) (node : Array (Option Node)) (path : Bytes) (vals : List Bytes) (i idx : Nat) : LRes :=
  let nextIdx := nextIndex (el bc idx).base cWild
  if nextIdx < bc.size then
    match node[(el bc nextIdx).base]? with
    | some nd => .found nd (vals ++ [path.drop i])
    | none => .panic
  else .panic

/-- `if da.bc[idx].IsWildcardParam() { return … }`, else go on -/
def wildOr (bc : BC) (node : Array (Option Node)) (path : Bytes) (vals : List Bytes) (i idx : Nat)
    (more : Unit → LRes) : LRes :=
  if (el bc idx).wild then wildStep bc node path vals i idx else more ()

/-- `if da.bc[idx].IsSingleParam() { … }`: the parameter takes `path[i:next]` up to the next '/',
the rest of the path is looked up from the ':' child; when that fails, go on -/
def singleOr (rec : Bytes → List Bytes → Nat → LRes) (bc : BC) (path : Bytes) (vals : List Bytes)
    (i idx : Nat) (otherwise : Unit → LRes) : LRes :=
  if (el bc idx).single then
    if nextIndex (el bc idx).base cParam ≥ bc.size then .miss   -- `break`
    else
      -- `next := nextPathSeparator(path, i)`; `path[i:next]`, `path[next:]`
      match rec ((path.drop i).dropWhile notPathSep) (vals ++ [(path.drop i).takeWhile notPathSep])
          (nextIndex (el bc idx).base cParam) with
      | .found nd vs => .found nd vs
      | .panic => .panic
      | .fuel => .fuel
      | .miss => otherwise ()
  else otherwise ()

/-- the BACKTRACKING loop, from the deepest recorded element; `rec` is `lookup` with less fuel -/
def backtrack (rec : Bytes → List Bytes → Nat → LRes) (bc : BC) (node : Array (Option Node))
    (path : Bytes) (vals : List Bytes) : List (Nat × Nat) → LRes
  | [] => .miss
  | (i, idx) :: more =>
    singleOr rec bc path vals i idx fun _ =>
      wildOr bc node path vals i idx fun _ => backtrack rec bc node path vals more

/-- what follows the literal walk: the termination edge when the path is used up, else (or when
there is none) BACKTRACKING -/
def finish (rec : Bytes → List Bytes → Nat → LRes) (bc : BC) (node : Array (Option Node))
    (path : Bytes) (vals : List Bytes) : Walk → LRes
  | .panic => .panic
  | .back ind => backtrack rec bc node path vals ind
  | .done idx ind =>
    match termStep bc node idx with
    | none => .panic
    | some (some nd) => .found nd vals
    | some none => backtrack rec bc node path vals ind

/-- `doubleArray.lookup(path, params, idx)` -/
def lookupF (bc : BC) (node : Array (Option Node)) : Nat → Bytes → List Bytes → Nat → LRes
  | 0, _, _, _ => .fuel
  | fuel + 1, path, vals, idx =>
    finish (lookupF bc node fuel) bc node path vals (walk bc path 0 idx [])

/-! ## `Router.Lookup` -/

inductive Out where
  | found (val : Nat) (names vals : List Bytes)
  | notFound
  | panic
  | fuel
deriving Repr, DecidableEq, BEq

def ofC05 : C05.LookupOut → Out
  | .found v ns vs => .found v ns vs
  | .notFound => .notFound

/-- `Router.Lookup` -/
def routerLookup (rt : Router) (path : Bytes) : Out :=
  match C05.staticLookup rt.statics path with
  | some v => .found v [] []
  | none =>
    if rt.node.size == 1 then .notFound
    else
      match lookupF rt.bc rt.node rt.fuel path [] rootIndex with
      | .miss => .notFound
      | .panic => .panic
      | .fuel => .fuel
      | .found none _ => .panic                      -- `nd.paramNames` on a nil node
      | .found (some nd) vals =>
        -- `params[i].Name = nd.paramNames[i]` for every value
        if nd.names.length < vals.length then .panic else .found nd.val (nd.names.take vals.length) vals

/-! ## the abstract invariant, as a decidable check (the Spec the driver applies to the REAL arrays) -/

def allBytes : List UInt8 := (List.range 255).map fun n => UInt8.ofNat (n + 1)

/-- the child of a trie node on the byte `c` (as `C05.look` follows it) -/
def childOf (c : UInt8) (rs : List Rec) : List Rec :=
  if c == cParam then C05.advSingle rs else if c == cWild then C05.advWild rs else C05.advLit c rs

/-- Does the element `idx` represent the trie node with the candidate list `rs`?
* a node whose keys are used up (a leaf): its BASE indexes the node-table entry made from the record
  `makeSiblings` keeps (the last one);
* else: for every byte `c ≠ 0` the CHECK of the element at `BASE xor c` is `c` exactly when the trie
  node has a child on `c`, that element represents the child, and the flags of `idx` tell whether
  there is a single-parameter / wildcard child. -/
def reprB (bc : BC) (node : Array (Option Node)) : Nat → Nat → List Rec → Bool
  | 0, _, _ => false
  | fuel + 1, idx, rs =>
    idx < bc.size &&
    if rs.all (fun r => r.key.isEmpty) then
      match C05.leafOf rs with
      | some r => decide (node[(el bc idx).base]? = some (some ⟨r.names, r.val⟩))
      | none => false
    else
      rs.all (fun r => !r.key.isEmpty) &&
      (el bc idx).single == C05.hasSingle rs &&
      (el bc idx).wild == !(C05.advWild rs).isEmpty &&
      allBytes.all fun c =>
        if (childOf c rs).isEmpty then (el bc (nextIndex (el bc idx).base c)).check != c
        else (el bc (nextIndex (el bc idx).base c)).check == c &&
          reprB bc node fuel (nextIndex (el bc idx).base c) (childOf c rs)

/-! ## Driver entry -/

def encodeBC (bc : BC) : Bytes :=
  bc.toList.flatMap fun e =>
    let n := e.encode
    [UInt8.ofNat (n / 16777216), UInt8.ofNat (n / 65536), UInt8.ofNat (n / 256), UInt8.ofNat n]

def decodeBC : Bytes → Option (List Elem)
  | [] => some []
  | a :: b :: c :: d :: rest =>
    let n := 16777216 * a.toNat + 65536 * b.toNat + 256 * c.toNat + d.toNat
    (decodeBC rest).map fun t =>
      (⟨n / 1024, (n / 256) % 2 == 1, (n / 512) % 2 == 1, UInt8.ofNat (n % 256)⟩ : Elem) :: t
  | _ => none

def natBytes (n : Nat) : Bytes := (toString n).toUTF8.toList

def encodeNode : Option Node → Bytes
  | none => [110, 105, 108]   -- "nil"
  | some nd => natBytes nd.val ++ nd.names.flatMap fun nm => cTerm :: nm

def bytesNat? (b : Bytes) : Option Nat :=
  if b.isEmpty then none else b.foldlM (fun acc x => if 48 ≤ x ∧ x ≤ 57 then some (10 * acc + (x.toNat - 48)) else none) 0

def decodeNode (b : Bytes) : Option (Option Node) :=
  if b == [110, 105, 108] then some none
  else
    match splitByte cTerm b with
    | v :: names => (bytesNat? v).map fun n => some ⟨names, n⟩
    | [] => none

def renderOut : Out → String
  | .found v names vals => s!"F:{v}:{encList names}:{encList vals}"
  | .notFound => "N"
  | .panic => "P"
  | .fuel => "X"

def parseOut (s : String) : Option Out :=
  match s.splitOn ":" with
  | ["N"] => some .notFound
  | ["P"] => some .panic
  | ["F", v, names, vals] => do
    let v ← v.toNat?
    let ns ← decList names
    let vs ← decList vals
    pure (.found v ns vs)
  | _ => none

def errName : Err → String
  | .reserved => "reserved" | .tooManyRecords => "toomany" | .tooManyElems => "toobig"
  | .dupName => "dup" | .notSorted => "unsorted" | .panic => "panic" | .fuel => "fuel"

/-- stream `A <keys> <paths> => E <kind> | D <bc> <nodes> <result>…` -/
def run (ins outs : List String) : Verdict :=
  match ins with
  | ["A", keys, paths] =>
    match decList keys, decList paths with
    | some ks, some ps =>
      let recs := ks.zipIdx
      let trie := C05.build recs
      match routerBuild recs with
      | .error e =>
        let specOk := match trie, outs with
          | .errReserved, ["E", "reserved"] => true
          | .errDupName, ["E", "dup"] => true
          | _, _ => false
        { agree := outs == ["E", errName e], specOk := specOk, tag := s!"~builderr-{errName e}",
          model := s!"E {errName e}" }
      | .ok rt =>
        let mres := ps.map fun p => renderOut (routerLookup rt p)
        let mline := ["D", encField (encodeBC rt.bc), encList (rt.node.toList.map encodeNode)] ++ mres
        let specOk := match trie, outs with
          | .ok t, "D" :: rbc :: rnodes :: rres =>
            match (decField rbc).bind decodeBC, (decList rnodes).bind (·.mapM decodeNode) with
            | some relems, some rnodes =>
              -- the REAL arrays represent the trie, and every REAL answer is the trie model's answer
              (t.params.isEmpty || reprB relems.toArray rnodes.toArray (C05.weight t.params + 1) rootIndex t.params) &&
              rres.map parseOut == ps.map fun p => some (ofC05 (C05.lookup t p))
            | _, _ => false
          | _, _ => false
        let nparam := (ks.filter C05.isParamKey).length
        let tag := if nparam == 0 then "~static-only" else
          s!"elems{if rt.bc.size < 16 then "<16" else if rt.bc.size < 64 then "<64" else if rt.bc.size < 256 then "<256" else ">=256"}"
        { agree := outs == mline, specOk := specOk, tag := tag, model := " ".intercalate mline }
    | _, _ => .bad "A fields"
  | _ => .bad "C05DA stream"

end RtVerif.C05DA
