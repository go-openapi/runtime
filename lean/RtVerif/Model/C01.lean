import RtVerif.Base.Bytes
import RtVerif.Base.Verdict
import RtVerif.Base.GoPath
import RtVerif.Base.GoURL
import RtVerif.Model.C05
/-
  C01 — spec-driven dispatch (`DefaultRouter`, `defaultRouteBuilder.AddRoute/Build`,
  `defaultRouter.Lookup/OtherMethods`, `NewRouter`).

  Model: composition of `path.Join` (GoPath), the template→key conversion (the regexp
  `{(.+?)}([^/]*)` replaced by `:$1`), one denco table per upper-cased method (the C05 model),
  `path.Clean` of the escaped request path, the composite-segment workaround
  `decodeCompositParams` on the still escaped captured text (since the F01g repair),
  `url.PathUnescape` of every captured value or fragment (the raw text is kept when unescaping
  fails), and the 404/405 decision of `NewRouter`.

  Spec: `instantiates`/`specDispatch` for descriptions whose templates are simple, and
  `allInst`/`instAll`/`specDispatchC` for descriptions with composite segments (route and values).
-/
namespace RtVerif.C01
open RtVerif Bytes

def lbrace : UInt8 := 123
def rbrace : UInt8 := 125
def slash : UInt8 := 47
def colon : UInt8 := 58
def newline : UInt8 := 10

/-! ## template → denco key  (`pathConverter.ReplaceAllString(path, ":$1")`) -/

/-- after `{` and one arbitrary character: the shortest run up to the next `}` (`.+?` then `}`);
`.` does not match a newline. Returns (name-rest, text after `}`). -/
def scanName : Bytes → Option (Bytes × Bytes)
  | [] => none
  | c :: t =>
    if c == rbrace then some ([], t)
    else if c == newline then none
    else (scanName t).map fun (n, r) => (c :: n, r)

theorem scanName_length : ∀ (l : Bytes) (n r : Bytes), scanName l = some (n, r) → r.length < l.length + 1 := by
  intro l
  induction l with
  | nil => intro n r h; cases h
  | cons x xs ih =>
    intro n r h
    simp only [scanName] at h
    split at h
    · cases h; simp only [List.length_cons]; omega
    · split at h
      · cases h
      · obtain ⟨⟨n', r'⟩, hs, he⟩ := Option.map_eq_some_iff.mp h
        cases he
        exact Nat.lt_succ_of_lt (ih n' r' hs)

theorem length_dropWhile_le' (p : UInt8 → Bool) (l : Bytes) : (l.dropWhile p).length ≤ l.length :=
  C05.length_dropWhile_le p l

/-- leftmost-first replacement of every match of `{(.+?)}([^/]*)` by `:` ++ group 1 -/
def convert (s : Bytes) : Bytes :=
  match s with
  | [] => []
  | [c] => [c]
  | c :: d :: t' =>
    if c == lbrace && d != newline then
      match h : scanName t' with
      | some (n, r) => colon :: d :: n ++ convert (r.dropWhile (· != slash))
      | none => c :: convert (d :: t')
    else c :: convert (d :: t')
termination_by s.length
decreasing_by
  · have h2 := scanName_length t' n r h
    have h3 := length_dropWhile_le' (· != slash) r
    simp only [List.length_cons]; omega
  · simp
  · simp

/-! ## `decodeCompositParams` -/

def indexOf (pat s : Bytes) : Option Nat :=
  go pat s 0
where
  go (pat : Bytes) : Bytes → Nat → Option Nat
    | [], i => if pat.isEmpty then some i else none
    | c :: t, i => if pat.isPrefixOf (c :: t) then some i else go pat t (i + 1)

/-- `decodeCompositParams(name, value, pattern, nil, nil)`; `none` is a Go panic (slice bounds out
of range). Fuel bounds the recursion by the pattern length. -/
def decodeComposite : Nat → Bytes → Bytes → Bytes → Option (List (Bytes × Bytes))
  | 0, _, _, _ => none
  | fuel + 1, name, value, pattern =>
    match indexOf [lbrace] pattern with
    | none =>
      if hasSuffix value pattern then some [(name, value.take (value.length - pattern.length))]
      else some [(name, [])]
    | some pleft =>
      let toskip := pattern.take pleft
      match indexOf [rbrace] pattern with
      | none => none                                  -- pattern[pleft+1:-1]
      | some pright =>
        if pright < pleft + 1 then none               -- pattern[pleft+1:pright] with pright too small
        else
          let nextName := (pattern.drop (pleft + 1)).take (pright - (pleft + 1))
          let nextPat := pattern.drop (pright + 1)
          match indexOf toskip value with
          | some vright =>
            (decodeComposite fuel nextName (value.drop (vright + toskip.length)) nextPat).map
              fun rest => (name, value.take vright) :: rest
          | none =>
            -- value = ""; vright = -len(toskip): the remaining placeholders get empty values
            (decodeComposite fuel nextName [] nextPat).map fun rest => (name, []) :: rest

/-! ## the API and a request -/

structure Op where
  method : Bytes       -- as written in the description (any case)
  template : Bytes     -- path template, without the base path
deriving Repr, DecidableEq, BEq

structure Api where
  basePath : Bytes
  ops : List Op
deriving Repr

/-- `fpath.Join(spec.BasePath(), path)` -/
def fullPath (api : Api) (op : Op) : Bytes := GoPath.join api.basePath op.template

/-- `bp` of `AddRoute`: the cleaned base path without a trailing slash -/
def trimmedBase (api : Api) : Bytes :=
  let bp := GoPath.clean api.basePath
  if bp.getLast? == some slash then bp.dropLast else bp

def trimPrefix (s pre : Bytes) : Bytes := if pre.isPrefixOf s then s.drop pre.length else s

/-- `d.api.HandlerFor(method, opPath)`: handlers are registered under the upper-cased method and
the template exactly as written in the description, and (since the F19a/F01e repair) asked for
under that same spelling -/
def hasHandler (api : Api) (op : Op) : Bool :=
  api.ops.any fun o => toUpper o.method == toUpper op.method && o.template == op.template

/-- the records filed under one (upper-cased) method: `(key, index of the operation)` -/
def recordsFor (api : Api) (method : Bytes) : List (Bytes × Nat) :=
  api.ops.zipIdx.filterMap fun (op, i) =>
    if toUpper op.method == method && hasHandler api op then some (convert (fullPath api op), i) else none

def methodsOf (api : Api) : List Bytes := (api.ops.map fun op => toUpper op.method).eraseDups

inductive Out where
  | ran (op : Nat) (params : List (Bytes × Bytes))
  | notAllowed (allow : List Bytes)     -- 405, Allow header (as a set: sorted)
  | notFound                            -- 404
  | panic
deriving Repr, DecidableEq, BEq

/-- `url.PathUnescape`, the raw text being kept when unescaping fails -/
def decode (raw : Bytes) : Bytes := match GoURL.pathUnescape raw with | some u => u | none => raw

/-- the composite-segment test of `defaultRouter.Lookup`.  Since the F01g repair the still escaped
text captured by the trie is split along the pattern and every fragment is unescaped on its own. -/
def paramsOf (pathPattern : Bytes) (name value : Bytes) : Option (List (Bytes × Bytes)) :=
  let needle := lbrace :: name ++ [rbrace]
  match indexOf needle pathPattern with
  | none => some [(name, decode value)]       -- not a placeholder of the template: used directly
  | some idx =>
    let x := idx + name.length + 2
    if x < pathPattern.length && pathPattern[x]? != some slash then
      let ep := (pathPattern.drop x).takeWhile (· != slash)
      (decodeComposite (ep.length + 2) name value ep).map fun ps => ps.map fun kv => (kv.1, decode kv.2)
    else some [(name, decode value)]

def collectParams (pathPattern : Bytes) : List Bytes → List Bytes → Option (List (Bytes × Bytes))
  | n :: ns, v :: vs => do
    let a ← paramsOf pathPattern n v
    let b ← collectParams pathPattern ns vs
    pure (a ++ b)
  | _, _ => some []

/-- `router.Lookup(fpath.Clean(path))` under one method -/
def lookupUnder (api : Api) (method cleaned : Bytes) : Option C05.LookupOut :=
  match C05.route (recordsFor api method) cleaned with
  | .inl o => some o
  | .inr _ => none     -- `_ = router.Build(records)`: a refused table leaves an unusable router

def byteLe (a b : Bytes) : Bool := C05.bytesLe a b

def sortBytes (l : List Bytes) : List Bytes := l.foldr ins []
where
  ins (x : Bytes) : List Bytes → List Bytes
    | [] => [x]
    | y :: ys => if byteLe x y then x :: y :: ys else y :: ins x ys

/-- `NewRouter`: run the matched operation, else 405 with the other methods that match, else 404 -/
def dispatch (api : Api) (method escapedPath : Bytes) : Out :=
  let mn := toUpper method
  let cleaned := GoPath.clean escapedPath
  let hit : Option (Nat × List Bytes × List Bytes) :=
    if (methodsOf api).contains mn then
      match lookupUnder api mn cleaned with
      | some (.found v names vals) => some (v, names, vals)
      | _ => none
    else none
  match hit with
  | some (v, names, vals) =>
    match api.ops[v]? with
    | some op =>
      match collectParams (fullPath api op) names vals with
      | some ps => .ran v ps
      | none => .panic
    | none => .panic
  | none =>
    let others := (methodsOf api).filter fun m =>
      m != mn && (match lookupUnder api m cleaned with | some (.found _ _ _) => true | _ => false)
    if others.isEmpty then .notFound else .notAllowed (sortBytes others)


/-! ## Spec (from the property text): segment-wise instantiation of a template -/

inductive TSeg where
  | lit (b : Bytes)
  | ph (name : Bytes)
  | composite            -- placeholder(s) mixed with other text inside one segment
deriving Repr, DecidableEq, BEq

def hasBrace (b : Bytes) : Bool := b.any fun c => c == lbrace || c == rbrace

def classify (seg : Bytes) : TSeg :=
  match seg with
  | c :: rest =>
    if c == lbrace && rest.getLast? == some rbrace && !hasBrace rest.dropLast && !rest.dropLast.isEmpty then
      .ph rest.dropLast
    else if hasBrace seg then .composite else .lit seg
  | [] => .lit []

def tsegs (tmpl : Bytes) : List TSeg := (GoPath.segs tmpl).map classify

def isSimple (tmpl : Bytes) : Bool := (tsegs tmpl).all fun t => t != .composite

/-- does the (cleaned, still escaped) path instantiate the template, and with which raw texts? -/
def matchSegs : List TSeg → List Bytes → Option (List (Bytes × Bytes))
  | [], [] => some []
  | .lit b :: ts, p :: ps => if b == p then matchSegs ts ps else none
  | .ph n :: ts, p :: ps => (matchSegs ts ps).map fun r => (n, p) :: r
  | _, _ => none

def instantiates (tmpl path : Bytes) : Option (List (Bytes × Bytes)) :=
  matchSegs (tsegs tmpl) (GoPath.segs path)

/-- literal (0) / parameter (1) per segment: the preference order -/
def segKinds (tmpl : Bytes) : List Nat := (tsegs tmpl).map fun t => match t with | .lit _ => 0 | _ => 1

/-- fits with every parameter text non-empty -/
def fitsStrict (tmpl path : Bytes) : Bool :=
  match instantiates tmpl path with
  | some raws => raws.all fun kv => !kv.2.isEmpty
  | none => false

def opsUnder (api : Api) (mn : Bytes) : List (Op × Nat) :=
  api.ops.zipIdx.filter fun (op, _) => toUpper op.method == mn

/-- what the property demands of one dispatch, for APIs all of whose templates are simple -/
def specDispatch (api : Api) (method escapedPath : Bytes) (out : Out) : Bool :=
  let mn := toUpper method
  let cleaned := GoPath.clean escapedPath
  match out with
  | .ran i ps =>
    match api.ops[i]? with
    | none => false
    | some op =>
      toUpper op.method == mn &&
      (match instantiates (fullPath api op) cleaned with
       | some raws =>
         ps == raws.map (fun kv => (kv.1, decode kv.2)) &&
         -- a literal segment is preferred to a parameter when both fit
         (opsUnder api mn).all (fun (op', _) =>
           !fitsStrict (fullPath api op') cleaned ||
             C05.kindsLe (segKinds (fullPath api op)) (segKinds (fullPath api op')))
       | none => false)
  | .notFound =>
    api.ops.all fun op => !fitsStrict (fullPath api op) cleaned
  | .notAllowed allow =>
    (opsUnder api mn).all (fun (op, _) => !fitsStrict (fullPath api op) cleaned) &&
    !allow.isEmpty &&
    -- Allow lists exactly the methods under which some template fits
    (methodsOf api).all (fun m =>
      if m == mn then !allow.contains m
      else
        let strict := (opsUnder api m).any fun (op, _) => fitsStrict (fullPath api op) cleaned
        let loose := (opsUnder api m).any fun (op, _) => (instantiates (fullPath api op) cleaned).isSome
        (!strict || allow.contains m) && (!allow.contains m || loose)) &&
    allow.all (fun m => (methodsOf api).contains m)
  | .panic => false

/-! ## Spec for composite segments (from the property text)

"The path-parameter values the handler receives are the percent-decoded texts that instantiate the
placeholders, by name."  A template segment that mixes placeholders with other text is read as

      pre {n0} st0 {n1} st1 … {nk} stk          (`pre`, `st_i` static text, possibly empty)

and a (still escaped) path segment `t` *instantiates* it with the raw texts `v0 … vk` when

      t = pre ++ v0 ++ st0 ++ v1 ++ st1 ++ … ++ vk ++ stk          (`renderVals`).

Reading chosen (the least demanding faithful one): the property speaks of "the" texts that
instantiate the placeholders.  Where exactly one list of texts does (`allInst … = [vs]`) the handler
must receive exactly those, decoded.  Where several do (adjacent placeholders `{a}{b}`, a value that
contains the following separator: `a-b-c` against `{x}-{y}`) the text does not single one out, and
any instantiation is accepted — but the values must still be an instantiation: concatenated with
the static texts they reproduce the segment.  Where none does, the template is not instantiated by
the path and its handler must not run.  The static text is compared with the *escaped* path, like
every other static text of a template (an escaped separator, `%2D` for `-`, belongs to a value). -/

/-- all ways to write `t = v ++ sep ++ r`: the pairs `(v, r)`, leftmost occurrence first -/
def splitsAt (sep : Bytes) : Bytes → List (Bytes × Bytes)
  | [] => if sep.isEmpty then [([], [])] else []
  | c :: t =>
    (if sep.isPrefixOf (c :: t) then [([], (c :: t).drop sep.length)] else []) ++
      (splitsAt sep t).map fun vr => (c :: vr.1, vr.2)

/-- the segment text (after `pre`) that the values make of the placeholders `(name, static text after it)` -/
def renderVals : List (Bytes × Bytes) → List Bytes → Option Bytes
  | [], [] => some []
  | (_, st) :: r, v :: vs => (renderVals r vs).map fun rest => v ++ st ++ rest
  | _, _ => none

/-- every list of raw texts that instantiates the placeholders: `vs ∈ allInst phs t ↔ renderVals phs vs = some t`
(theorem `mem_allInst`) -/
def allInst : List (Bytes × Bytes) → Bytes → List (List Bytes)
  | [], t => if t.isEmpty then [[]] else []
  | (_, st) :: r, t => (splitsAt st t).flatMap fun vr => (allInst r vr.2).map fun vs => vr.1 :: vs

structure CSeg where
  pre : Bytes
  phs : List (Bytes × Bytes)    -- (placeholder name, static text that follows it)
deriving Repr, DecidableEq

def notBrace (c : UInt8) : Bool := c != lbrace && c != rbrace

/-- `{name}` at the head of `s`: the name (non-empty, brace-free) and what follows `}` -/
def takeName (s : Bytes) : Option (Bytes × Bytes) :=
  match s with
  | c :: r =>
    if c == lbrace then
      match r.dropWhile notBrace with
      | d :: r' => if d == rbrace && !(r.takeWhile notBrace).isEmpty then some (r.takeWhile notBrace, r') else none
      | [] => none
    else none
  | [] => none

/-- `{n0} st0 {n1} st1 …` (fuel: the length of the text) -/
def parsePhs : Nat → Bytes → Option (List (Bytes × Bytes))
  | 0, _ => none
  | f + 1, s =>
    match s with
    | [] => some []
    | _ :: _ =>
      match takeName s with
      | none => none
      | some (nm, r) => (parsePhs f (r.dropWhile notBrace)).map fun phs => (nm, r.takeWhile notBrace) :: phs

def parseCSeg (seg : Bytes) : Option CSeg :=
  (parsePhs (seg.length + 1) (seg.dropWhile notBrace)).map fun phs => ⟨seg.takeWhile notBrace, phs⟩

/-- a template segment for the composite-aware Spec -/
inductive XSeg where
  | lit (b : Bytes)
  | ph (name : Bytes)
  | comp (c : CSeg)
  | bad                   -- braces that do not pair up into `{name}` placeholders: not judged
deriving Repr, DecidableEq

def xclassify (seg : Bytes) : XSeg :=
  match classify seg with
  | .lit b => .lit b
  | .ph n => .ph n
  | .composite =>
    match parseCSeg seg with
    | some c => if c.phs.isEmpty then .bad else .comp c
    | none => .bad

def xsegs (tmpl : Bytes) : List XSeg := (GoPath.segs tmpl).map xclassify

def wellFormedT (tmpl : Bytes) : Bool := (xsegs tmpl).all fun x => x != .bad

/-- the raw instantiations of one composite segment by one path segment, by name -/
def instSeg (c : CSeg) (p : Bytes) : List (List (Bytes × Bytes)) :=
  if c.pre.isPrefixOf p then (allInst c.phs (p.drop c.pre.length)).map fun vs => (c.phs.map (·.1)).zip vs
  else []

/-- every way the (cleaned, still escaped) path instantiates the template, with the raw texts by name -/
def instAllSegs : List XSeg → List Bytes → List (List (Bytes × Bytes))
  | [], [] => [[]]
  | .lit b :: ts, p :: ps => if b == p then instAllSegs ts ps else []
  | .ph n :: ts, p :: ps => (instAllSegs ts ps).map fun r => (n, p) :: r
  | .comp c :: ts, p :: ps => (instSeg c p).flatMap fun a => (instAllSegs ts ps).map fun r => a ++ r
  | _, _ => []

def instAll (tmpl path : Bytes) : List (List (Bytes × Bytes)) := instAllSegs (xsegs tmpl) (GoPath.segs path)

def fitsLooseC (tmpl path : Bytes) : Bool := !(instAll tmpl path).isEmpty

/-- fits with every parameter text non-empty -/
def fitsStrictC (tmpl path : Bytes) : Bool :=
  (instAll tmpl path).any fun raws => raws.all fun kv => !kv.2.isEmpty

/-- static segment (0) / composite segment that begins with static text, `v{n}` (1) / parameter at the
start of the segment, `{n}`, `{a}-{b}` (2) -/
def segKindsC (tmpl : Bytes) : List Nat :=
  (xsegs tmpl).map fun x => match x with
    | .lit _ => 0
    | .comp c => if c.pre.isEmpty then 2 else 1
    | _ => 2

/-- "a literal segment is preferred to a parameter when both fit": the chosen template (left) is not
beaten by another fitting one (right).  The first segment where the two differ in kind decides; a
static segment beats everything else.  Between `v{n}` and `{n}` the property states no preference
(neither is a literal segment): either choice is accepted. -/
def prefOk : List Nat → List Nat → Bool
  | [], _ => true
  | _ :: _, [] => false
  | a :: as, b :: bs =>
    if a == b then prefOk as bs
    else if a == 0 then true
    else if b == 0 then false
    else true

/-- what the property demands of one dispatch, composite segments included -/
def specDispatchC (api : Api) (method escapedPath : Bytes) (out : Out) : Bool :=
  let mn := toUpper method
  let cleaned := GoPath.clean escapedPath
  match out with
  | .ran i ps =>
    match api.ops[i]? with
    | none => false
    | some op =>
      toUpper op.method == mn &&
      -- the values are the decoded texts of an instantiation (of THE instantiation when it is unique)
      (instAll (fullPath api op) cleaned).any (fun raws => ps == raws.map (fun kv => (kv.1, decode kv.2))) &&
      (opsUnder api mn).all (fun (op', _) =>
        !fitsStrictC (fullPath api op') cleaned ||
          prefOk (segKindsC (fullPath api op)) (segKindsC (fullPath api op')))
  | .notFound =>
    api.ops.all fun op => !fitsStrictC (fullPath api op) cleaned
  | .notAllowed allow =>
    (opsUnder api mn).all (fun (op, _) => !fitsStrictC (fullPath api op) cleaned) &&
    !allow.isEmpty &&
    (methodsOf api).all (fun m =>
      if m == mn then !allow.contains m
      else
        let strict := (opsUnder api m).any fun (op, _) => fitsStrictC (fullPath api op) cleaned
        let loose := (opsUnder api m).any fun (op, _) => fitsLooseC (fullPath api op) cleaned
        (!strict || allow.contains m) && (!allow.contains m || loose)) &&
    allow.all (fun m => (methodsOf api).contains m)
  | .panic => false

/-! ### classes outside the simple-template theorems -/

def hasComposite (api : Api) : Bool := api.ops.any fun op => !isSimple (fullPath api op)

/-- F01c: static text of a template that denco parameterises contains `:` or `*` -/
def oddStatic (api : Api) : Bool :=
  api.ops.any fun op =>
    let fp := fullPath api op
    C05.isParamKey (convert fp) &&
      (tsegs fp).any fun t => match t with
        | .lit b => b.contains colon || b.contains 42
        | _ => false

/-- does the template have a placeholder at all? -/
def hasPlaceholder (tmpl : Bytes) : Bool := (tsegs tmpl).any fun t => match t with | .lit _ => false | _ => true

/-- F01h: a template with placeholders whose converted key the trie router files as *static* text
(no `/:`, `/*`, `=:` in it): every placeholder sits behind static text of its segment, e.g.
`/v{major}.{minor}` → `/v:major`.  Such a template is matched by the literal key only.  The class
is per request: the cleaned path fits the template, or it is the literal key. -/
def staticComposite (api : Api) (cleaned : Bytes) : Bool :=
  api.ops.any fun op =>
    let fp := fullPath api op
    hasPlaceholder fp && !C05.isParamKey (convert fp) && (fitsLooseC fp cleaned || convert fp == cleaned)

/-- some composite segment of the template has no instantiation by the path segment at its place -/
def misfitSegs : List XSeg → List Bytes → Bool
  | .comp c :: ts, p :: ps => (instSeg c p).isEmpty || misfitSegs ts ps
  | _ :: ts, _ :: ps => misfitSegs ts ps
  | _, _ => false

/-- F01i: under some method the trie picks a template one of whose composite segments is not
instantiated by the path segment (the trie keeps `{a}` of `{a}.json`, `{a}-{b}` only); the handler
runs / the method is listed in Allow all the same, the values being empty. -/
def compositeMisfit (api : Api) (cleaned : Bytes) : Bool :=
  (methodsOf api).any fun m =>
    match lookupUnder api m cleaned with
    | some (.found v _ _) =>
      (match api.ops[v]? with
       | some op => misfitSegs (xsegs (fullPath api op)) (GoPath.segs cleaned)
       | none => false)
    | _ => false

def dupKeys (api : Api) : Bool :=
  (methodsOf api).any fun m =>
    let ks := (recordsFor api m).map (·.1)
    ks.eraseDups.length != ks.length

def buildRefused (api : Api) : Bool :=
  (methodsOf api).any fun m => match C05.build (recordsFor api m) with | .ok _ => false | _ => true

/-! ## Driver entry -/

def encPairs (ps : List (Bytes × Bytes)) : String := encList (ps.map (·.1)) ++ " " ++ encList (ps.map (·.2))

def renderOut : Out → String
  | .ran i ps => s!"R {i} {encPairs ps}"
  | .notAllowed a => s!"A {encList a}"
  | .notFound => "N"
  | .panic => "PANIC"

def parseOut : List String → Option Out
  | ["R", i, ns, vs] => do
    let i ← i.toNat?
    let ns ← decList ns
    let vs ← decList vs
    if ns.length == vs.length then pure (.ran i (ns.zip vs)) else none
  | ["A", a] => (decList a).map .notAllowed
  | ["N"] => some .notFound
  | "PANIC" :: _ => some .panic
  | _ => none

def run (ins outs : List String) : Verdict :=
  match ins with
  | ["D", base, methods, templates, method, path] =>
    match decField base, decList methods, decList templates, decField method, decField path with
    | some b, some ms, some ts, some m, some p =>
      if ms.length != ts.length then .bad "D ops" else
      let api : Api := ⟨b, (ms.zip ts).map fun (mm, tt) => ⟨mm, tt⟩⟩
      let mo := dispatch api m p
      if outs == ["INVALID"] then { agree := true, specOk := true, tag := "~invalid-input", model := "-" } else
      match parseOut outs with
      | none => { agree := false, specOk := false, tag := "unexpected-output", model := renderOut mo }
      | some o =>
        let kind := match mo with
          | .ran _ ps => s!"ran{ps.length.min 3}"
          | .notAllowed _ => "405"
          | .notFound => "404"
          | .panic => "panic"
        if dupKeys api then
          -- which of two templates with the same converted key wins depends on Go's map order
          { agree := true, specOk := true, tag := "~dupkeys", model := renderOut mo }
        else if buildRefused api then
          -- `_ = router.Build(records)`: the error is ignored and the half-built table is used; what it
          -- answers is not modelled (F01b, documented: such descriptions are outside the quantifier)
          { agree := true, specOk := true, tag := "~build-refused:" ++ kind, model := renderOut mo }
        else if hasComposite api then
          if !(api.ops.all fun op => wellFormedT (fullPath api op)) then
            -- braces that do not pair up into placeholders: only the choice of route is judged
            let okRoute := match o with
              | .ran i _ => (match api.ops[i]? with | some op => toUpper op.method == toUpper m | none => false)
              | .panic => false
              | _ => true
            { agree := mo == o, specOk := okRoute, known := (if oddStatic api then "F01c" else "-"),
              tag := "composite-odd:" ++ kind, model := renderOut mo }
          else
          -- composite segments: route AND values are judged (`specDispatchC`)
          let cleaned := GoPath.clean p
          let vtag := match o with
            | .ran i _ =>
              (match api.ops[i]? with
               | some op =>
                 if isSimple (fullPath api op) then ""
                 else match (instAll (fullPath api op) cleaned).length with
                   | 0 => ":none" | 1 => ":unique" | _ => ":ambiguous"
               | none => "")
            | _ => ""
          -- a recorded finding explains a verdict only where the code does what the model of the
          -- finding says (a panic, or any other answer, inside a known class is still reported)
          let known :=
            if mo != o then "-"
            else if oddStatic api then "F01c"
            else if staticComposite api cleaned then "F01h"
            else if compositeMisfit api cleaned then "F01i"
            else "-"
          { agree := mo == o, specOk := specDispatchC api m p o, known := known,
            tag := "composite:" ++ kind ++ vtag, model := renderOut mo }
        else
          { agree := mo == o, specOk := specDispatch api m p o,
            known := (if oddStatic api then "F01c" else "-"), tag := kind, model := renderOut mo }
    | _, _, _, _, _ => .bad "D fields"
  | _ => .bad "C01 stream"

end RtVerif.C01
