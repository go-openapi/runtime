import RtVerif.Base.Bytes
import RtVerif.Base.Verdict
import RtVerif.Gen.Facts
/-
  C07 — Accept negotiation.

  Model: byte-level transcription of `middleware/header.ParseAccept` (with `expectTokenSlash`,
  `skipSpace`, `expectQuality`) and of `middleware.NegotiateContentType` /
  `NegotiateContentEncoding` / `normalizeOffer`.

  q-values are exact: `int + num / 10^digits` where only the first `Facts.maxQDigits` fractional
  digits are accumulated (that constant is regenerated from the source on every run).
-/
namespace RtVerif.C07
open RtVerif Bytes

/-! ## octet classes (header.go `init`) -/

def isSpaceB (b : UInt8) : Bool := b == 32 || b == 9 || b == 13 || b == 10

def isSeparatorB (b : UInt8) : Bool :=
  -- " \t\"(),/:;<=>?@[]\\{}"
  b == 32 || b == 9 || b == 34 || b == 40 || b == 41 || b == 44 || b == 47 || b == 58 ||
  b == 59 || b == 60 || b == 61 || b == 62 || b == 63 || b == 64 || b == 91 || b == 93 ||
  b == 92 || b == 123 || b == 125

def isTokenB (b : UInt8) : Bool := b ≤ 127 && !(b ≤ 31 || b == 127) && !isSeparatorB b

def isTokSlash (b : UInt8) : Bool := isTokenB b || b == 47

def skipSpace (s : Bytes) : Bytes := s.dropWhile isSpaceB

def expectTokenSlash (s : Bytes) : Bytes × Bytes := (s.takeWhile isTokSlash, s.dropWhile isTokSlash)

/-! ## q-values -/

/-- A parsed quality: `int + num / 10^digits`. -/
structure Q where
  int : Nat
  num : Nat
  digits : Nat
deriving Repr, DecidableEq, BEq

/-- The value in units of `10^-cap` (exact whenever `digits ≤ cap`, which the parser guarantees). -/
def Q.units (q : Q) : Nat :=
  -- operand order matters to the kernel: `Nat.mul`/`Nat.add` recurse on their second argument, which
  -- must be a stuck term, never the literal `10^cap`
  10 ^ Facts.maxQDigits * q.int + q.num * 10 ^ (Facts.maxQDigits - q.digits)

def Q.le (a b : Q) : Bool := a.units ≤ b.units
def Q.lt (a b : Q) : Bool := a.units < b.units
def Q.isZero (a : Q) : Bool := a.units == 0

def isDigit (b : UInt8) : Bool := 48 ≤ b && b ≤ 57

/-- The digit loop of `expectQuality`: consumes every digit, accumulates the first `cap`. -/
def digitsLoop (cap : Nat) : Bytes → Nat → Nat → Nat → (Nat × Nat) × Bytes
  | [], _, n, k => ((n, k), [])
  | b :: r, i, n, k =>
    if isDigit b then
      if i < cap then digitsLoop cap r (i + 1) (n * 10 + (b.toNat - 48)) (k + 1)
      else digitsLoop cap r (i + 1) n k
    else ((n, k), b :: r)

/-- the part of `expectQuality` after the leading `0`/`1`: optional `.` and digits -/
def fracPart (int : Nat) (s : Bytes) : Option Q × Bytes :=
  match s with
  | 46 :: t =>
    (some ⟨int, (digitsLoop Facts.maxQDigits t 0 0 0).1.1, (digitsLoop Facts.maxQDigits t 0 0 0).1.2⟩,
     (digitsLoop Facts.maxQDigits t 0 0 0).2)
  | _ => (some ⟨int, 0, 0⟩, s)

/-- `expectQuality`: `none` is the Go result `-1` (with rest `""`). -/
def expectQuality (s : Bytes) : Option Q × Bytes :=
  match s with
  | [] => (none, [])
  | b :: r =>
    if b == 48 then fracPart 0 r
    else if b == 49 then fracPart 1 r
    else if b == 46 then fracPart 0 (b :: r)
    else (none, [])

/-! ## ParseAccept -/

structure Spec where
  value : Bytes
  q : Q
deriving Repr, DecidableEq, BEq

def qPrefix : Bytes := [113, 61]  -- "q="

theorem length_dropWhile_le {α} (p : α → Bool) (l : List α) : (l.dropWhile p).length ≤ l.length :=
  (List.dropWhile_suffix p).length_le

/-- the `for !HasPrefix(s,"q=") && s != "" && !HasPrefix(s,",")` scanner -/
def scanQ (s : Bytes) : Bytes :=
  match s with
  | [] => []
  | b :: r =>
    if hasPrefix (b :: r) qPrefix || b == 44 then b :: r else scanQ (skipSpace r)
termination_by s.length
decreasing_by
  have := length_dropWhile_le isSpaceB r
  simp only [skipSpace, List.length_cons]; omega

theorem scanQ_suffix (s : Bytes) : scanQ s <:+ s := by
  induction s using scanQ.induct with
  | case1 => rw [scanQ]; exact List.suffix_refl _
  | case2 b r h => rw [scanQ, if_pos h]; exact List.suffix_refl _
  | case3 b r h ih =>
    rw [scanQ, if_neg h]
    exact ih.trans ((List.dropWhile_suffix _).trans (List.suffix_cons b r))

theorem digitsLoop_suffix (cap : Nat) (s : Bytes) (i n k : Nat) : (digitsLoop cap s i n k).2 <:+ s := by
  induction s generalizing i n k with
  | nil => exact List.suffix_refl _
  | cons b r ih =>
    rw [digitsLoop]
    split
    · split <;> exact (ih ..).trans (List.suffix_cons b r)
    · exact List.suffix_refl _

theorem fracPart_suffix (int : Nat) (s : Bytes) : (fracPart int s).2 <:+ s := by
  unfold fracPart
  split
  · exact (digitsLoop_suffix ..).trans (List.suffix_cons ..)
  · exact List.suffix_refl _

theorem expectQuality_suffix (s : Bytes) : (expectQuality s).2 <:+ s := by
  unfold expectQuality
  split
  · exact List.nil_suffix
  · rename_i b r
    split
    · exact (fracPart_suffix 0 r).trans (List.suffix_cons b r)
    split
    · exact (fracPart_suffix 1 r).trans (List.suffix_cons b r)
    split
    · exact fracPart_suffix 0 (b :: r)
    · exact List.nil_suffix

/-- One turn of the Go inner `for {}` loop. `none`: nothing appended, line abandoned;
`some (sp, none)`: `sp` appended, line finished; `some (sp, some rest)`: appended, continue. -/
def parseOne (s : Bytes) : Option (Spec × Option Bytes) :=
  let value := (expectTokenSlash s).1
  let s1 := (expectTokenSlash s).2
  if value.isEmpty then none
  else
    let s2 := skipSpace s1
    let qs : Option (Q × Bytes) :=
      match s2 with
      | 59 :: t =>
        let s3 := scanQ (skipSpace t)
        if hasPrefix s3 qPrefix then
          match expectQuality (s3.drop 2) with
          | (some q, rest) => some (q, rest)
          | (none, _) => none
        else some (⟨1, 0, 0⟩, s3)
      | _ => some (⟨1, 0, 0⟩, s2)
    match qs with
    | none => none
    | some (q, s4) =>
      match skipSpace s4 with
      | 44 :: t => some (⟨value, q⟩, some (skipSpace t))
      | _ => some (⟨value, q⟩, none)

theorem parseOne_shorter {s : Bytes} {sp : Spec} {rest : Bytes}
    (h : parseOne s = some (sp, some rest)) : rest.length < s.length := by
  have sk : ∀ t, skipSpace t <:+ t := fun t => List.dropWhile_suffix _
  unfold parseOne at h
  simp only at h
  split at h
  · cases h
  split at h
  · cases h
  rename_i q s4 hq
  -- what is left after the optional parameters is a suffix of what was there before them
  have hk : s4 <:+ skipSpace (expectTokenSlash s).2 := by
    split at hq
    · rename_i t heq
      have a12 := (scanQ_suffix _).trans ((sk t).trans (List.suffix_cons 59 t))
      rw [heq]
      split at hq
      · split at hq <;> cases hq
        rename_i heq'
        have a3 := expectQuality_suffix ((scanQ (skipSpace t)).drop 2)
        rw [heq'] at a3
        exact (a3.trans (List.drop_suffix 2 _)).trans a12
      · cases hq
        exact a12
    · cases hq
      exact List.suffix_refl _
  -- the turn goes on only past a comma
  split at h <;> cases h
  rename_i t heq
  have hs : 44 :: t <:+ s := ((heq ▸ sk s4).trans hk).trans ((sk _).trans (List.dropWhile_suffix _))
  exact Nat.lt_of_le_of_lt (sk t).length_le hs.length_le
/-- One header line (the Go inner `for {}` loop); terminates because every turn consumes input. -/
def parseLine (s : Bytes) : List Spec :=
  match h : parseOne s with
  | none => []
  | some (sp, none) => [sp]
  | some (sp, some rest) => sp :: parseLine rest
termination_by s.length
decreasing_by exact parseOne_shorter h

def parseAccept (lines : List Bytes) : List Spec := lines.flatMap parseLine

/-! ## Negotiation -/

def normalizeOffer (o : Bytes) : Bytes := beforeByte o 59

def starSlashStar : Bytes := [42, 47, 42]
def slashStar : Bytes := [47, 42]

/-- Which kind of range `spec` is for `offer` (0 exact, 1 `type/*`, 2 `*/*`), if it matches. -/
def matchWild (specValue offer : Bytes) : Option Nat :=
  if specValue == starSlashStar then some 2
  else if hasSuffix specValue slashStar then
    if hasPrefix offer (specValue.take (specValue.length - 1)) then some 1 else none
  else if specValue == offer then some 0 else none

structure Best where
  offer : Bytes
  q : Option Q      -- `none` is the initial -1.0
  wild : Nat
deriving Repr, DecidableEq, BEq

def qGtBest (q : Q) (best : Option Q) : Bool :=
  match best with | none => true | some b => Q.lt b q
def qLtBest (q : Q) (best : Option Q) : Bool :=
  match best with | none => false | some b => Q.lt q b

/-- one turn of the inner `for _, spec := range specs` loop -/
def stepSpec (raw offer : Bytes) (st : Best) (sp : Spec) : Best :=
  if sp.q.isZero then st
  else if qLtBest sp.q st.q then st
  else match matchWild sp.value offer with
    | none => st
    | some w => if qGtBest sp.q st.q || st.wild > w then ⟨raw, some sp.q, w⟩ else st

def stepOffer (specs : List Spec) (st : Best) (raw : Bytes) : Best :=
  specs.foldl (stepSpec raw (normalizeOffer raw)) st

def negotiateContentType (specs : List Spec) (offers : List Bytes) (dflt : Bytes) : Bytes :=
  match offers with
  | [] => dflt
  | first :: _ =>
    if specs.isEmpty then first
    else (offers.foldl (stepOffer specs) ⟨dflt, none, 3⟩).offer

/-! ### Content encoding -/

def star : Bytes := [42]
def identity : Bytes := ofStr "identity"

def encStep (offer : Bytes) (st : Bytes × Option Q) (sp : Spec) : Bytes × Option Q :=
  if qGtBest sp.q st.2 && (sp.value == star || sp.value == offer) then (offer, some sp.q) else st

def negotiateContentEncoding (specs : List Spec) (offers : List Bytes) : Bytes :=
  let r := offers.foldl (fun st o => specs.foldl (encStep o) st) (identity, none)
  match r.2 with
  | some q => if q.isZero then [] else r.1
  | none => r.1


/-! ## Spec (from the property text, not from the code)

"the chosen response type is always one of the offered types (or the stated default when nothing
matches), namely the offer matched by the acceptable media range of highest quality, ties broken by
the more specific range and then by offer order; ranges with quality 0 never select an offer and a
missing Accept header selects the first offer." -/

/-- An (offer, range) pair in which the range has q > 0 and matches the offer. -/
structure Cand where
  raw : Bytes
  q : Q
  wild : Nat
deriving Repr, DecidableEq, BEq

/-- strictly better: higher quality, or equal quality and more specific -/
def Cand.better (a b : Cand) : Bool :=
  Q.lt b.q a.q || (a.q.units == b.q.units && a.wild < b.wild)

def candsFor (specs : List Spec) (raw : Bytes) : List Cand :=
  specs.filterMap fun sp =>
    if sp.q.isZero then none
    else (matchWild sp.value (normalizeOffer raw)).map fun w => ⟨raw, sp.q, w⟩

/-- all candidates, in offer order -/
def candidates (specs : List Spec) (offers : List Bytes) : List Cand :=
  offers.flatMap (candsFor specs)

/-- the first of the maximal elements -/
def firstMax : List Cand → Option Cand
  | [] => none
  | c :: cs =>
    match firstMax cs with
    | none => some c
    | some m => if m.better c then some m else some c

def specChoice (specs : List Spec) (offers : List Bytes) (dflt : Bytes) : Bytes :=
  match offers with
  | [] => dflt
  | first :: _ =>
    if specs.isEmpty then first
    else match firstMax (candidates specs offers) with
      | none => dflt
      | some c => c.raw

/-- Accept-Encoding (doc comment of `NegotiateContentEncoding`): best q among ranges equal to the
offer or `*`, earlier offer on ties, `identity` when nothing matches, `""` when the best q is 0. -/
def encCands (specs : List Spec) (offers : List Bytes) : List Cand :=
  offers.flatMap fun o => specs.filterMap fun sp =>
    if sp.value == star || sp.value == o then some ⟨o, sp.q, 0⟩ else none

def specEncoding (specs : List Spec) (offers : List Bytes) : Bytes :=
  match firstMax (encCands specs offers) with
  | none => identity
  | some c => if c.q.isZero then [] else c.raw

/-! ## Driver entry -/

def floatOfQ (q : Q) : Float :=
  Float.ofNat q.int + Float.ofNat q.num / Float.ofNat (10 ^ q.digits)

def hex16 (n : UInt64) : String :=
  String.ofList ((List.range 16).reverse.map fun i => hexDigit ((n.toNat >>> (4 * i)) % 16))

def renderSpecs (sps : List Spec) : String :=
  encList (sps.map (·.value)) ++ " " ++
    (if sps.isEmpty then "." else ",".intercalate (sps.map fun sp => hex16 (floatOfQ sp.q).toBits))

def run (ins outs : List String) : Verdict :=
  match ins, outs with
  | ["P", lines], [vals, qs] =>
    match decList lines with
    | some ls =>
      let m := renderSpecs (parseAccept ls)
      let ok := m == vals ++ " " ++ qs
      -- the property's demand on parsing is totality (no panic); the parse itself is the model's
      { agree := ok, specOk := true, tag := (if (parseAccept ls).isEmpty then "~P:n=0" else s!"P:n={(parseAccept ls).length.min 6}"), model := m }
    | none => .bad "P fields"
  | ["N", lines, offers, dflt], [chosen] =>
    match decList lines, decList offers, decField dflt, decField chosen with
    | some ls, some os, some d, some c =>
      let specs := parseAccept ls
      let m := negotiateContentType specs os d
      let sp := specChoice specs os d
      let kind := if os.isEmpty then "~nooffers" else if specs.isEmpty then "noaccept"
        else match firstMax (candidates specs os) with
          | none => "nomatch"
          | some b => s!"w{b.wild}{if (candidates specs os).length > 1 then "+" else ""}"
      { agree := m == c, specOk := sp == c && (c == d || os.contains c), tag := (if kind.startsWith "~" then "~N:" ++ kind.drop 1 else "N:" ++ kind), model := encField m }
    | _, _, _, _ => .bad "N fields"
  | ["E", lines, offers], [chosen] =>
    match decList lines, decList offers, decField chosen with
    | some ls, some os, some c =>
      let specs := parseAccept ls
      let m := negotiateContentEncoding specs os
      { agree := m == c, specOk := specEncoding specs os == c,
        tag := (if (encCands specs os).isEmpty then "~E:0" else s!"E:{(encCands specs os).length.min 3}"), model := encField m }
    | _, _, _ => .bad "E fields"
  | ["T", _lines], ["ok"] =>
    -- a TEST, not a theorem: the other exported parsers of header.go (ParseAccept2, ParseList,
    -- ParseValueAndParams, ParseTime, Copy) returned on these header lines without panicking
    { agree := true, specOk := true, tag := "~test:totality", model := "ok" }
  | _, [ "PANIC", msg ] => { agree := false, specOk := false, tag := "panic", model := "no-panic expected; impl: " ++ msg }
  | _, _ => .bad "C07 stream"

end RtVerif.C07
