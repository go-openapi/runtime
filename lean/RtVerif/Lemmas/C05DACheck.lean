import RtVerif.Lemmas.C05DALookup
/-  C05DA: the decidable check `reprB` (what the driver applies to the REAL arrays) implies
    the invariant `Repr`. -/
namespace RtVerif.C05DA
open RtVerif Bytes
open RtVerif.C05 (Rec cParam cWild cTerm sortRecs leafOf hasSingle advWild weight look)

theorem mem_allBytes {c : UInt8} (hc : c ≠ 0) : c ∈ allBytes := by
  unfold allBytes
  rw [List.mem_map]
  have hpos : 0 < c.toNat := by
    have : c.toNat ≠ (0 : UInt8).toNat := fun h => hc (UInt8.toNat_inj.mp h)
    simp at this; omega
  have hlt : c.toNat < 256 := UInt8.toNat_lt c
  refine ⟨c.toNat - 1, by rw [List.mem_range]; omega, ?_⟩
  have : c.toNat - 1 + 1 = c.toNat := by omega
  rw [this, UInt8.ofNat_toNat]

theorem reprB_sound (bc : BC) (node : Array (Option Node)) :
    ∀ (fuel idx : Nat) (rs : List Rec), reprB bc node fuel idx rs = true → Repr bc node idx rs := by
  intro fuel
  induction fuel with
  | zero => intro idx rs h; simp [reprB] at h
  | succ f ih =>
    intro idx rs h
    rw [reprB] at h
    simp only [Bool.and_eq_true, decide_eq_true_eq] at h
    obtain ⟨hlt, h⟩ := h
    split at h
    · rename_i hall
      split at h
      · rename_i r hl
        refine Repr.leaf idx rs r hlt ?_ hl (by simpa using h)
        intro x hx
        have := List.all_eq_true.mp hall x hx
        simpa using this
      · cases h
    · rename_i hall
      simp only [Bool.and_eq_true, beq_iff_eq] at h
      obtain ⟨⟨⟨hk, hs⟩, hw⟩, hb⟩ := h
      have hne : rs ≠ [] := by
        intro hnil; apply hall; rw [hnil]; rfl
      have hk' : ∀ x ∈ rs, x.key ≠ [] := by
        intro x hx
        have := List.all_eq_true.mp hk x hx
        simpa using this
      rw [List.all_eq_true] at hb
      have hb' : ∀ c : UInt8, c ≠ 0 → childOf c rs ≠ [] →
          (el bc (nextIndex (el bc idx).base c)).check = c ∧
            reprB bc node f (nextIndex (el bc idx).base c) (childOf c rs) = true := by
        intro c hc hnn
        have := hb c (mem_allBytes hc)
        rw [List.isEmpty_eq_false_iff.mpr hnn] at this
        simpa using this
      refine Repr.inner idx rs hlt hne hk' hs hw ?_ (fun c hc hnn => (hb' c hc hnn).1)
        (fun c hc hnn => ih _ _ (hb' c hc hnn).2)
      intro c hc hnil
      have := hb c (mem_allBytes hc)
      rw [hnil] at this
      simpa using this

end RtVerif.C05DA
