import RtVerif.Model.C01
import RtVerif.Lemmas.C01Bridge
import RtVerif.Lemmas.C01Composite
/-
  C01: where `{name}` occurs in a template.  A template is a sequence of chunks — static text free
  of braces, or a placeholder `{n}` with a brace-free name; `strings.Index(template, "{name}")`
  is the offset of the first placeholder chunk with that name.
-/
namespace RtVerif.C01
open RtVerif Bytes

inductive Chunk where
  | st (b : Bytes)
  | ph (n : Bytes)
deriving Repr, DecidableEq

def Chunk.text : Chunk → Bytes
  | .st b => b
  | .ph n => needleOf n

def Chunk.wf : Chunk → Prop
  | .st b => b.all notBrace = true
  | .ph n => n.all notBrace = true

def flatC : List Chunk → Bytes
  | [] => []
  | c :: r => c.text ++ flatC r

/-- offset of the first placeholder chunk named `name` -/
def firstOcc (name : Bytes) : List Chunk → Option Nat
  | [] => none
  | .st b :: r => (firstOcc name r).map (b.length + ·)
  | .ph n :: r => if n = name then some 0 else (firstOcc name r).map ((needleOf n).length + ·)

/-- names of the placeholder chunks -/
def chunkNames : List Chunk → List Bytes
  | [] => []
  | .st _ :: r => chunkNames r
  | .ph n :: r => n :: chunkNames r

theorem flatC_append (as bs : List Chunk) : flatC (as ++ bs) = flatC as ++ flatC bs := by
  induction as with
  | nil => rfl
  | cons c r ih => simp [flatC, ih]

theorem chunkNames_append (as bs : List Chunk) : chunkNames (as ++ bs) = chunkNames as ++ chunkNames bs := by
  induction as with
  | nil => rfl
  | cons c t ih => cases c <;> simp [chunkNames, ih]

theorem indexOf_needle_skip (name a rest : Bytes) (ha : lbrace ∉ a) :
    indexOf (needleOf name) (a ++ rest) = (indexOf (needleOf name) rest).map (a.length + ·) :=
  indexOf_skip lbrace _ a rest ha

/-- `name}` is a prefix of `n}X` for brace-free `name`, `n` only if they are equal: both are the
text up to the first brace -/
theorem brace_prefix_eq (name n X : Bytes) (hname : name.all notBrace = true) (hn : n.all notBrace = true)
    (h : (name ++ [rbrace]).isPrefixOf (n ++ rbrace :: X) = true) : name = n := by
  have h1 := (span_append notBrace n (rbrace :: X) hn (by simp [notBrace])).1
  rw [eq_append_of_isPrefixOf h, List.append_assoc,
    (span_append notBrace name _ hname (by simp [notBrace])).1] at h1
  exact h1

theorem indexOf_needle_chunk (name : Bytes) (hname : name.all notBrace = true) (c : Chunk) (hc : c.wf)
    (hne : c ≠ .ph name) (rest : Bytes) :
    indexOf (needleOf name) (c.text ++ rest) = (indexOf (needleOf name) rest).map (c.text.length + ·) := by
  cases c with
  | st b => exact indexOf_needle_skip name b rest (not_mem_of_all hc rfl)
  | ph n =>
    have hnp : (needleOf name).isPrefixOf (lbrace :: (n ++ [rbrace] ++ rest)) = false :=
      Bool.eq_false_iff.mpr fun hp => hne (by
        rw [brace_prefix_eq name n rest hname hc (by simpa [needleOf] using hp)])
    show indexOf (needleOf name) (lbrace :: (n ++ [rbrace] ++ rest)) = _
    rw [indexOf_cons, hnp, indexOf_needle_skip name (n ++ [rbrace]) rest (by
      simp only [List.mem_append, List.mem_singleton, not_or]
      exact ⟨not_mem_of_all hc rfl, by decide⟩)]
    cases indexOf (needleOf name) rest <;> simp [Chunk.text, needleOf]
    omega

theorem indexOf_needle_flatC (name : Bytes) (hname : name.all notBrace = true) (cs : List Chunk)
    (hw : ∀ c ∈ cs, c.wf) : indexOf (needleOf name) (flatC cs) = firstOcc name cs := by
  induction cs with
  | nil => simp [flatC, firstOcc, indexOf, indexOf.go, needleOf]
  | cons c r ih =>
    have hr := ih fun x hx => hw x (List.mem_cons_of_mem _ hx)
    by_cases he : c = .ph name
    · subst he
      simp only [flatC, Chunk.text, firstOcc, ↓reduceIte]
      exact indexOf_prefix _ _ (by simp)
    · rw [flatC, indexOf_needle_chunk name hname c (hw c List.mem_cons_self) he, hr]
      cases c with
      | st b => rfl
      | ph n =>
        have : ¬ n = name := fun e => he (e ▸ rfl)
        simp [firstOcc, Chunk.text, this]

theorem firstOcc_none (name : Bytes) (cs : List Chunk) (h : name ∉ chunkNames cs) : firstOcc name cs = none := by
  induction cs with
  | nil => rfl
  | cons c r ih =>
    cases c with
    | st b => simp only [chunkNames] at h; simp [firstOcc, ih h]
    | ph n =>
      simp only [chunkNames, List.mem_cons, not_or] at h
      simp [firstOcc, Ne.symm h.1, ih h.2]

theorem indexOf_needle_at (name : Bytes) (as : List Chunk) (X : Bytes) (hname : name.all notBrace = true)
    (hwa : ∀ c ∈ as, c.wf) (h : name ∉ chunkNames as) :
    indexOf (needleOf name) (flatC as ++ needleOf name ++ X) = some (flatC as).length := by
  induction as with
  | nil => exact indexOf_prefix _ _ (by simp [flatC])
  | cons c r ih =>
    have hne : c ≠ .ph name := fun e => h (by rw [e]; exact List.mem_cons_self)
    have hr : name ∉ chunkNames r := fun hm => h (by cases c <;> simp [chunkNames, hm])
    rw [flatC, List.append_assoc, List.append_assoc, indexOf_needle_chunk name hname c (hwa c List.mem_cons_self) hne,
      ← List.append_assoc, ih (fun x hx => hwa x (List.mem_cons_of_mem _ hx)) hr]
    simp

end RtVerif.C01
