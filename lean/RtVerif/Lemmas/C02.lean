import RtVerif.Model.C02
/-
  How the OR loop `authAll` ends (`authAll_char`: the whole result, with a principal or with the last
  rejection as its error), the Boolean Spec functions read as the propositions `Satisfied` /
  `Refusal`, and from these that `Context.Authorize` meets the Spec on the structure the router built.
-/
namespace RtVerif.C02
open RtVerif Bytes

@[simp] theorem logged_applies (c : Call) (r : AltRes) : (r.logged c).applies = r.applies := rfl
@[simp] theorem logged_princ (c : Call) (r : AltRes) : (r.logged c).princ = r.princ := rfl
@[simp] theorem logged_err (c : Call) (r : AltRes) : (r.logged c).err = r.err := rfl
@[simp] theorem logged_setAuth (c : Call) (r : AltRes) : (r.logged c).setAuth = r.setAuth := rfl
@[simp] theorem logged_log (c : Call) (r : AltRes) : (r.logged c).log = c :: r.log := rfl

theorem authSchemes_ok (env : Env) : ∀ (a : List Req) (last : Option Principal),
    (authSchemes env last a).applies = true → (authSchemes env last a).err = none →
    (authSchemes env last a).log = a.map Req.call ∧
    (∀ s ∈ a, s.registered = true ∧ ∃ q, env s.name s.scopes = .accepted q) ∧
    (∀ x, (authSchemes env last a).princ = some x →
        last = some x ∨ ∃ s ∈ a, env s.name s.scopes = .accepted (some x)) := by
  intro a
  induction a with
  | nil => exact fun last _ _ => ⟨rfl, nofun, fun x hx => Or.inl hx⟩
  | cons s rest ih =>
    intro last happ herr
    rw [authSchemes] at happ herr ⊢
    cases hreg : s.registered
    · simp [hreg] at happ
    cases hout : env s.name s.scopes with
    | notApplicable => simp [hreg, hout] at happ
    | rejected e => simp [hreg, hout] at herr
    | accepted p =>
      simp only [hreg, hout, ↓reduceIte, logged_applies, logged_err, logged_log, logged_princ] at happ herr ⊢
      obtain ⟨h0, h1, h2⟩ := ih p happ herr
      refine ⟨congrArg _ h0, List.forall_mem_cons.mpr ⟨⟨hreg, p, hout⟩, h1⟩, fun x hx => Or.inr ?_⟩
      rcases h2 x hx with rfl | ⟨t, ht, hy⟩
      · exact ⟨s, List.mem_cons_self, hout⟩
      · exact ⟨t, List.mem_cons_of_mem _ ht, hy⟩

theorem rejections_cons (env : Env) (c : Call) (l : List Call) :
    rejections env (c :: l) =
      (match env c.name c.scopes with | .rejected e => [e] | _ => []) ++ rejections env l := by
  unfold rejections
  rw [List.filterMap_cons]
  cases env c.name c.scopes <;> rfl

theorem rejections_append (env : Env) (l₁ l₂ : List Call) :
    rejections env (l₁ ++ l₂) = rejections env l₁ ++ rejections env l₂ :=
  List.filterMap_append

theorem authSchemes_rejections (env : Env) : ∀ (a : List Req) (last : Option Principal),
    rejections env (authSchemes env last a).log = (authSchemes env last a).err.toList := by
  intro a
  induction a with
  | nil => exact fun _ => rfl
  | cons s rest ih =>
    intro last
    rw [authSchemes]
    cases s.registered
    · rfl
    cases hout : env s.name s.scopes with
    | accepted p => simpa [rejections_cons, Req.call, hout] using ih p
    | _ => simp [rejections, Req.call, hout]

@[simp] theorem prepend_applies (l : List Call) (r : AllRes) : (r.prepend l).applies = r.applies := rfl
@[simp] theorem prepend_princ (l : List Call) (r : AllRes) : (r.prepend l).princ = r.princ := rfl
@[simp] theorem prepend_err (l : List Call) (r : AllRes) : (r.prepend l).err = r.err := rfl
@[simp] theorem prepend_admitted (l : List Call) (r : AllRes) : (r.prepend l).admitted = r.admitted := rfl
@[simp] theorem prepend_log (l : List Call) (r : AllRes) : (r.prepend l).log = l ++ r.log := rfl

theorem satisfied_princ {r : AltRes} (h : r.satisfied = true) : r.princ.isSome = true := by
  simp only [AltRes.satisfied, Bool.and_eq_true] at h
  exact h.2

theorem getLast?_toList_append {α} (o : Option α) (l r : List α) (h : o = l.getLast?) :
    (o.toList ++ r).getLast? = (l ++ r).getLast? := by
  subst h
  rw [List.getLast?_append, List.getLast?_append]
  cases l.getLast? <;> simp

/-- How the OR loop ends. Either with the first satisfied non-empty alternative: its principal, no
error, the alternative as `route.Authenticator`, its consultations at the end of the log. Or, none
being satisfied, without a principal: the error `e` is the LAST rejection among everything consulted
(after the carried-in `lastError`), the loop "applies" if there is an error or it may pass
anonymously, and only in the latter case is `route.Authenticator` set (to the anonymous alternative). -/
theorem authAll_char (env : Env) : ∀ (alts : List Alt) (le : Option Err) (an : Bool),
    (∃ a ∈ alts, a.isEmpty = false ∧ (authSchemes env none a).satisfied = true ∧
      ∃ l, authAll env le an alts =
        ⟨true, (authSchemes env none a).princ, none, some a, l ++ (authSchemes env none a).log⟩)
    ∨ ((∀ a ∈ alts, a.isEmpty = false → (authSchemes env none a).satisfied = false) ∧
      ∃ l e, e = (le.toList ++ rejections env l).getLast? ∧
        authAll env le an alts = ⟨e.isSome || (an || alts.any (·.isEmpty)), none, e,
          if e.isNone && (an || alts.any (·.isEmpty)) then some [] else none, l⟩) := by
  intro alts
  induction alts with
  | nil =>
    intro le an
    refine Or.inr ⟨nofun, [], le, ?_, ?_⟩
    · cases le <;> rfl
    · rw [authAll]
      cases le <;> cases an <;> rfl
  | cons a rest ih =>
    intro le an
    rw [authAll]
    cases hemp : a.isEmpty
    case true =>
      rcases ih le true with ⟨b, hb, h⟩ | ⟨h2, l, e, he, h⟩
      · exact Or.inl ⟨b, List.mem_cons_of_mem _ hb, h⟩
      · exact Or.inr ⟨List.forall_mem_cons.mpr ⟨by simp [hemp], h2⟩, l, e, he,
          by simpa [hemp] using h⟩
    cases hsat : (authSchemes env none a).satisfied
    case true => exact Or.inl ⟨a, List.mem_cons_self, hemp, hsat, [], rfl⟩
    rcases ih (nextErr (authSchemes env none a) le) an with ⟨b, hb, g1, g2, l, h⟩ | ⟨h2, l, e, he, h⟩
    · exact Or.inl ⟨b, List.mem_cons_of_mem _ hb, g1, g2, (authSchemes env none a).log ++ l, by
        simp [h, AllRes.prepend]⟩
    · refine Or.inr ⟨List.forall_mem_cons.mpr ⟨fun _ => hsat, h2⟩,
        (authSchemes env none a).log ++ l, e, ?_, by simp [h, AllRes.prepend, hemp]⟩
      -- the error carried on is this alternative's rejection, if it had one
      rw [he, rejections_append, authSchemes_rejections, ← List.append_assoc]
      apply getLast?_toList_append
      unfold nextErr
      cases (authSchemes env none a).err <;> cases le <;> rfl

theorem isRejected_eq_false_iff (o : Outcome) : o.isRejected = false ↔ ∀ e, o ≠ .rejected e := by
  cases o <;> simp [Outcome.isRejected]

theorem isAccepted_iff (o : Outcome) : o.isAccepted = true ↔ ∃ q, o = .accepted q := by
  cases o <;> simp [Outcome.isAccepted]

theorem noRejection_iff (env : Env) (log : List Call) :
    noRejection env log = true ↔ NoRejection env log := by
  simp [noRejection, NoRejection, isRejected_eq_false_iff]

theorem mem_rejections (env : Env) (log : List Call) (e : Err) :
    e ∈ rejections env log ↔ ∃ c ∈ log, env c.name c.scopes = .rejected e := by
  unfold rejections
  rw [List.mem_filterMap]
  refine exists_congr fun c => and_congr_right fun _ => ?_
  cases env c.name c.scopes <;> simp [eq_comm]

theorem rejections_eq_nil_iff (env : Env) (log : List Call) :
    rejections env log = [] ↔ NoRejection env log := by
  simp only [List.eq_nil_iff_forall_not_mem, mem_rejections, NoRejection, not_exists, not_and]
  exact ⟨fun h c hc e => h e c hc, fun h e c hc => h c hc e⟩

theorem consultedAccepted_iff (env : Env) (log : List Call) (s : DocReq) :
    consultedAccepted env log s = true ↔ ((⟨s.1, s.2⟩ : Call) ∈ log ∧ ∃ q, env s.1 s.2 = .accepted q) := by
  simp [consultedAccepted, isAccepted_iff]

theorem satisfiedSome_iff (env : Env) (log : List Call) (a : DocAlt) (q : Option Principal → Bool) :
    satisfiedSome env log a q = true ↔ ∃ p, Satisfied env log a p ∧ q p = true := by
  unfold satisfiedSome Satisfied
  cases a with
  | nil => simp [noRejection_iff, and_assoc]
  | cons s a =>
    simp only [List.isEmpty_cons, Bool.false_eq_true, ↓reduceIte, Bool.and_eq_true, List.all_eq_true,
      List.any_eq_true, consultedAccepted_iff, reduceCtorEq, false_and, false_or,
      ne_eq, not_false_eq_true, true_and]
    constructor
    · rintro ⟨h1, t, ht, hm⟩
      split at hm
      · rename_i x hx; exact ⟨some x, ⟨h1, x, rfl, t, ht, hx⟩, hm⟩
      · cases hm
    · rintro ⟨p, ⟨h1, x, rfl, t, ht, hx⟩, hq⟩
      exact ⟨h1, t, ht, by rw [hx]; exact hq⟩

theorem satisfiedBy_iff (env : Env) (log : List Call) (a : DocAlt) (p : Option Principal) :
    satisfiedBy env log a p = true ↔ Satisfied env log a p := by
  unfold satisfiedBy Satisfied
  cases a with
  | nil =>
    simp only [List.isEmpty_nil, ↓reduceIte, Bool.and_eq_true, Option.isNone_iff_eq_none, noRejection_iff,
      ne_eq, not_true_eq_false, false_and, or_false, true_and]
  | cons s a =>
    simp only [List.isEmpty_cons, Bool.false_eq_true, ↓reduceIte, Bool.and_eq_true, List.all_eq_true,
      consultedAccepted_iff, reduceCtorEq, false_and, false_or, ne_eq, not_false_eq_true, true_and]
    cases p with
    | none => simp only [Bool.false_eq_true, and_false, reduceCtorEq, false_and, exists_false]
    | some x => simp only [List.any_eq_true, yields, beq_iff_eq, Option.some.injEq, exists_eq_left']

theorem admissible_iff (alts : List DocAlt) (env : Env) (authz : Option Authorizer) (log : List Call) :
    admissible alts env authz log = true ↔
      ∃ a ∈ alts, ∃ p, Satisfied env log a p ∧ authzAccepts authz p = true := by
  simp only [admissible, List.any_eq_true, satisfiedSome_iff]

theorem authzDenies_iff (authz : Option Authorizer) (is : Err → Bool) (p : Option Principal) :
    authzDenies authz is p = true ↔ ∃ f e0, authz = some f ∧ f p = some e0 ∧ is (specAuthzErr e0) = true := by
  unfold authzDenies
  cases authz with
  | none => simp
  | some f => cases hf : f p <;> simp [hf]

theorem refusalAllowed_iff (alts : List DocAlt) (env : Env) (authz : Option Authorizer)
    (log : List Call) (is : Err → Bool) :
    refusalAllowed alts env authz log is = true ↔ ∃ e, Refusal alts env authz log e ∧ is e = true := by
  unfold refusalAllowed Refusal
  simp only [Bool.or_eq_true, List.any_eq_true, satisfiedSome_iff, authzDenies_iff]
  constructor
  · rintro (h | ⟨a, ha, p, hs, f, e0, rfl, hf, hi⟩)
    · split at h
      · rename_i hr
        exact ⟨_, Or.inr (Or.inl ⟨List.isEmpty_iff.mp hr, rfl⟩), h⟩
      · obtain ⟨e, he, hi⟩ := List.any_eq_true.mp h
        exact ⟨e, Or.inl he, hi⟩
    · exact ⟨_, Or.inr (Or.inr ⟨f, a, p, e0, rfl, ha, hs, hf, rfl⟩), hi⟩
  · rintro ⟨e, he | ⟨hr, rfl⟩ | ⟨f, a, p, e0, rfl, ha, hs, hf, rfl⟩, hi⟩
    · left
      rw [if_neg (by simpa using List.ne_nil_of_mem he)]
      exact List.any_eq_true.mpr ⟨e, he, hi⟩
    · left; simpa [hr] using hi
    · exact Or.inr ⟨a, ha, p, hs, f, e0, rfl, hf, hi⟩

theorem sameSet_iff (a b : List Scope) : sameSet a b = true ↔ ∀ x, x ∈ a ↔ x ∈ b := by
  simp only [sameSet, Bool.and_eq_true, List.all_eq_true, List.contains_iff_mem]
  exact ⟨fun ⟨h1, h2⟩ x => ⟨h1 x, h2 x⟩, fun h => ⟨fun x => (h x).mp, fun x => (h x).mpr⟩⟩

theorem mem_dedup (x : Scope) : ∀ (l seen : List Scope), x ∈ dedup seen l ↔ (x ∈ l ∧ x ∉ seen) := by
  intro l
  induction l with
  | nil => simp [dedup]
  | cons y r ih =>
    intro seen
    by_cases hy : y ∈ seen
    · rw [dedup, if_pos (List.contains_iff_mem.mpr hy), ih, List.mem_cons]
      exact ⟨fun ⟨a, b⟩ => ⟨Or.inr a, b⟩, fun ⟨a, b⟩ => ⟨a.resolve_left fun e => b (e ▸ hy), b⟩⟩
    · rw [dedup, if_neg (mt List.contains_iff_mem.mp hy)]
      by_cases hxy : x = y <;> simp [ih, hxy, hy]

theorem mem_allScopes (a : Alt) (x : Scope) : x ∈ allScopes a ↔ ∃ s ∈ a.map Req.key, x ∈ s.2 := by
  rw [← List.mem_flatMap, List.flatMap_map, allScopes, mem_dedup]
  exact and_iff_left List.not_mem_nil

theorem specDirect_iff (alts : List DocAlt) (env : Env) (authz : Option Authorizer) (res : AuthzRes)
    (log : List Call) :
    specDirect alts env authz res log = true ↔
      match res with
      | .ok p sc => ∃ a ∈ alts, Satisfied env log a p ∧ authzAccepts authz p = true ∧
          ∀ x, x ∈ sc ↔ ∃ s ∈ a, x ∈ s.2
      | .err e => Refusal alts env authz log e
      | .noauth => alts = []
      | .panic => False := by
  cases res with
  | ok p sc =>
    simp only [specDirect, List.any_eq_true, Bool.and_eq_true, satisfiedBy_iff, sameSet_iff, docScopes,
      List.mem_flatMap, and_assoc]
  | err e => simp [specDirect, refusalAllowed_iff]
  | noauth => exact List.isEmpty_iff
  | panic => simp [specDirect]

/-- the declared shape of what the router built -/
def keys (built : List Alt) : List DocAlt := built.map (·.map Req.key)

theorem keys_isEmpty (built : List Alt) : (keys built).isEmpty = built.isEmpty := List.isEmpty_map

/-- the code's 403 default is the property's -/
theorem authorizerErr_eq : ∀ e, authorizerErr e = specAuthzErr e := by
  intro e; cases e <;> rfl

theorem runAuthorizer_eq_none {authz : Option Authorizer} {p : Option Principal}
    (h : runAuthorizer authz p = none) : authzAccepts authz p = true := by
  cases authz with
  | none => rfl
  | some f => simpa [runAuthorizer, authzAccepts] using h

theorem runAuthorizer_eq_some {authz : Option Authorizer} {p : Option Principal} {e : Err}
    (h : runAuthorizer authz p = some e) : ∃ f e0, authz = some f ∧ f p = some e0 ∧ e = specAuthzErr e0 := by
  cases authz with
  | none => cases h
  | some f =>
    obtain ⟨e0, hf, rfl⟩ := Option.map_eq_some_iff.mp h
    exact ⟨f, e0, rfl, hf, authorizerErr_eq e0⟩

theorem authSchemes_satisfied (env : Env) (log : List Call) (a : Alt) (hne : a.isEmpty = false)
    (hsat : (authSchemes env none a).satisfied = true)
    (hlog : ∀ c ∈ (authSchemes env none a).log, c ∈ log) :
    Satisfied env log (a.map Req.key) (authSchemes env none a).princ := by
  obtain ⟨x, hx⟩ := Option.isSome_iff_exists.mp (satisfied_princ hsat)
  simp only [AltRes.satisfied, Bool.and_eq_true, Option.isNone_iff_eq_none] at hsat
  obtain ⟨h0, h1, h2⟩ := authSchemes_ok env a none hsat.1.1 hsat.1.2
  refine Or.inr ⟨by simpa using hne, ?_, x, hx, ?_⟩
  · intro s hs
    obtain ⟨t, ht, rfl⟩ := List.mem_map.mp hs
    exact ⟨hlog _ (h0 ▸ List.mem_map_of_mem ht), (h1 t ht).2⟩
  · rcases h2 x hx with h | ⟨t, ht, hy⟩
    · cases h
    · exact ⟨t.key, List.mem_map_of_mem ht, hy⟩

theorem finish_admitted {built : List Alt} {env : Env} {authz : Option Authorizer} {a : Alt}
    {p : Option Principal} {log : List Call} (hp : (allowsAnonymous built || p.isSome) = true)
    (hmem : a ∈ built) (hsat : Satisfied env log (a.map Req.key) p) :
    specDirect (keys built) env authz (finish built authz ⟨true, p, none, some a, log⟩) log = true := by
  have hk : a.map Req.key ∈ keys built := List.mem_map_of_mem hmem
  have hcond : (!allowsAnonymous built && p.isNone) = false := by
    revert hp
    cases allowsAnonymous built <;> cases p <;> simp
  simp only [finish, Bool.not_true, Option.isSome_none, Bool.or_self, hcond, Bool.false_eq_true,
    ↓reduceIte]
  cases hz : runAuthorizer authz p with
  | none => exact (specDirect_iff ..).mpr ⟨_, hk, hsat, runAuthorizer_eq_none hz, mem_allScopes a⟩
  | some e =>
    obtain ⟨f, e0, rfl, hf, rfl⟩ := runAuthorizer_eq_some hz
    exact (specDirect_iff ..).mpr (Or.inr (Or.inr ⟨f, _, _, e0, rfl, hk, hsat, hf, rfl⟩))

theorem specDirect_keys (built : List Alt) (env : Env) (authz : Option Authorizer) :
    specDirect (keys built) env authz (authorizeFresh built env authz).1
      (authorizeFresh built env authz).2 = true := by
  unfold authorizeFresh
  cases hemp : built.isEmpty
  case true => simp [specDirect, keys_isEmpty, hemp]
  simp only [Bool.false_eq_true, ↓reduceIte]
  rcases authAll_char env built none false with ⟨a, ha, hne, hsat, l, h⟩ | ⟨-, l, e, he, h⟩ <;> rw [h]
  · exact finish_admitted (by rw [satisfied_princ hsat, Bool.or_true]) ha
      (authSchemes_satisfied env _ a hne hsat fun c hc => List.mem_append_right l hc)
  · rw [Option.toList_none, List.nil_append] at he
    cases e with
    | some e => exact (specDirect_iff ..).mpr (Or.inl (List.mem_of_getLast? he.symm))
    | none =>
      have hrej : rejections env l = [] := List.getLast?_eq_none_iff.mp he.symm
      cases hanon : built.any (·.isEmpty) with
      | false => exact (specDirect_iff ..).mpr (Or.inr (Or.inl ⟨hrej, rfl⟩))
      | true =>
        obtain ⟨b, hb, hbe⟩ := List.any_eq_true.mp hanon
        exact finish_admitted (by simp [allowsAnonymous, hanon]) (List.isEmpty_iff.mp hbe ▸ hb)
          (Or.inl ⟨rfl, rfl, (rejections_eq_nil_iff ..).mp hrej⟩)

theorem any_reordered {ds : List DocAlt} {bs : List Alt} (h : Reordered ds bs) (f : DocAlt → Bool)
    (hf : ∀ d d' : DocAlt, d'.Perm d → f d' = f d) : ds.any f = (keys bs).any f := by
  induction h with
  | nil => rfl
  | cons hp _ ih =>
    simp only [keys, List.map_cons, List.any_cons] at ih ⊢
    rw [ih, hf _ _ hp]

theorem isEmpty_reordered {ds : List DocAlt} {bs : List Alt} (h : Reordered ds bs) :
    ds.isEmpty = bs.isEmpty := by
  cases h <;> rfl

theorem satisfiedBy_perm (env : Env) (log : List Call) (p : Option Principal) (d d' : DocAlt)
    (h : d'.Perm d) : satisfiedBy env log d' p = satisfiedBy env log d p := by
  unfold satisfiedBy
  rw [h.isEmpty_eq, h.all_eq]
  cases p with
  | none => rfl
  | some x => simp only [h.any_eq]

theorem satisfiedSome_perm (env : Env) (log : List Call) (q : Option Principal → Bool) (d d' : DocAlt)
    (h : d'.Perm d) : satisfiedSome env log d' q = satisfiedSome env log d q := by
  unfold satisfiedSome
  rw [h.isEmpty_eq, h.all_eq, h.any_eq]

theorem sameSet_perm (sc : List Scope) (d d' : DocAlt) (h : d'.Perm d) :
    sameSet sc (docScopes d') = sameSet sc (docScopes d) := by
  have hp : (docScopes d').Perm (docScopes d) := List.Perm.flatMap_right _ h
  unfold sameSet
  rw [hp.all_eq]
  congr 1
  exact List.all_congr rfl fun x => hp.contains_eq

theorem specDirect_reordered {ds : List DocAlt} {bs : List Alt} (h : Reordered ds bs) (env : Env)
    (authz : Option Authorizer) (res : AuthzRes) (log : List Call) :
    specDirect ds env authz res log = specDirect (keys bs) env authz res log := by
  cases res with
  | ok p sc =>
    refine any_reordered h _ fun d d' hp => ?_
    rw [satisfiedBy_perm env log p d d' hp, sameSet_perm sc d d' hp]
  | err e =>
    unfold specDirect refusalAllowed
    simp only
    congr 1
    exact any_reordered h _ fun d d' hp => satisfiedSome_perm env log _ d d' hp
  | noauth => simp only [specDirect, isEmpty_reordered h, keys_isEmpty]
  | panic => rfl

theorem admissible_of_ok {alts : List DocAlt} {env : Env} {authz : Option Authorizer} {log : List Call}
    {p : Option Principal} {sc : List Scope} (h : specDirect alts env authz (.ok p sc) log = true) :
    admissible alts env authz log = true :=
  let ⟨a, ha, hs, hz, _⟩ := (specDirect_iff ..).mp h
  (admissible_iff ..).mpr ⟨a, ha, p, hs, hz⟩

theorem authSchemes_all_accept (env : Env) : ∀ (a : List Req) (last : Option Principal),
    (∀ s ∈ a, s.registered = true ∧ ∃ x, env s.name s.scopes = .accepted (some x)) →
    (a = [] → last.isSome = true) →
    (authSchemes env last a).satisfied = true := by
  intro a
  induction a with
  | nil => intro last _ h; simp [authSchemes, AltRes.satisfied, h rfl]
  | cons s rest ih =>
    intro last h _
    obtain ⟨hr, x, hx⟩ := h s List.mem_cons_self
    have := ih (some x) (fun t ht => h t (List.mem_cons_of_mem _ ht)) (fun _ => rfl)
    rw [authSchemes]
    simpa [hr, hx, AltRes.satisfied] using this

theorem buildAlt_keys (defs reg : List Name) (d : DocAlt) : (buildAlt defs reg d).map Req.key = d := by
  unfold buildAlt
  rw [List.map_map]
  exact List.map_id d

end RtVerif.C02
