import RtVerif.Model.C01
import RtVerif.Lemmas.C01CompBridge
import RtVerif.Lemmas.C01SpecLink
/-
  C01, simple templates.  A simple template is a template with composite segments in which every
  parameterised segment is one whole-segment placeholder (`SSeg.toXS`), so what is known of the trie
  key of the latter holds of it; and the Spec's `instantiates` reads it segment by segment
  (`instantiates_simple`).  Then the lemmas that lift the trie-level 404/405 theorem (`allow_exact`)
  to templates: what C05's specification says of a lookup result for a key that reads a template.
-/
namespace RtVerif.C01
open RtVerif Bytes

def toTSeg : SSeg → TSeg
  | .lit b => .lit b
  | .ph n => .ph n

def SSeg.toXS : SSeg → XS
  | .lit b => .lit b
  | .ph n => .par [] n [] []

theorem text_toXS (s : SSeg) : s.toXS.text = s.text := by
  cases s <;> simp [SSeg.toXS, XS.text, SSeg.text, needleOf, patAfter, segText]

theorem renderT_eq (segs : List SSeg) : renderT segs = renderX (segs.map SSeg.toXS) := by
  induction segs with
  | nil => rfl
  | cons s r ih => simp [renderT, renderX, text_toXS, ih]

theorem keyOf_eq (segs : List SSeg) : keyOf segs = keyX (segs.map SSeg.toXS) := by
  induction segs with
  | nil => rfl
  | cons s r ih => cases s <;> simp [keyOf, keyX, SSeg.toXS, ih]

theorem wfx_toXS {segs : List SSeg} (hw : WFT segs) : WFX (segs.map SSeg.toXS) := by
  intro x hx
  obtain ⟨s, hs, rfl⟩ := List.mem_map.mp hx
  have h := hw s hs
  cases s with
  | lit b => exact h
  | ph n =>
    simp only [SSeg.wf, Bool.and_eq_true, Bool.not_eq_eq_eq_not, Bool.not_true, List.isEmpty_eq_false_iff] at h
    exact ⟨rfl, h.1, h.2, rfl, fun p hp => nomatch hp⟩

theorem matchX_toXS (segs : List SSeg) (ps : List Bytes) :
    matchX (segs.map SSeg.toXS) ps = (matchSegs (segs.map toTSeg) ps).map (fun l => l.map (·.2)) := by
  induction segs generalizing ps with
  | nil => cases ps <;> rfl
  | cons s r ih =>
    cases ps with
    | nil => cases s <;> rfl
    | cons q qs =>
      cases s with
      | lit b =>
        simp only [List.map_cons, SSeg.toXS, toTSeg, matchX, matchSegs, ih]
        split <;> rfl
      | ph n => simp [SSeg.toXS, toTSeg, matchX, matchSegs, ih, Function.comp_def]

theorem matchSegs_toXS (segs : List SSeg) (ps : List Bytes) :
    matchSegs (segs.map toTSeg) ps = (matchX (segs.map SSeg.toXS) ps).map (rawParams (segs.map SSeg.toXS)) := by
  induction segs generalizing ps with
  | nil => cases ps <;> rfl
  | cons s r ih =>
    cases ps with
    | nil => cases s <;> rfl
    | cons q qs =>
      cases s with
      | lit b =>
        simp only [List.map_cons, SSeg.toXS, toTSeg, matchX, matchSegs, ih]
        split <;> rfl
      | ph n =>
        simp [SSeg.toXS, toTSeg, matchX, matchSegs, ih, Function.comp_def, rawParams, greedy, hasSuffix]

theorem classify_text {s : SSeg} (h : s.wf = true) : classify s.text = toTSeg s := by
  cases s with
  | lit b => exact classify_plain h
  | ph n =>
    simp only [SSeg.wf, Bool.and_eq_true, Bool.not_eq_eq_eq_not, Bool.not_true, List.isEmpty_eq_false_iff] at h
    exact classify_needle h.1 h.2

theorem instantiates_simple (segs : List SSeg) (hw : WFT segs) (ps : List Bytes) (hps : ∀ q ∈ ps, slash ∉ q) :
    instantiates (renderT segs) (renderP ps) = matchSegs (segs.map toTSeg) ps := by
  have hcl : ((segs.map SSeg.toXS).map XS.text).map classify = segs.map toTSeg := by
    rw [List.map_map, List.map_map]
    exact List.map_congr_left fun s hs => by rw [Function.comp, Function.comp, text_toXS, classify_text (hw s hs)]
  unfold instantiates tsegs
  rw [renderT_eq, segs_renderX _ (wfx_toXS hw), List.map_cons, hcl, segs_renderP ps hps]
  simp [classify, matchSegs]

theorem mem_allNames_toXS {n : Bytes} {segs : List SSeg} (h : n ∈ allNames (segs.map SSeg.toXS)) :
    .ph n ∈ segs := by
  induction segs with
  | nil => cases h
  | cons s r ih =>
    cases s with
    | lit b => exact List.mem_cons_of_mem _ (ih h)
    | ph m =>
      rcases List.mem_cons.mp h with rfl | h
      · exact List.mem_cons_self
      · exact List.mem_cons_of_mem _ (ih h)

/-- `strings.Index` finds `{n}` at its first occurrence, a whole segment like every other -/
theorem paramsOf_simple (segs : List SSeg) (hw : WFT segs) (pre n0 st0 : Bytes) (r : List (Bytes × Bytes))
    (hm : .par pre n0 st0 r ∈ segs.map SSeg.toXS) (raw : Bytes) :
    paramsOf (renderT segs) n0 raw = some (segParams n0 st0 r raw) := by
  obtain ⟨s, hs, he⟩ := List.mem_map.mp hm
  cases s with
  | lit b => cases he
  | ph n =>
    cases he
    obtain ⟨before, after, rfl, hnot⟩ := List.eq_append_cons_of_mem hs
    rw [renderT_eq, List.map_append, List.map_cons]
    exact paramsOf_in_template _ _ [] n0 [] [] (by simpa [SSeg.toXS] using wfx_toXS hw) (fun h => hnot (mem_allNames_toXS h)) raw

theorem isInfix_append_left (pat a t : Bytes) (h : C05.isInfix pat t = true) : C05.isInfix pat (a ++ t) = true := by
  induction a with
  | nil => exact h
  | cons c a' ih =>
    simp only [List.cons_append, C05.isInfix, Bool.or_eq_true]
    exact Or.inr ih

theorem isParamKey_append_left (a t : Bytes) (h : C05.isParamKey t = true) : C05.isParamKey (a ++ t) = true := by
  simp only [C05.isParamKey, Bool.or_eq_true] at h ⊢
  rcases h with (h | h) | h
  · exact Or.inl (Or.inl (isInfix_append_left _ _ _ h))
  · exact Or.inl (Or.inr (isInfix_append_left _ _ _ h))
  · exact Or.inr (isInfix_append_left _ _ _ h)

/-- a simple template's key that the trie router files as static text has no placeholder -/
theorem keyOf_static_bytes (segs : List SSeg) (hw : WFT segs) (h : C05.isParamKey (keyOf segs) = false) :
    ∀ c ∈ keyOf segs, litKind c := by
  induction segs with
  | nil => intro c hc; cases hc
  | cons s r ih =>
    cases s with
    | ph n => simp [keyOf, C05.isParamKey, C05.isInfix, C05.slashColon, cSep_eq, cParam_eq, List.isPrefixOf] at h
    | lit b =>
      have hrk : C05.isParamKey (keyOf r) = false := Bool.eq_false_iff.mpr fun hk => by
        rw [keyOf, ← List.cons_append, isParamKey_append_left _ _ hk] at h
        cases h
      simp only [keyOf, List.mem_cons, List.mem_append]
      rintro c (rfl | hc | hc)
      · exact slash_litKind
      · exact plain_litKind (List.all_eq_true.mp (hw _ List.mem_cons_self) c hc)
      · exact ih (fun x hx => hw x (List.mem_cons_of_mem _ hx)) hrk c hc

/-- a reported match of a key `k` that reads the template text `T` on the path `P` (`hb`) means `T` is
instantiated by `P` -/
theorem foundOk_loose {recs : List (Bytes × Nat)} {P k T : Bytes} {names vals : List Bytes}
    (hlit : C05.isParamKey k = false → ∀ c ∈ k, litKind c)
    (hb : C05.matchKey false (k ++ [C05.cTerm]) P = (instantiates T P).map (fun l => l.map (·.2)))
    (h : C05.foundOk recs P names vals k = true) : (instantiates T P).isSome = true := by
  have hmk := (foundOk_sound hlit h).1
  rw [hb] at hmk
  cases hi : instantiates T P with
  | none => rw [hi] at hmk; cases hmk
  | some r => rfl

/-- a miss (C05's completeness) means a filed key of that kind does not fit with non-empty texts -/
theorem notFound_unfit {recs : List (Bytes × Nat)} {P k T : Bytes} {i : Nat}
    (hlit : C05.isParamKey k = false → ∀ c ∈ k, litKind c)
    (hb : C05.matchKey false (k ++ [C05.cTerm]) P = (instantiates T P).map (fun l => l.map (·.2)))
    (hmem : (k, i) ∈ recs) (h : C05.specLookup recs P .notFound = true) : fitsStrict T P = false := by
  unfold fitsStrict
  cases hi : instantiates T P with
  | none => rfl
  | some raws =>
    -- one of the instantiating texts is empty
    have := notFound_sound hlit hmem h (by rw [hb, hi]; rfl)
    simp only [List.any_map, List.any_eq_true, Function.comp_apply] at this
    obtain ⟨kv, hkv, he⟩ := this
    exact List.all_eq_false.mpr ⟨kv, hkv, by simp [he]⟩

theorem hasHandler_of_mem {api : Api} {op : Op} (h : op ∈ api.ops) : hasHandler api op = true := by
  unfold hasHandler
  simp only [List.any_eq_true, Bool.and_eq_true, beq_iff_eq]
  exact ⟨op, h, rfl, rfl⟩

theorem recordsFor_of_mem {api : Api} {op : Op} (h : op ∈ api.ops) :
    ∃ i, (convert (fullPath api op), i) ∈ recordsFor api (toUpper op.method) := by
  obtain ⟨i, hi⟩ := List.mem_iff_getElem?.mp h
  refine ⟨i, ?_⟩
  unfold recordsFor
  simp only [List.mem_filterMap]
  refine ⟨(op, i), List.mem_zipIdx_iff_getElem?.mpr hi, ?_⟩
  simp [hasHandler_of_mem h]

theorem mem_methodsOf {api : Api} {op : Op} (h : op ∈ api.ops) : toUpper op.method ∈ methodsOf api := by
  unfold methodsOf
  rw [List.mem_eraseDups]
  exact List.mem_map.mpr ⟨op, h, rfl⟩

theorem matchSegs_vals_mem (ts : List TSeg) (ps : List Bytes) (raws : List (Bytes × Bytes))
    (h : matchSegs ts ps = some raws) : ∀ kv ∈ raws, kv.2 ∈ ps := by
  fun_induction matchSegs ts ps generalizing raws with
  | case1 => cases h; exact fun _ hkv => nomatch hkv
  | case2 b ts p ps _ ih => exact fun kv hkv => List.mem_cons_of_mem _ (ih raws h kv hkv)
  | case4 n ts p ps ih =>
    obtain ⟨r', hr', rfl⟩ := Option.map_eq_some_iff.mp h
    exact List.forall_mem_cons.mpr ⟨List.mem_cons_self, fun kv hkv => List.mem_cons_of_mem _ (ih r' hr' kv hkv)⟩
  | case3 | case5 => cases h

/-- away from the root path every text of an instantiation is non-empty: "fits" needs no qualification -/
theorem loose_strict_of_nonroot (segs : List SSeg) (hw : WFT segs) (p : Bytes)
    (hroot : GoPath.isRooted p = true) (hk : GoPath.kept p ≠ [])
    (h : (instantiates (renderT segs) (GoPath.clean p)).isSome = true) :
    fitsStrict (renderT segs) (GoPath.clean p) = true := by
  obtain ⟨hclean, hsegs⟩ := clean_rooted_renderP p hroot
  unfold fitsStrict
  rw [hclean, instantiates_simple segs hw _ hsegs] at h ⊢
  cases hi : matchSegs (segs.map toTSeg) (pathSegs p) with
  | none => rw [hi] at h; cases h
  | some raws =>
    simp only [List.all_eq_true, Bool.not_eq_eq_eq_not, Bool.not_true, List.isEmpty_eq_false_iff]
    intro kv hkv
    have hmem := matchSegs_vals_mem _ _ _ hi kv hkv
    unfold pathSegs at hmem
    simp only [hk, ↓reduceIte] at hmem
    exact GoPath.good_ne_nil (GoPath.kept_good p) _ hmem

/-- along an edge of the trie the names collected so far and those still in the key stay the same -/
theorem leaves_names (f : Nat) : ∀ (rs : List C05.Rec) (r : C05.Rec), r ∈ C05.leaves f rs →
    ∃ r0 ∈ rs, r.names = r0.names ++ C05.namesOf r0.key := by
  induction f with
  | zero => intro rs r hr; cases hr
  | succ f ih =>
    intro rs r hr
    rw [C05.leaves, List.mem_append] at hr
    rcases hr with hr | hr
    · obtain ⟨hm, hk⟩ := C05.leafOf_some (Option.mem_toList.mp hr)
      exact ⟨r, hm, by rw [hk, C05.namesOf_nil, List.append_nil]⟩
    · obtain ⟨n, _, hr⟩ := List.mem_flatMap.mp hr
      simp only at hr
      split at hr
      · split at hr
        · obtain ⟨r1, h1, hn⟩ := ih _ r hr
          obtain ⟨r0, h0, hs⟩ := C05.mem_advSingle.mp h1
          obtain ⟨k, hk, hk1, hn1, _⟩ := C05.stepSingle_eq.mp hs
          exact ⟨r0, h0, by rw [hn, hn1, hk1, hk, C05.namesOf_param, List.append_assoc]; rfl⟩
        · rename_i hp
          split at hr
          · obtain ⟨r1, h1, hn⟩ := ih _ r hr
            obtain ⟨r0, h0, hs⟩ := C05.mem_advWild.mp h1
            obtain ⟨k, hk, hk1, hn1, _⟩ := C05.stepWild_eq.mp hs
            exact ⟨r0, h0, by rw [hn, hn1, hk1, hk, C05.namesOf_wild, C05.namesOf_nil, List.append_nil]⟩
          · rename_i hw
            obtain ⟨r1, h1, hn⟩ := ih _ r hr
            obtain ⟨r0, h0, hk, hn1, _⟩ := C05.mem_advLit.mp h1
            exact ⟨r0, h0, by rw [hn, hn1, hk, C05.namesOf_lit _ _ (by simpa using hp) (by simpa using hw)]⟩
      · cases hr

/-- `Build` accepts records whose parameterised keys are free of the reserved bytes and name every
parameter once -/
theorem build_ok_of_names (recs : List (Bytes × Nat))
    (h : ∀ kv ∈ recs, C05.isParamKey kv.1 = true →
      C05.isBadKey kv.1 = false ∧ C05.hasDup (C05.namesOf (kv.1 ++ [C05.cTerm])) = false) :
    ∃ t, C05.build recs = .ok t := by
  unfold C05.build
  rw [if_neg, if_neg]
  · exact ⟨_, rfl⟩
  · simp only [List.any_eq_true, not_exists, not_and, Bool.not_eq_true]
    intro r hr
    obtain ⟨r0, h0, hn⟩ := leaves_names _ _ r hr
    obtain ⟨kv, hkv, rfl⟩ := List.mem_map.mp (C05.mem_sortRecs.mp h0)
    obtain ⟨hkv, hp⟩ := List.mem_filter.mp hkv
    rw [hn]
    exact (h kv hkv hp).2
  · simp only [List.any_eq_true, List.mem_filter, not_exists, not_and, Bool.not_eq_true, and_imp]
    exact fun kv hkv hp => (h kv hkv hp).1

theorem build_ok_of (recs : List (Bytes × Nat))
    (h : (match C05.build recs with | .ok _ => true | _ => false) = true) : ∃ t, C05.build recs = .ok t := by
  cases hb : C05.build recs with
  | ok t => exact ⟨t, rfl⟩
  | errReserved => rw [hb] at h; cases h
  | errDupName => rw [hb] at h; cases h

/-- GET /pets/{id} and POST /pets under the base path `/` -/
def exApi : Api := ⟨[47], [⟨[103,101,116], [47,112,101,116,115,47,123,105,100,125]⟩, ⟨[112,111,115,116],[47,112,101,116,115]⟩]⟩

end RtVerif.C01
