import RtVerif.Model.C03X
import RtVerif.Lemmas.C03Main
/-
  Struct targets, reduced to the scalar and array cases of the map target: the validator's range check is folded
  into the conversions (`checkedF`, `convOf`), so that `Conv.main` and `slice_generic` serve both targets; a
  pointer field is then the plain field with its value behind a pointer (`ptr_of_plain`). At the end, facts
  about the map target and the API as a whole (`wf_scalar`, `wf_slice`, `bindRaw_clean`, `bind_not_e4xx`,
  `valuesOf?_some`, `firstFailure_of_none`).
-/
namespace RtVerif.C03
open RtVerif Bytes

/-! ## facts the repaired code paths are read from (regenerated on every run) -/

theorem fact_fileLast : (Facts.c03FileOccurrence == "last") = true := by decide
theorem fact_fileRequired : (Facts.c03FileMissing == "Required") = true := by decide
theorem fact_ptrDefault : (Facts.c03PtrDefaultArg != "defaultValue") = false := by decide
theorem fact_byteGuard : Facts.c03ByteKindGuard = true := by decide
theorem fact_deref : Facts.c03ValidatedDeref = true := by decide
theorem fact_unexported : Facts.c03UnexportedGuard = true := by decide
theorem fact_ptrKind : Facts.c03SetKinds.contains "Ptr" = true := by decide

theorem pickFile_last (l : List Part) : pickFile l = l.getLast? := by
  simp [pickFile, fact_fileLast]

theorem missingFile_eq : missingFile = .e422 602 := by
  simp [missingFile, fact_fileRequired]

/-- the Spec's "file parts of that name" are the model's `MultipartForm.File[name]` -/
theorem filesOf_eq (name : Bytes) (parts : List Part) :
    filesOf name parts = parts.filter (fun p => p.name == name && !p.filename.isEmpty) := rfl

theorem getLast?_filter_append {α} (p : α → Bool) (pre post : List α) (x : α) (hx : p x = true)
    (hpost : ∀ y ∈ post, p y = false) : ((pre ++ x :: post).filter p).getLast? = some x := by
  have : post.filter p = [] := List.filter_eq_nil_iff.2 fun y hy => by simp [hpost y hy]
  simp [List.filter_append, hx, this]

theorem getLast?_mem_filter {α} (p : α → Bool) (l : List α) (x : α) (h : (l.filter p).getLast? = some x) :
    x ∈ l ∧ p x = true :=
  List.mem_filter.1 (List.mem_of_getLast? h)

theorem not_filePart {q : Part} {name : Bytes} (h : ¬ (q.name = name ∧ q.filename ≠ [])) :
    (q.name == name && q.isFile) = false := by
  simp only [Part.isFile]
  by_cases h1 : q.name = name <;> simp_all

theorem valuesOf_spec (mode : FormMode) (name : Bytes) (parts : List Part) :
    valuesOf mode name parts = specFormTexts mode name parts := by
  cases mode <;> simp [valuesOf, specFormTexts, Part.isFile]

theorem formReq_spec (d : Decl) (mode : FormMode) (parts : List Part) :
    formReq d mode parts = specFormReq d mode parts := by
  simp [formReq, specFormReq, valuesOf_spec]

def liftE : Expect → ExpectT
  | .value v => .value (.plain v)
  | .reject => .reject
  | .either v => .either (.plain v)
  | .invalidDecl => .invalidDecl

theorem okForT_lift (e : Expect) (o : BindOut) : okForT (liftE e) (.ofBind o) = okFor e o := by
  cases e <;> cases o <;> simp [liftE, TOut.ofBind, okForT, okFor, isE422T, isE422]

theorem specAbsentT_plain (d : Decl) (k : TKind) (pe : Bool) (dflt : Option Val) (zero : Val) :
    specAbsentT d ⟨k, false⟩ pe (dflt.map .plain) (.plain zero) = liftE (specAbsent d pe dflt zero) := by
  unfold specAbsentT specAbsent
  cases d.default <;> cases dflt <;>
    simp only [Option.map, violatesT, Bool.false_eq_true, if_false, apply_ite liftE] <;> rfl

theorem specValueT_plain (d : Decl) (v : Val) : specValueT d (.plain v) = liftE (specValue d v) := by
  simp only [specValueT, specValue, violatesT, apply_ite liftE]
  rfl

/-- the range check of the validator, folded into a conversion -/
def checkedF (ty fmt : String) : ItemOut → ItemOut
  | .ok v => if rangeFails ty fmt v then .err 422 else .ok v
  | e => e

theorem Agrees.checked {ty fmt : String} {io : ItemOut} {os : Option Scalar} (h : Agrees io os)
    (hs : ∀ v, os = some v → rangeFails ty fmt v = false) : Agrees (checkedF ty fmt io) os := by
  rcases h.inv with ⟨v, rfl, rfl⟩ | ⟨c, rfl, rfl⟩
  · simp only [checkedF, hs v rfl, Bool.false_eq_true, if_false]
    exact h
  · exact h

/-- the conversions of a field of kind `tk` for a declared kind `k`, with the validator's range check (which
consults the declared type and format `ty`, `fmt`) folded in -/
def convOf (ext : Option Ext) (ty fmt : String) (k : SKind) (tk : TKind) : Conv :=
  { conv := fun t => checkedF ty fmt (convertTextT ext tk t)
    lit := specLiteralT ext k tk
    dconv := fun dv => checkedF ty fmt (emptyValueT ext tk (some dv))
    dlit := specDefaultT ext k tk
    zero := specZeroT ext tk }

/-- for any `ty fmt`: `Conv.spec` does not look at `conv`/`dconv`, the only fields of `convOf` that mention them -/
theorem specScalarT_plain (d : Decl) (texts : Option (List Bytes)) (ty fmt : String) (k : SKind) (tk : TKind) :
    specScalarT d texts k ⟨tk, false⟩ = liftE ((convOf d.ext ty fmt k tk).spec d texts) := by
  have hd : specScalarDefaultT d k ⟨tk, false⟩ = ((convOf d.ext ty fmt k tk).dfltVal d).map .plain := by
    unfold specScalarDefaultT Conv.dfltVal
    rcases d.default with _ | dv | _
    · rfl
    · show (specDefaultT d.ext k tk dv).map _ = ((specDefaultT d.ext k tk dv).map _).map _
      cases specDefaultT d.ext k tk dv <;> rfl
    · rfl
  unfold specScalarT Conv.spec
  split
  · rw [hd]
    exact specAbsentT_plain d tk _ _ _
  · simp only [convOf]
    cases specLiteralT d.ext k tk (lastOr (texts.getD []))
    · rfl
    · exact specValueT_plain d _

/-- the field kind is one `setFieldValue` fills, and its zero value passes the range check of `ty`, `fmt` -/
structure Usable (d : Decl) (ty fmt : String) (tk : TKind) : Prop where
  usable : (!tk.handled && !tk.isReg) = false
  zero : emptyValueT d.ext tk none = .ok (specZeroT d.ext tk)
  zeroRange : rangeFails ty fmt (specZeroT d.ext tk) = false

theorem checked_set {d : Decl} {ty fmt : String} {tk : TKind} (u : Usable d ty fmt tk) (dflt : Option DefScalar)
    (text : Bytes) (hasKey : Bool) :
    checkedF ty fmt (setFieldValueT d tk dflt text hasKey) =
      if requiredFails d hasKey text then .err 602
      else if text.isEmpty then
        (match dflt with
        | some dv => checkedF ty fmt (emptyValueT d.ext tk (some dv))
        | none => .ok (specZeroT d.ext tk))
      else checkedF ty fmt (convertTextT d.ext tk text) := by
  unfold setFieldValueT
  simp only [u.usable, Bool.false_eq_true, if_false]
  split
  · rfl
  split
  · cases dflt
    · simp [u.zero, checkedF, u.zeroRange]
    · rfl
  · rfl

theorem validatedT_checked (d : Decl) (io : ItemOut) :
    validatedT d (.ofBind (itemOut io)) = .ofBind (validated d (itemOut (checkedF d.ty d.format io))) := by
  cases io with
  | err c => rfl
  | ok v =>
    simp only [itemOut, TOut.ofBind, validatedT, validateT, checkedF, validated]
    cases rangeFails d.ty d.format v <;> simp only [Bool.false_eq_true, if_false, if_true]
    cases validate d (.scalar v) <;> rfl

theorem setFieldValueT_s (d : Decl) (k : SKind) (dflt : Option DefScalar) (text : Bytes) (hasKey : Bool) :
    setFieldValueT d (.s k false) dflt text hasKey = setFieldValue d k dflt text hasKey := by
  have hh : (TKind.s k false).handled = k.handled := by cases k <;> rfl
  simp only [setFieldValueT, setFieldValue, hh, TKind.isReg, emptyValueT, convertTextT]

theorem setSliceFieldValueT_s (d : Decl) (k : SKind) (data : List Bytes) (hasKey : Bool) :
    setSliceFieldValueT d (.s k false) data hasKey = setSliceFieldValue d k data hasKey := by
  simp only [setSliceFieldValueT, setSliceFieldValue, sliceDefaultT, sliceDefault, setFieldValueT_s, tagOfT]
  rfl

theorem bindSliceT_s (d : Decl) (r : Req) (k : SKind) : bindSliceT d r (.s k false) = bindSlice d r k := by
  simp only [bindSliceT, bindSlice, setSliceFieldValueT_s]

theorem rangeFails_noType (fmt : String) (v : Scalar) : rangeFails "" fmt v = false := by
  unfold rangeFails
  split <;> simp

theorem checkedF_ok {ty fmt : String} {io : ItemOut} {v : Scalar} (h : checkedF ty fmt io = .ok v) :
    io = .ok v ∧ rangeFails ty fmt v = false := by
  cases io <;> simp only [checkedF] at h
  · split at h <;> cases h
    exact ⟨rfl, by simp_all⟩
  · cases h

/-- converting item by item (unchecked) against the Spec's items, when every CHECKED item agrees -/
theorem collect_checked {α : Type} (ty fmt : String) (l : List α) (f : α → ItemOut) (g : α → Option Scalar)
    (h : ∀ x ∈ l, Agrees (checkedF ty fmt (f x)) (g x)) :
    match mapM? g l with
    | some vs => collect (l.map f) = .ok vs ∧ vs.any (rangeFails ty fmt) = false
    | none => (∃ c, collect (l.map f) = .error c) ∨
        (∃ vs', collect (l.map f) = .ok vs' ∧ vs'.any (rangeFails ty fmt) = true) := by
  induction l with
  | nil => simp [mapM?, collect]
  | cons x r ih =>
    have ih' := ih fun y hy => h y (List.mem_cons_of_mem _ hy)
    simp only [mapM?, List.map_cons]
    rcases (h x (List.mem_cons_self ..)).inv with ⟨v, hf, hg⟩ | ⟨c, hf, hg⟩ <;> rw [hg]
    · obtain ⟨hf, hr⟩ := checkedF_ok hf
      rw [hf]
      cases hm : mapM? g r <;> rw [hm] at ih' <;> simp only
      · rcases ih' with ⟨c, hc⟩ | ⟨vs', hc, hany⟩
        · exact .inl ⟨c, by simp [collect, hc]⟩
        · exact .inr ⟨v :: vs', by simp [collect, hc], by simp [hany]⟩
      · exact ⟨by simp [collect, ih'.1], by simp [hr, ih'.2]⟩
    · -- the item does not convert, or fails the range check
      simp only
      cases hfx : f x with
      | err c' => exact .inl ⟨c', rfl⟩
      | ok v =>
        have hr : rangeFails ty fmt v = true := by
          cases hr : rangeFails ty fmt v
          · simp [hfx, checkedF, hr] at hf
          · rfl
        cases hc : collect (r.map f) with
        | error c => exact .inl ⟨c, by simp [collect, hc]⟩
        | ok vs'' => exact .inr ⟨v :: vs'', by simp [collect, hc], by simp [hr]⟩

/-- the validator on a bound list: the list validations, then the range check item by item -/
def validatedL (ty fmt : String) (d : Decl) : BindOut → BindOut
  | .value (.list tag vs) =>
    (match validate d (.list tag vs) with
    | some c => .e422 c
    | none => if vs.any (rangeFails ty fmt) then .e422 422 else .value (.list tag vs))
  | o => o

/-- the outcomes of binding an array: a list, or a 422 -/
def ListOut (o : BindOut) : Prop := (∃ c, o = .e422 c) ∨ ∃ tag vs, o = .value (.list tag vs)

theorem listOutT_shape (tag : String) (l : List ItemOut) : ListOut (listOutT tag l) := by
  unfold listOutT
  split
  · exact .inr ⟨_, _, rfl⟩
  · exact .inl ⟨_, rfl⟩

theorem setSliceFieldValueT_shape (d : Decl) (tk : TKind) (data : List Bytes) (hasKey : Bool) :
    ListOut (setSliceFieldValueT d tk data hasKey) := by
  unfold setSliceFieldValueT sliceDefaultT
  repeat' split
  all_goals first | exact listOutT_shape _ _ | exact .inl ⟨_, rfl⟩ | exact .inr ⟨_, _, rfl⟩

theorem validatedT_list (d : Decl) (o : BindOut) (h : ListOut o) :
    validatedT d (.ofBind o) = .ofBind (validatedL d.itemsTy d.itemsFormat d o) := by
  obtain ⟨c, rfl⟩ | ⟨tag, vs, rfl⟩ := h
  · rfl
  · simp only [TOut.ofBind, validatedT, validateT, validatedL]
    cases validate d (.list tag vs)
    · cases vs.any (rangeFails d.itemsTy d.itemsFormat) <;> rfl
    · rfl

/-- the map target runs no range check: that of no type -/
theorem validatedL_noType (d : Decl) (o : BindOut) (h : ListOut o) : validatedL "" "" d o = validated d o := by
  obtain ⟨c, rfl⟩ | ⟨tag, vs, rfl⟩ := h
  · rfl
  · have : vs.any (rangeFails "" "") = false := List.any_eq_false.2 fun v _ => by simp [rangeFails_noType]
    simp only [validatedL, validated, this, Bool.false_eq_true, if_false]
    rfl

/-- for a key that is present with data the slice is the list of its items: the slice's own required test fails
only on a single empty occurrence, whose item fails the same test -/
theorem setSliceFieldValueT_items (d : Decl) (tk : TKind) (data : List Bytes) (hne : data ≠ []) :
    setSliceFieldValueT d tk data true =
      listOutT (tagOfT tk) (data.map fun t => setFieldValueT d tk none t true) := by
  unfold setSliceFieldValueT
  cases hreq : sliceRequiredFails d true data
  · simp [List.isEmpty_eq_false_iff.2 hne]
  · have hde := List.isEmpty_eq_false_iff.2 hne
    have h1 : data = [[]] := by
      simp only [sliceRequiredFails, hde, Bool.false_or, Bool.not_true, Bool.and_eq_true, beq_iff_eq] at hreq
      exact hreq.1.1.2
    have hfail : requiredFails d true [] = true := by simpa [sliceRequiredFails, h1, requiredFails] using hreq
    simp [h1, setFieldValueT, hfail, listOutT, collect]

theorem list_ok {α : Type} (ty fmt : String) (d : Decl) (tag : String) (l : List α) (f : α → ItemOut)
    (g : α → Option Scalar) (h : ∀ x ∈ l, Agrees (checkedF ty fmt (f x)) (g x)) :
    okFor (match mapM? g l with
        | none => .reject
        | some vs => specValue d (.list tag vs))
      (validatedL ty fmt d (listOutT tag (l.map f))) = true := by
  have hc := collect_checked ty fmt l f g h
  unfold listOutT
  cases hm : mapM? g l with
  | some vs =>
    rw [hm] at hc
    simp only [hc.1, validatedL, hc.2, Bool.false_eq_true, if_false]
    exact validated_list d tag vs
  | none =>
    rw [hm] at hc
    rcases hc with ⟨c, h1⟩ | ⟨vs', h1, h2⟩
    · simp only [h1]
      rfl
    · simp only [h1, validatedL, h2, if_true]
      cases validate d (.list tag vs') <;> rfl

/-- **arrays, for any field kind.** `setSliceFieldValue` against the Spec of an array parameter, given that
the range-checked conversion of every item (`g`) and of every item of the declared default (`gd`) agrees with
what the Spec expects of it; `dflt` is what the declared default denotes. -/
theorem slice_generic (ty fmt : String) (d : Decl) (tk : TKind) (texts : Option (List Bytes)) (data : List Bytes)
    (g : Bytes → Option Scalar) (gd : DefScalar → Option Scalar) (dflt : Option Val)
    (hdef : d.default = none ∨ ∃ ds, d.default = some (.arr ds))
    (hdata : data = specItems d texts) (hhas : data ≠ [] → texts.isSome = true)
    (hitem : ∀ t ∈ data, Agrees (checkedF ty fmt (setFieldValueT d tk none t true)) (g t))
    (hd : ∀ ds, d.default = some (.arr ds) →
      dflt = (mapM? gd ds).map (.list (tagOfT tk)) ∧
      ∀ it ∈ ds, Agrees (checkedF ty fmt (setFieldValueT d tk (some it) [] true)) (gd it)) :
    okFor (if (specItems d texts).isEmpty then specAbsent d texts.isSome dflt (.list (tagOfT tk) [])
        else match mapM? g (specItems d texts) with
          | none => .reject
          | some vs => specValue d (.list (tagOfT tk) vs))
      (validatedL ty fmt d (setSliceFieldValueT d tk data texts.isSome)) = true := by
  subst hdata
  cases hde : (specItems d texts).isEmpty
  · have hne : specItems d texts ≠ [] := fun h => by simp [h] at hde
    simp only [Bool.false_eq_true, if_false, hhas hne, setSliceFieldValueT_items d tk _ hne]
    exact list_ok ty fmt d _ _ _ g hitem
  · unfold setSliceFieldValueT
    rw [List.isEmpty_iff.1 hde, sliceRequiredFails_nil]
    simp only [if_true, sliceDefaultT]
    refine absent_ok d _ _ _ _ (fun _ hreq => ?_) (fun hd0 hreq => ?_) fun x hx => ?_
    · simp [hreq, validatedL, isE422]
    · simp only [hreq, Bool.false_eq_true, if_false, hd0]
      exact validated_list d _ []
    · obtain ⟨ds, hd0⟩ := hdef.resolve_left (by simp [hx])
      have hreq : requiredFails d texts.isSome [] = false := by simp [requiredFails, hd0]
      obtain ⟨rfl, hdi⟩ := hd ds hd0
      simp only [hreq, Bool.false_eq_true, if_false, hd0]
      have hl := list_ok ty fmt d (tagOfT tk) ds (fun it => setFieldValueT d tk (some it) [] true) gd hdi
      cases hm : mapM? gd ds <;> rw [hm] at hl
      · -- the default is not a value of the declared type the field holds: only an error answer is left
        rwa [okFor_reject] at hl
      · exact .inl hl

/-- what the field kind does with the items of an array parameter, against the Spec -/
structure ItemsAgree (d : Decl) (k : SKind) (tk : TKind) (data : List Bytes) : Prop where
  item : ∀ t ∈ data, Agrees (checkedF d.itemsTy d.itemsFormat (setFieldValueT d tk none t true)) (specItemT d k tk t)
  dflt : ∀ ds, d.default = some (.arr ds) → ∀ it ∈ ds,
    Agrees (checkedF d.itemsTy d.itemsFormat (setFieldValueT d tk (some it) [] true)) (specDefaultT d.ext k tk it)

theorem slice_T (d : Decl) (k : SKind) (tk : TKind) (texts : Option (List Bytes)) (data : List Bytes)
    (hdef : d.default = none ∨ ∃ ds, d.default = some (.arr ds))
    (hdata : data = specItems d texts) (hhas : data ≠ [] → texts.isSome = true)
    (ha : ItemsAgree d k tk data) :
    okForT (specSliceT d texts k ⟨tk, false⟩)
      (validatedT d (.ofBind (setSliceFieldValueT d tk data texts.isSome))) = true := by
  have hs : specSliceT d texts k ⟨tk, false⟩ =
      liftE (if (specItems d texts).isEmpty then
          specAbsent d texts.isSome ((match d.default with
            | some (.arr ds) => mapM? (specDefaultT d.ext k tk) ds
            | _ => none).map (.list (tagOfT tk))) (.list (tagOfT tk) [])
        else match mapM? (specItemT d k tk) (specItems d texts) with
          | none => .reject
          | some vs => specValue d (.list (tagOfT tk) vs)) := by
    unfold specSliceT
    split
    · rw [← specAbsentT_plain]
      congr 1
      unfold specArrayDefaultT
      rcases d.default with _ | _ | ds
      · rfl
      · rfl
      · simp only [Option.map_map]
        rfl
    · cases mapM? (specItemT d k tk) (specItems d texts)
      · rfl
      · exact specValueT_plain d _
  rw [validatedT_list d _ (setSliceFieldValueT_shape ..), hs, okForT_lift]
  refine slice_generic _ _ d tk texts data _ (specDefaultT d.ext k tk) _ hdef hdata hhas ha.item fun ds hd0 => ⟨?_, ha.dflt ds hd0⟩
  rw [hd0]

theorem item_T {d : Decl} {ty fmt : String} {tk : TKind} (u : Usable d ty fmt tk) (t : Bytes)
    (lit : Bytes → Option Scalar)
    (hconv : t.isEmpty = false → Agrees (checkedF ty fmt (convertTextT d.ext tk t)) (lit t)) :
    Agrees (checkedF ty fmt (setFieldValueT d tk none t true))
      (if t.isEmpty then (if d.required && !d.allowEmpty && d.default.isNone then none else some (specZeroT d.ext tk))
        else lit t) := by
  rw [checked_set u none t true]
  cases hte : t.isEmpty
  · simpa [requiredFails, hte] using hconv hte
  · have : requiredFails d true t = (d.required && !d.allowEmpty && d.default.isNone) := by
      simp only [requiredFails, hte, Bool.not_true, Bool.false_or, Bool.and_true]
      cases d.required <;> cases d.allowEmpty <;> rfl
    rw [this]
    cases d.required && !d.allowEmpty && d.default.isNone <;> trivial

theorem dflt_item_T {d : Decl} {ty fmt : String} {tk : TKind} (u : Usable d ty fmt tk) (ds : List DefScalar)
    (it : DefScalar) (hd : d.default = some (.arr ds)) :
    checkedF ty fmt (setFieldValueT d tk (some it) [] true) = checkedF ty fmt (emptyValueT d.ext tk (some it)) := by
  rw [checked_set u]
  simp [requiredFails, hd]

theorem usable_s (ext : Option Ext) (k : SKind) (p : Bool) (hk : SpecKindCase ext k) :
    (!(TKind.s k p).handled && !(TKind.s k p).isReg) = false := by
  cases hk with
  | bool => cases p <;> decide
  | int w hw => rcases hw with rfl | rfl | rfl | rfl <;> cases p <;> decide
  | float w hw => rcases hw with rfl | rfl <;> cases p <;> decide
  | str => cases p <;> decide
  | reg e _ => simp [TKind.isReg, SKind.isReg]

theorem usable_u (b : Nat) (p : Bool) (hb : b = 8 ∨ b = 16 ∨ b = 32 ∨ b = 64) :
    (!(TKind.uint b p).handled && !(TKind.uint b p).isReg) = false := by
  rcases hb with rfl | rfl | rfl | rfl <;> cases p <;> decide

theorem zero_s (ext : Option Ext) (k : SKind) (p : Bool) (hk : SpecKindCase ext k) (hext : extOk ext = true) :
    emptyValueT ext (.s k p) none = .ok (specZeroT ext (.s k p)) :=
  emptyNoDefault_spec ext k hk hext

theorem zero_u (ext : Option Ext) (b : Nat) (p : Bool) :
    emptyValueT ext (.uint b p) none = .ok (specZeroT ext (.uint b p)) := rfl

theorem slice_main (d : Decl) (k : SKind) (texts : Option (List Bytes)) (data : List Bytes)
    (hk : SpecKindCase d.ext k) (hext : extOk d.ext = true)
    (hdef : d.default = none ∨ ∃ ds, d.default = some (.arr ds))
    (hdata : data = specItems d texts) (hhas : data ≠ [] → texts.isSome = true)
    (hkn : ∀ t ∈ data, textKnown k t = none) :
    okFor (specSlice d texts k) (validated d (setSliceFieldValue d k data texts.isSome)) = true := by
  have u : Usable d "" "" (.s k false) :=
    ⟨usable_s d.ext k false hk, zero_s d.ext k false hk hext, rangeFails_noType "" _⟩
  rw [← setSliceFieldValueT_s, ← validatedL_noType d _ (setSliceFieldValueT_shape ..)]
  refine slice_generic "" "" d (.s k false) texts data (specItem d k) (specDefaultScalar d.ext k) _ hdef hdata hhas
    (fun t ht => item_T u t (specLiteral d.ext k) fun hne =>
      (convertText_agrees d.ext k t hk hne (hkn t ht)).checked fun _ _ => rangeFails_noType _ _)
    fun ds hd0 => ⟨?_, fun it _ => ?_⟩
  · simp only [specArrayDefault, hd0]
    rfl
  · rw [dflt_item_T u ds it hd0]
    exact (defaultScalar_agrees d.ext k it).checked fun _ _ => rangeFails_noType _ _

/-- what a field of kind `tk` has to satisfy to bind a parameter of declared kind `k` as the Spec expects:
`ty`, `fmt` are the declared type and format the validator's range check consults, `wd` the declared
integer width (for F03h) -/
structure FieldOk (d : Decl) (ty fmt : String) (wd : Option Nat) (k : SKind) (tk : TKind) : Prop
    extends Usable d ty fmt tk where
  text : ∀ t, t.isEmpty = false → textKnownAll wd tk t = none →
    Agrees (checkedF ty fmt (convertTextT d.ext tk t)) (specLiteralT d.ext k tk t)
  textRule : ∀ t v, t.isEmpty = false → specLiteralT d.ext k tk t = some v → ruleOn d v = false
  dflt : ∀ dv, defaultFits k dv = true →
    ((specDefaultT d.ext k tk dv).isSome || (specDefaultScalar d.ext k dv).isNone) = true →
    Agrees (checkedF ty fmt (emptyValueT d.ext tk (some dv))) (specDefaultT d.ext k tk dv)

theorem textKnownAll_none (w : Option Nat) (tk : TKind) (t : Bytes) (h : textKnownAll w tk t = none) :
    (∀ k' p, tk = .s k' p → textKnown k' t = none) ∧
    (∀ w', w = some w' → textKnownT w' tk t = none) ∧ textKnownU tk t = none := by
  unfold textKnownAll at h
  split at h
  · cases h
  split at h
  · cases h
  rename_i h1 _ h2
  refine ⟨?_, ?_, h⟩
  · rintro k' p rfl
    exact h1
  · rintro w' rfl
    exact h2

/-- the validator's range check cannot fire on values of this kind -/
def rangeSafe (ty fmt : String) : SKind → Bool
  | .int _ => false
  | .float w => !(w == 64 && (ty == "number" && (fmt == "float" || fmt == "float32")))
  | _ => true

/-- whether the range check can fire depends on a value only through its kind (`rangeFails_safe`) -/
def Scalar.isOf : SKind → Scalar → Bool
  | .bool, .bool _ => true
  | .int w, .int w' _ => w == w'
  | .float w, .float w' _ => w == w'
  | .str, .str _ => true
  | .reg _ n, .reg n' _ => n == n'
  | _, _ => false

theorem rangeFails_safe (ty fmt : String) (k : SKind) (v : Scalar) (hs : rangeSafe ty fmt k = true)
    (hv : Scalar.isOf k v = true) : rangeFails ty fmt v = false := by
  cases v with
  | int w' x => cases k <;> simp [Scalar.isOf, rangeSafe] at hs hv
  | float w' b =>
    cases k <;> simp only [Scalar.isOf, Bool.false_eq_true, beq_iff_eq] at hv
    subst hv
    unfold rangeFails
    split
    · rename_i heq
      cases heq
    · rename_i heq
      cases heq
      simp only [rangeSafe, beq_self_eq_true, Bool.true_and, Bool.not_eq_eq_eq_not, Bool.not_true] at hs
      simp [hs]
    · rfl
  | _ => rfl

theorem specZero_isOf (ext : Option Ext) (k : SKind) (hk : SpecKindCase ext k) : Scalar.isOf k (specZero ext k) = true := by
  cases hk with
  | reg e _ =>
    unfold specZero
    cases extLookup ext [] with
    | none => simp [Scalar.isOf, zeroScalar]
    | some p =>
      obtain ⟨res, ok⟩ := p
      cases res <;> simp [Scalar.isOf, zeroScalar]
  | _ => simp [specZero, zeroScalar, Scalar.isOf]

theorem specLiteral_isOf (ext : Option Ext) (k : SKind) (t : Bytes) (v : Scalar)
    (h : specLiteral ext k t = some v) : Scalar.isOf k v = true := by
  cases k <;> simp only [specLiteral, specFloat] at h
  all_goals repeat' split at h
  all_goals cases h
  all_goals simp [Scalar.isOf]

theorem specDefaultScalar_isOf (ext : Option Ext) (k : SKind) (dv : DefScalar) (v : Scalar)
    (h : specDefaultScalar ext k dv = some v) : Scalar.isOf k v = true := by
  cases k <;> cases dv <;> simp only [specDefaultScalar, specFloat] at h
  all_goals repeat' split at h
  all_goals cases h
  all_goals simp [Scalar.isOf]

/-- the field kind reads the text exactly as the Spec's literal of that kind -/
def SameKind (k k' : SKind) : Prop :=
  match k, k' with
  | .bool, .bool => True
  | .str, .str => True
  | .reg b n, .reg b' n' => b = b' ∧ n = n'
  | .float w, .float w' => (w = 64 ∧ (w' = 32 ∨ w' = 64)) ∨ (w = 32 ∧ w' = 32)
  | _, _ => False

theorem holds_self (k : SKind) (p : Bool) (o : Option Scalar) (ho : ∀ v, o = some v → Scalar.isOf k v = true)
    (hk : k = .bool ∨ k = .str ∨ ∃ b n, k = .reg b n) : o.bind (holds (.s k p)) = o := by
  cases o with
  | none => rfl
  | some v =>
    have hv := ho v rfl
    rcases hk with rfl | rfl | ⟨b, n, rfl⟩ <;> cases v <;> simp only [Scalar.isOf, Bool.false_eq_true, beq_iff_eq] at hv
    · rfl
    · rfl
    · subst hv
      simp [holds]

/-- a field of the same kind holds what the Spec reads (`f`: its reading of a text or of a default, by kind) -/
theorem holds_same (k k' : SKind) (p : Bool) (f : SKind → Option Scalar)
    (hf : ∀ k v, f k = some v → Scalar.isOf k v = true) :
    SameKind k k' →
    (match k, TKind.s k' p with
      | .float _, .s (.float w') _ => f (.float w')
      | _, _ => (f k).bind (holds (.s k' p))) = f k' := by
  intro h
  cases k <;> cases k' <;> simp only [SameKind] at h
  · exact holds_self .bool p _ (hf _) (.inl rfl)
  · rfl
  · exact holds_self .str p _ (hf _) (.inr (.inl rfl))
  · obtain ⟨rfl, rfl⟩ := h
    exact holds_self _ p _ (hf _) (.inr (.inr ⟨_, _, rfl⟩))

theorem specLiteralT_same (ext : Option Ext) (k k' : SKind) (p : Bool) (t : Bytes) (h : SameKind k k') :
    specLiteralT ext k (.s k' p) t = specLiteral ext k' t :=
  holds_same k k' p (specLiteral ext · t) (fun k v => specLiteral_isOf ext k t v) h

theorem specDefaultT_same (ext : Option Ext) (k k' : SKind) (p : Bool) (dv : DefScalar) (h : SameKind k k') :
    specDefaultT ext k (.s k' p) dv = specDefaultScalar ext k' dv :=
  holds_same k k' p (specDefaultScalar ext · dv) (fun k v => specDefaultScalar_isOf ext k dv v) h

theorem fieldOk_same (d : Decl) (ty fmt : String) (wd : Option Nat) (k k' : SKind) (p : Bool)
    (hs : SameKind k k') (hk' : SpecKindCase d.ext k') (hext : extOk d.ext = true)
    (hsafe : rangeSafe ty fmt k' = true) : FieldOk d ty fmt wd k (.s k' p) where
  usable := usable_s d.ext k' p hk'
  zero := zero_s d.ext k' p hk' hext
  zeroRange := rangeFails_safe _ _ k' _ hsafe (specZero_isOf d.ext k' hk')
  text t hne hkn := by
    rw [specLiteralT_same _ _ _ _ _ hs]
    exact (convertText_agrees d.ext k' t hk' hne ((textKnownAll_none _ _ _ hkn).1 k' p rfl)).checked
      fun v hv => rangeFails_safe _ _ k' v hsafe (specLiteral_isOf _ _ _ v hv)
  textRule t v hne hl := ruleOn_text d k' t v hk' hext hne (specLiteralT_same _ _ _ _ _ hs ▸ hl)
  dflt dv _ _ := by
    rw [specDefaultT_same _ _ _ _ _ hs]
    exact (defaultScalar_agrees d.ext k' dv).checked
      fun v hv => rangeFails_safe _ _ k' v hsafe (specDefaultScalar_isOf _ _ _ v hv)

theorem specSKind_int (ext : Option Ext) (ty fmt : String) (w : Nat) (h : specSKind ext ty fmt = some (.int w)) :
    ty = "integer" ∧ (fmt == "int32") = (w == 32) ∧ (w = 8 ∨ w = 16 ∨ w = 32 ∨ w = 64) := by
  obtain ⟨_, ⟨⟩⟩ | ⟨rfl, hw⟩ | ⟨_, ⟨⟩⟩ | ⟨_, ⟨_, ⟨⟩⟩ | ⟨_, _, ⟨⟩⟩⟩ := specSKind_inv h
  obtain rfl : w = widthOf fmt := SKind.int.inj hw
  exact ⟨rfl, widthOf_32 fmt, widthOf_mem fmt⟩

theorem range_int_ok (fmt : String) (w x : Nat) (v : Int) (hfmt : (fmt == "int32") = (w == 32))
    (hw : w = 8 ∨ w = 16 ∨ w = 32 ∨ w = 64) (hf : Num.fitsInt w v) :
    rangeFails "integer" fmt (.int x v) = false := by
  simp only [rangeFails, beq_self_eq_true, Bool.true_and, hfmt]
  split
  · rename_i h32
    simp only [beq_iff_eq] at h32
    simpa [h32] using hf
  · simpa using fitsInt_mono (widths_le hw).2 hf

theorem range_int_bad (fmt : String) (w x : Nat) (v : Int) (hfmt : (fmt == "int32") = (w == 32))
    (hw : w = 32 ∨ w = 64) (hf : ¬ Num.fitsInt w v) :
    rangeFails "integer" fmt (.int x v) = true := by
  simp only [rangeFails, beq_self_eq_true, Bool.true_and, hfmt]
  rcases hw with rfl | rfl <;> simpa using hf

theorem holds_int (w' : Nat) (p : Bool) (x : Nat) (v : Int) :
    holds (.s (.int w') p) (.int x v) = if Num.fitsInt w' v then some (.int w' v) else none := rfl

theorem holds_uint (b : Nat) (p : Bool) (x : Nat) (v : Int) :
    holds (.uint b p) (.int x v) = if 0 ≤ v ∧ v < 2 ^ b then some (.int b v) else none := rfl

/-- a literal outside the declared width that the field can hold: recorded (F03h) for the formats the
validator's range check does not know -/
theorem wide_of_unknownT (w : Nat) (tk : TKind) (t : Bytes) (v : Int) (hw : w = 8 ∨ w = 16 ∨ w = 32 ∨ w = 64)
    (hk : textKnownT w tk t = none) (hl : intLit? t = some v) (hf : ¬ Num.fitsInt w v)
    (hh : (holds tk (.int 64 v)).isSome = true) : w = 32 ∨ w = 64 := by
  rcases hw with rfl | rfl | rfl | rfl
  · simp [textKnownT, hl, hf, hh] at hk
  · simp [textKnownT, hl, hf, hh] at hk
  · exact .inl rfl
  · exact .inr rfl

/-- signed field: the text converted and range-checked is the declared literal the field holds,
outside the recorded class F03h -/
theorem int_agrees (ext : Option Ext) (fmt : String) (w w' : Nat) (p : Bool) (t : Bytes)
    (hw : w = 8 ∨ w = 16 ∨ w = 32 ∨ w = 64) (hw' : w' = 8 ∨ w' = 16 ∨ w' = 32 ∨ w' = 64)
    (hfmt : (fmt == "int32") = (w == 32)) (hk : textKnownT w (.s (.int w') p) t = none) :
    Agrees (checkedF "integer" fmt (convertTextT ext (.s (.int w') p) t)) (specLiteralT ext (.int w) (.s (.int w') p) t) := by
  simp only [convertTextT, convertText, convertInt_eq w' (widths_le hw').2 t, specLiteralT, specLiteral]
  cases hl : intLit? t with
  | none => trivial
  | some v =>
    by_cases hf' : Num.fitsInt w' v <;> by_cases hf : Num.fitsInt w v
    · simp [checkedF, range_int_ok fmt w w' v hfmt hw hf, hf, hf', holds_int, Agrees]
    · -- the declared width rejects: the validator's range check must catch it
      have hwide := wide_of_unknownT w _ t v hw hk hl hf (by simp [holds_int, hf'])
      simp [checkedF, range_int_bad fmt w w' v hfmt hwide hf, hf, hf', Agrees]
    · simp [checkedF, hf, hf', holds_int, Agrees]
    · simp [checkedF, hf, hf', Agrees]

theorem natOfDigits_nonneg (ds : Bytes) : (0 : Int) ≤ (Num.natOfDigits ds : Int) := Int.natCast_nonneg _

/-- `convertText` on an unsigned field is `strconv.ParseUint(s, 10, 64)` + `OverflowUint`: the Spec's reading
of the text as a string of digits, within the field's width. -/
theorem convertUint_eq (b : Nat) (hb : b ≤ 64) (t : Bytes) :
    convertUint b t = match digits? t with
      | some n => if n < 2 ^ b then .ok (.int b n) else .err 601
      | none => .err 601 := by
  have hb64 : 2 ^ b ≤ 2 ^ 64 := Nat.pow_le_pow_right (by decide) hb
  unfold convertUint
  cases hp : Num.parseUint10 64 t with
  | ok n =>
    obtain ⟨h1, h2, rfl, _⟩ := (Num.parseUint10_ok_iff 64 t n).1 hp
    rw [(digits?_some t _).2 ⟨⟨h1, h2⟩, rfl⟩]
  | error e =>
    cases hd : digits? t with
    | none => rfl
    | some n =>
      obtain ⟨⟨h1, h2⟩, rfl⟩ := (digits?_some t n).1 hd
      have : ¬ Num.natOfDigits t < 2 ^ b := fun hlt => by
        have := (Num.parseUint10_ok_iff 64 t _).2 ⟨h1, h2, rfl, by omega⟩
        rw [hp] at this
        cases this
      simp [this]

theorem intLit?_digits (t : Bytes) (v : Int) (h : intLit? t = some v) :
    (∃ n : Nat, digits? t = some n ∧ v = n) ∨ digits? t = none ∧ ∃ c ds, t = c :: ds ∧ (c = 43 ∨ c = 45) := by
  cases (intLit?_iff t v).1 h with
  | plain _ h1 h2 => exact .inl ⟨_, (digits?_some t _).2 ⟨⟨h1, h2⟩, rfl⟩, rfl⟩
  | plus ds h1 h2 => exact .inr ⟨by simp [digits?, Num.isDigit], _, _, rfl, .inl rfl⟩
  | minus ds h1 h2 => exact .inr ⟨by simp [digits?, Num.isDigit], _, _, rfl, .inr rfl⟩

/-- unsigned field: `ParseUint` reads the unsigned literals; outside F03h and F03i (explicitly signed
literals the field could hold) it yields the declared literal the field holds -/
theorem uint_agrees (ext : Option Ext) (fmt : String) (w b : Nat) (p : Bool) (t : Bytes)
    (hw : w = 8 ∨ w = 16 ∨ w = 32 ∨ w = 64) (hb : b = 8 ∨ b = 16 ∨ b = 32 ∨ b = 64)
    (hfmt : (fmt == "int32") = (w == 32)) (hk : textKnownT w (.uint b p) t = none)
    (hku : textKnownU (.uint b p) t = none) :
    Agrees (checkedF "integer" fmt (convertTextT ext (.uint b p) t)) (specLiteralT ext (.int w) (.uint b p) t) := by
  simp only [convertTextT, convertUint_eq b (widths_le hb).2 t, specLiteralT, specLiteral]
  cases hl : intLit? t with
  | none =>
    cases hd : digits? t with
    | none => trivial
    | some n =>
      obtain ⟨⟨h1, h2⟩, _⟩ := (digits?_some t n).1 hd
      rw [(intLit?_iff t _).2 (.plain t h1 h2)] at hl
      cases hl
  | some v =>
    rcases intLit?_digits t v hl with ⟨n, hd, rfl⟩ | ⟨hd, c, ds, rfl, hc⟩
    · rw [hd]
      have hh : ((n : Int) < 2 ^ b) ↔ n < 2 ^ b := by norm_cast
      by_cases hlt : n < 2 ^ b <;> by_cases hf : Num.fitsInt w (n : Int)
      · simp [checkedF, range_int_ok fmt w b _ hfmt hw hf, hf, hlt, holds_uint, hh, Agrees]
      · have hwide := wide_of_unknownT w _ t n hw hk hl hf (by simp [holds_uint, hh, hlt])
        simp [checkedF, range_int_bad fmt w b _ hfmt hwide hf, hf, hlt, Agrees]
      · simp [checkedF, hf, hlt, holds_uint, hh, Agrees]
      · simp [checkedF, hf, hlt, Agrees]
    · -- a sign: `ParseUint` rejects it, and outside F03i the field could not hold the value
      have hno : holds (.uint b p) (.int 64 v) = none := by
        rcases hc with rfl | rfl <;> simpa [textKnownU, hl] using hku
      rw [hd]
      by_cases hf : Num.fitsInt w v
      · simp only [hf, if_true, Option.bind_some]
        rw [holds_uint] at hno ⊢
        rw [hno]
        trivial
      · simp [hf, checkedF, Agrees]

theorem fitsInt_zero {w : Nat} (hw : w = 8 ∨ w = 16 ∨ w = 32 ∨ w = 64) : Num.fitsInt w 0 := by
  rcases hw with rfl | rfl | rfl | rfl <;> decide

theorem ruleOn_int (d : Decl) (x : Nat) (v : Int) : ruleOn d (.int x v) = false := rfl

/-- what an integer field holds is an integer: the required-string rule does not apply -/
theorem ruleOn_holds (d : Decl) (tk : TKind) (o : Option Scalar) (v : Scalar)
    (htk : (∃ w' p, tk = .s (.int w') p) ∨ ∃ b p, tk = .uint b p) (h : o.bind (holds tk) = some v) :
    ruleOn d v = false := by
  obtain ⟨s, _, hs⟩ := Option.bind_eq_some_iff.1 h
  rcases htk with ⟨w', p, rfl⟩ | ⟨b, p, rfl⟩ <;> cases s <;> simp only [holds] at hs
  all_goals repeat' split at hs
  all_goals cases hs
  all_goals rfl

theorem fieldOk_int_s (d : Decl) (ty fmt : String) (w w' : Nat) (p : Bool)
    (hw' : w' = 8 ∨ w' = 16 ∨ w' = 32 ∨ w' = 64) (hk : specSKind d.ext ty fmt = some (.int w)) :
    FieldOk d ty fmt (some w) (.int w) (.s (.int w') p) := by
  obtain ⟨rfl, hfmt, hw⟩ := specSKind_int _ _ _ _ hk
  refine
    { usable := usable_s d.ext _ p (.int w' hw')
      zero := rfl
      zeroRange := range_int_ok fmt w w' 0 hfmt hw (fitsInt_zero hw)
      text := fun t _ hkn => int_agrees d.ext fmt w w' p t hw hw' hfmt ((textKnownAll_none _ _ _ hkn).2.1 w rfl)
      textRule := fun t v _ hl => ruleOn_holds d _ _ v (.inl ⟨w', p, rfl⟩) hl
      dflt := fun dv hfit hsome => ?_ }
  cases dv with
  | int x =>
    simp only [defaultFits, Bool.and_eq_true, decide_eq_true_eq] at hfit
    simp only [specDefaultT, specDefaultScalar, Option.bind_some, holds_int, Option.isNone_some, Bool.or_false] at hsome ⊢
    by_cases hf : Num.fitsInt w' x
    · simp [emptyValueT, emptyValue, defaultScalar, hf, checkedF, range_int_ok fmt w w' x hfmt hw hfit.1, Agrees]
    · simp [hf] at hsome
  | _ => trivial

theorem fieldOk_int_u (d : Decl) (ty fmt : String) (w b : Nat) (p : Bool)
    (hb : b = 8 ∨ b = 16 ∨ b = 32 ∨ b = 64) (hk : specSKind d.ext ty fmt = some (.int w)) :
    FieldOk d ty fmt (some w) (.int w) (.uint b p) := by
  obtain ⟨rfl, hfmt, hw⟩ := specSKind_int _ _ _ _ hk
  refine
    { usable := usable_u b p hb
      zero := zero_u d.ext b p
      zeroRange := range_int_ok fmt w b 0 hfmt hw (fitsInt_zero hw)
      text := fun t _ hkn =>
        have h := textKnownAll_none _ _ _ hkn
        uint_agrees d.ext fmt w b p t hw hb hfmt (h.2.1 w rfl) h.2.2
      textRule := fun t v _ hl => ruleOn_holds d _ _ v (.inr ⟨b, p, rfl⟩) hl
      dflt := fun dv hfit hsome => ?_ }
  cases dv with
  | int x =>
    simp only [defaultFits, Bool.and_eq_true, decide_eq_true_eq] at hfit
    simp only [specDefaultT, specDefaultScalar, Option.bind_some, holds_uint, Option.isNone_some, Bool.or_false] at hsome ⊢
    by_cases hf : 0 ≤ x ∧ x < 2 ^ b
    · simp [emptyValueT, hf, checkedF, range_int_ok fmt w b x hfmt hw hfit.1, Agrees]
    · simp [hf] at hsome
  | _ => trivial

theorem compatible_cases (k : SKind) (tk : TKind) (h : compatible k tk = true) :
    (∃ k' p, tk = .s k' p ∧ SameKind k k') ∨
    (∃ w w' p, k = .int w ∧ tk = .s (.int w') p ∧ (w' = 8 ∨ w' = 16 ∨ w' = 32 ∨ w' = 64)) ∨
    (∃ w b p, k = .int w ∧ tk = .uint b p ∧ (b = 8 ∨ b = 16 ∨ b = 32 ∨ b = 64)) := by
  unfold compatible at h
  split at h <;> simp only [Bool.or_eq_true, Bool.and_eq_true, beq_iff_eq, Bool.false_eq_true, or_assoc] at h
  · exact .inr (.inl ⟨_, _, _, rfl, rfl, h⟩)
  · exact .inr (.inr ⟨_, _, _, rfl, rfl, h⟩)
  · exact .inl ⟨_, _, rfl, h⟩
  · exact .inl ⟨_, _, rfl, trivial⟩
  · exact .inl ⟨_, _, rfl, trivial⟩
  · exact .inl ⟨_, _, rfl, h⟩

theorem sameKind_case (ext : Option Ext) (k k' : SKind) (hk : SpecKindCase ext k) (hs : SameKind k k') :
    SpecKindCase ext k' := by
  cases hk <;> cases k' <;> simp only [SameKind] at hs
  · exact .bool
  · exact .float _ (by omega)
  · exact .str
  · obtain ⟨rfl, rfl⟩ := hs
    exact .reg _ ‹_›

theorem specSKind_float64 (ext : Option Ext) (ty fmt : String) (h : specSKind ext ty fmt = some (.float 64)) :
    (fmt == "float") = false := by
  obtain ⟨_, ⟨⟩⟩ | ⟨_, ⟨⟩⟩ | ⟨_, hw⟩ | ⟨_, ⟨_, ⟨⟩⟩ | ⟨_, _, ⟨⟩⟩⟩ := specSKind_inv h
  cases hf : fmt == "float"
  · rfl
  · simp [hf] at hw

/-- outside go-openapi's alias `float32` the validator's range check leaves a field of the same kind alone -/
theorem rangeSafe_same (ext : Option Ext) (ty fmt : String) (k k' : SKind) (hk : specSKind ext ty fmt = some k)
    (hs : SameKind k k') (h32 : (fmt == "float32") = false) : rangeSafe ty fmt k' = true := by
  cases k' <;> cases k <;> simp only [SameKind] at hs <;> try rfl
  rename_i w' w
  by_cases h64 : w' = 64
  · have hw : w = 64 := by omega
    subst hw h64
    simp [rangeSafe, specSKind_float64 ext ty fmt hk, h32]
  · simp [rangeSafe, h64]

theorem fieldOk (d : Decl) (ty fmt : String) (wd : Option Nat) (k : SKind) (tk : TKind)
    (hspec : specSKind d.ext ty fmt = some k) (hext : extOk d.ext = true) (h32 : (fmt == "float32") = false)
    (hcompat : compatible k tk = true) (hwd : ∀ w, k = .int w → wd = some w) : FieldOk d ty fmt wd k tk := by
  have hkc := specSKind_cases _ _ _ _ hspec
  rcases compatible_cases k tk hcompat with ⟨k', p, rfl, hs⟩ | ⟨w, w', p, rfl, rfl, hw'⟩ | ⟨w, b, p, rfl, rfl, hb⟩
  · exact fieldOk_same d ty fmt wd k k' p hs (sameKind_case d.ext k k' hkc hs) hext
      (rangeSafe_same d.ext ty fmt k k' hspec hs h32)
  · rw [hwd w rfl]
    exact fieldOk_int_s d ty fmt w w' p hw' hspec
  · rw [hwd w rfl]
    exact fieldOk_int_u d ty fmt w b p hb hspec

theorem plain_field (d : Decl) (texts : Option (List Bytes)) (wd : Option Nat) (k : SKind) (tk : TKind)
    (ok : FieldOk d d.ty d.format wd k tk)
    (hdef : d.default = none ∨ ∃ dv, d.default = some (.scalar dv))
    (hfit : ∀ dv, d.default = some (.scalar dv) → defaultFits k dv = true ∧
      ((specDefaultT d.ext k tk dv).isSome || (specDefaultScalar d.ext k dv).isNone) = true)
    (hkn : textKnownAll wd tk (lastOr (texts.getD [])) = none) :
    okForT (specScalarT d texts k ⟨tk, false⟩)
      (validatedT d (.ofBind (itemOut (setFieldValueT d tk (scalarDefault d) (lastOr (texts.getD [])) texts.isSome)))) = true := by
  rw [specScalarT_plain d texts d.ty d.format, validatedT_checked,
    checked_set ok.toUsable, okForT_lift]
  exact Conv.main (convOf d.ext d.ty d.format k tk) d texts hdef (fun hne => ok.text _ hne hkn)
    (fun dv hdv => ok.dflt dv (hfit dv hdv).1 (hfit dv hdv).2) (fun v hne hl => ok.textRule _ v hne hl)
    (fun hd0 hreq => ruleOn_zero d _ hd0 hreq _)

def toPtrV : TVal → TVal
  | .plain (.scalar s) => .ptr (some s)
  | v => v

def toPtrO : TOut → TOut
  | .value v => .value (toPtrV v)
  | o => o

def toPtrE : ExpectT → ExpectT
  | .value v => .value (toPtrV v)
  | .either v => .either (toPtrV v)
  | e => e

/-- the `reflect.Ptr` case of `setFieldValue`, with the repaired branches the facts select -/
theorem setPtrT_eq (d : Decl) (k : TKind) (dflt : Option DefScalar) (text : Bytes) (hasKey : Bool) :
    setPtrT d k dflt text hasKey =
      if requiredFails d hasKey text then .e422 602
      else if text.isEmpty && dflt.isNone then .value (.ptr none)
      else ptrOut (setFieldValueT d k dflt text hasKey) := by
  simp only [setPtrT, fact_byteGuard, Bool.not_true, Bool.and_false, Bool.false_eq_true, if_false, fact_ptrKind,
    fact_ptrDefault, Bool.false_and]

theorem okForT_toPtr (e : ExpectT) (o : TOut) (h : okForT e o = true) : okForT (toPtrE e) (toPtrO o) = true := by
  cases e <;> cases o <;> simp_all [okForT, toPtrE, toPtrO, isE422T]

theorem validatedT_toPtr (d : Decl) (io : ItemOut) :
    validatedT d (ptrOut io) = toPtrO (validatedT d (.ofBind (itemOut io))) := by
  cases io with
  | err c => rfl
  | ok v =>
    simp only [ptrOut, itemOut, TOut.ofBind, validatedT, validateT, fact_deref, Bool.not_true, Bool.false_eq_true, if_false]
    cases rangeFails d.ty d.format v
    · cases validate d (.scalar v) <;> rfl
    · rfl

theorem specScalarT_ptr (d : Decl) (texts : Option (List Bytes)) (k : SKind) (tk : TKind)
    (h : (lastOr (texts.getD [])).isEmpty = false ∨ ∃ dv, d.default = some (.scalar dv)) :
    specScalarT d texts k ⟨tk, true⟩ = toPtrE (specScalarT d texts k ⟨tk, false⟩) := by
  unfold specScalarT
  cases hte : (lastOr (texts.getD [])).isEmpty
  · simp only [Bool.false_eq_true, if_false]
    cases specLiteralT d.ext k tk (lastOr (texts.getD [])) with
    | none => rfl
    | some v =>
      simp only [specValueT, wrapT, if_true, Bool.false_eq_true, if_false, violatesT]
      cases violates d (.scalar v) <;> rfl
  · obtain ⟨dv, hd⟩ := h.resolve_left (by simp [hte])
    simp only [if_true, specAbsentT, specScalarDefaultT, hd]
    cases specDefaultT d.ext k tk dv with
    | none => rfl
    | some v =>
      simp only [Option.map_some, wrapT, if_true, Bool.false_eq_true, if_false, violatesT]
      by_cases h1 : emptyDefaultConflict d = true <;> by_cases h2 : violates d (.scalar v) = true <;>
        simp [h1, h2, toPtrE, toPtrV]

/-- **pointer fields from plain fields.** Whatever holds for the plain field of a kind holds for the
pointer to it: nil when there is neither text nor default, the same value behind a pointer otherwise. -/
theorem ptr_of_plain (d : Decl) (texts : Option (List Bytes)) (k : SKind) (tk : TKind)
    (hdef : d.default = none ∨ ∃ dv, d.default = some (.scalar dv))
    (hbyte : (d.format == "byte") = false ∨ True)
    (hplain : okForT (specScalarT d texts k ⟨tk, false⟩)
      (validatedT d (.ofBind (itemOut (setFieldValueT d tk (scalarDefault d) (lastOr (texts.getD [])) texts.isSome)))) = true) :
    okForT (specScalarT d texts k ⟨tk, true⟩)
      (validatedT d (setPtrT d tk (scalarDefault d) (lastOr (texts.getD [])) texts.isSome)) = true := by
  rw [setPtrT_eq]
  have hsd : (scalarDefault d).isNone = d.default.isNone := by
    rcases hdef with h | ⟨dv, h⟩ <;> simp [scalarDefault, h]
  cases hreq : requiredFails d texts.isSome (lastOr (texts.getD []))
  · simp only [Bool.false_eq_true, if_false]
    cases hnil : ((lastOr (texts.getD [])).isEmpty && (scalarDefault d).isNone)
    · have hcase : (lastOr (texts.getD [])).isEmpty = false ∨ ∃ dv, d.default = some (.scalar dv) := by
        rcases hdef with h | h
        · simpa [hsd, h] using hnil
        · exact .inr h
      simp only [Bool.false_eq_true, if_false]
      rw [specScalarT_ptr d texts k tk hcase, validatedT_toPtr]
      exact okForT_toPtr _ _ hplain
    · -- neither text nor default: the nil pointer
      simp only [hsd, Bool.and_eq_true, Option.isNone_iff_eq_none] at hnil
      rw [List.isEmpty_iff.1 hnil.1, requiredFails_empty d _ hnil.2] at hreq
      simp only [specScalarT, hnil.1, if_true, specAbsentT, hnil.2, hreq, Bool.false_eq_true, if_false]
      simp [validatedT, fact_deref, okForT]
  · have hte : (lastOr (texts.getD [])).isEmpty = true := by
      cases texts <;> simp_all [requiredFails, lastOr]
    have hd0 : d.default = none := by
      simp only [requiredFails, Bool.and_eq_true, Option.isNone_iff_eq_none] at hreq
      exact hreq.2
    rw [List.isEmpty_iff.1 hte, requiredFails_empty d _ hd0] at hreq
    simp only [specScalarT, hte, if_true, specAbsentT, hd0, hreq]
    rfl

theorem wf_scalar {d : Decl} {k : SKind} (hd : d.wf = true) (hsk : specKind d = some (.scalar k)) :
    extOk d.ext = true ∧
    (d.default = none ∨ ∃ dv, d.default = some (.scalar dv)) ∧
    ∀ dv, d.default = some (.scalar dv) → defaultFits k dv = true := by
  simp only [Decl.wf, hsk, Bool.and_eq_true] at hd
  refine ⟨hd.1.1, ?_, fun dv h => by simpa [h] using hd.2⟩
  rcases hdd : d.default with _ | dv | _
  · exact .inl rfl
  · exact .inr ⟨dv, rfl⟩
  · simp [hdd] at hd

theorem wf_slice {d : Decl} {k : SKind} (hd : d.wf = true) (hsk : specKind d = some (.slice k)) :
    extOk d.ext = true ∧ (d.cf == "multi" && !allowsMulti d.loc) = false ∧
    (d.default = none ∨ ∃ ds, d.default = some (.arr ds)) ∧
    ∀ ds, d.default = some (.arr ds) → ∀ dv ∈ ds, defaultFits k dv = true := by
  simp only [Decl.wf, hsk, Bool.and_eq_true] at hd
  refine ⟨hd.1.1, ?_, ?_, fun ds h => List.all_eq_true.1 (by simpa [h] using hd.2.2)⟩
  · have h : (!(d.cf == "multi") || allowsMulti d.loc) = true := hd.2.1.2
    revert h
    cases d.cf == "multi" <;> cases allowsMulti d.loc <;> decide
  · rcases hdd : d.default with _ | _ | ds
    · exact .inl rfl
    · simp [hdd] at hd
    · exact .inr ⟨ds, rfl⟩

theorem declaredWidth_of {d : Decl} {k : SKind} (h : declaredSKind d = some k) (w : Nat) (hk : k = .int w) :
    declaredWidth d = some w := by
  simp [declaredWidth, h, hk]

/-- **which texts are the items.** The list the binder hands to `setSliceFieldValue` — the converted texts the
finding classes speak of — is the Spec's list of items (all occurrences for `multi`, the pieces of the last one
otherwise). -/
theorem slice_source (d : Decl) (r : Req) (tk : TKind) (hd : d.wf = true) (hr : Req.wf d r = true)
    (harr : (d.ty == "array") = true) (hmulti : (d.cf == "multi" && !allowsMulti d.loc) = false) :
    bindSliceT d r tk = setSliceFieldValueT d tk (convertedTexts d r) (specTexts d r).isSome ∧
      convertedTexts d r = specItems d (specTexts d r) ∧
      (convertedTexts d r ≠ [] → (specTexts d r).isSome = true) := by
  obtain ⟨g1, g2, g3⟩ := getOK_spec d r hd hr
  have hsome : ∀ data : List Bytes, (specTexts d r = none → data = []) → data ≠ [] → (specTexts d r).isSome = true := by
    intro data h hne
    cases hst : specTexts d r with
    | none => exact (hne (h hst)).elim
    | some _ => rfl
  unfold bindSliceT convertedTexts
  simp only [harr, if_true, g2]
  cases hm : d.cf == "multi"
  · have hsplit := specItems_split d (specTexts d r) hm
    rw [← g1] at hsplit
    simp only [Bool.false_eq_true, if_false]
    refine ⟨?_, hsplit.symm, hsome _ fun h => by simp [g1, h, lastOr, splitByFormat]⟩
    cases hv : (getOK d r).2.2
    · -- no value: the last text is empty, and so is its split
      rw [g3 hv]
      rfl
    · rfl
  · simp only [hm, Bool.true_and, Bool.not_eq_eq_eq_not, Bool.not_false] at hmulti
    simp only [if_true, hmulti, Bool.not_true, Bool.false_eq_true, if_false]
    exact ⟨trivial, by simp [specItems, hm, g1], hsome _ fun h => by simp [g1, h]⟩

/-- a value or a 422: what binding yields once the Go type of the parameter is known -/
def BindOut.clean : BindOut → Bool
  | .value _ => true
  | .e422 _ => true
  | _ => false

theorem ListOut.clean {o : BindOut} (h : ListOut o) : o.clean = true := by
  obtain ⟨c, rfl⟩ | ⟨tag, vs, rfl⟩ := h <;> rfl

theorem itemOut_clean (io : ItemOut) : (itemOut io).clean = true := by
  cases io <;> rfl

theorem bindSliceT_shape (d : Decl) (r : Req) (tk : TKind) : ListOut (bindSliceT d r tk) := by
  unfold bindSliceT
  repeat' split
  all_goals first | exact setSliceFieldValueT_shape .. | exact .inl ⟨_, rfl⟩

theorem bindRaw_clean (d : Decl) (r : Req) (K : Kind) (h : typeForSchema d = some K) : (bindRaw d r).clean = true := by
  unfold bindRaw
  rw [h]
  cases K with
  | scalar k => exact itemOut_clean _
  | slice k =>
    show (bindSlice d r k).clean = true
    rw [← bindSliceT_s]
    exact (bindSliceT_shape d r (.s k false)).clean

theorem validated_clean (d : Decl) (o : BindOut) (h : o.clean = true) : (validated d o).clean = true := by
  cases o <;> simp only [validated]
  · split <;> rfl
  all_goals exact h

theorem validatedT_ofBind_ne_panic (d : Decl) (o : BindOut) (why : String) (h : o.clean = true) :
    validatedT d (.ofBind o) ≠ .panic why := by
  cases o <;> simp only [TOut.ofBind, validatedT] <;> first | cases h | skip
  · split <;> simp
  · simp

theorem validatedT_setPtrT_ne_panic (d : Decl) (k : TKind) (dflt : Option DefScalar) (text : Bytes) (hasKey : Bool)
    (why : String) : validatedT d (setPtrT d k dflt text hasKey) ≠ .panic why := by
  rw [setPtrT_eq]
  split
  · simp [validatedT]
  split
  · simp [validatedT, fact_deref]
  · have := validatedT_ofBind_ne_panic d _ why (itemOut_clean (setFieldValueT d k dflt text hasKey))
    rw [validatedT_toPtr]
    cases hv : validatedT d (.ofBind (itemOut (setFieldValueT d k dflt text hasKey))) <;> simp_all [toPtrO]

theorem contains_of_lookupField {fields : List (String × Bool)} {key : String}
    (h : lookupField fields key = some true) : fields.contains (key, true) = true := by
  obtain ⟨⟨n, e⟩, hx, he⟩ := Option.map_eq_some_iff.1 h
  have hn := List.find?_some hx
  simp only [beq_iff_eq] at hn he
  subst hn he
  simpa using List.mem_of_find?_eq_some hx

theorem typeForSchema_array {d : Decl} {K : Kind} (h : typeForSchema d = some K) :
    (d.ty == "array") = (match K with | .slice _ => true | .scalar _ => false) := by
  unfold typeForSchema at h
  split at h
  · rename_i ha
    split at h <;> simp at h
    obtain ⟨_, _, rfl⟩ := h
    exact ha
  · rename_i ha
    obtain ⟨_, _, rfl⟩ := Option.map_eq_some_iff.1 h
    simpa using ha

/-- `bind` yields a value, a 422 or (for a declaration without Go type) a panic — never another status -/
theorem bind_not_e4xx (d : Decl) (r : Req) (st : Nat) : bind d r ≠ .e4xx st := by
  intro e
  cases ht : typeForSchema d with
  | none => simp [bind, bindRaw, ht, validated] at e
  | some K =>
    have := validated_clean d _ (bindRaw_clean d r K ht)
    rw [← bind, e] at this
    cases this

theorem valuesOf?_some (outs : List BindOut) (vs : List Val) (h : valuesOf? outs = some vs) :
    outs = vs.map .value := by
  induction outs generalizing vs with
  | nil =>
    cases h
    rfl
  | cons o r ih =>
    cases o <;> simp only [valuesOf?, Option.map_eq_some_iff, reduceCtorEq] at h
    obtain ⟨vs', hr, rfl⟩ := h
    simp [ih vs' hr]

theorem firstFailure_of_none (outs : List BindOut) (h : valuesOf? outs = none) :
    ∃ o, firstFailure outs = some o ∧ o ∈ outs ∧ ∀ v, o ≠ .value v := by
  induction outs with
  | nil => cases h
  | cons o r ih =>
    cases o with
    | value v =>
      obtain ⟨o', h1, h2, h3⟩ := ih (by simpa [valuesOf?] using h)
      exact ⟨o', by simp [firstFailure, h1], List.mem_cons_of_mem _ h2, h3⟩
    | _ => exact ⟨_, rfl, List.mem_cons_self .., by simp⟩

end RtVerif.C03
