import RtVerif.Lemmas.C12Step
/-
  C12, part F: every step lowers the termination measure; no deadlock — a reachable state without
  successor is a finished call whose goroutine is gone, or a call blocked on a silent peer under a context
  that never ends; `predict` is a maximal execution of the LTS.
-/
namespace RtVerif.C12
open RtVerif

section
/- `release` and `closeReqBody` touch only fields the measure does not read. -/
theorem measure_abort (p : Plan) (o : Origin) (s : St) :
    measure p (ret o (release p s)) = measure p { s with ph := .returned } := rfl

theorem measure_failDo (p : Plan) (o : Origin) (s : St) :
    measure p (failDo o p s) = measure p { s with ph := .returned } := rfl

attribute [local grind =] measure_abort measure_failDo
attribute [local grind] measure phW gW pre respChunks Plan.streamReads Plan.streamSrc
  closeReqBody finish copied gFail readerReturn

theorem Step.measure_lt {p : Plan} {s s' : St} {ph : Ph} (hI : Inv p s) (hph : s.ph = ph) (h : Step p s ph s') :
    measure p s' < measure p s := by
  -- what pays for what: the gaps of 2 in `phW` absorb `bufLeft := min 1 consumed` when the copy ends; the bonus
  -- of the `pre` phases pays for `g := run script` and `streamLeft := reads` at `choose` (all zero before, by
  -- `early0`); `respChunks` is exchanged for `bodyLeft` when the headers arrive (zero before, by `noResp`)
  have early0 := hI.early0
  have respPh := hI.respPh
  have respPre := hI.respPre
  have noResp := hI.noResp
  have buf1 := hI.buf1
  cases h with
  | copyData s1 h => have := readBody_data h; grind
  | copyFail h => have := readBody_eof h; grind
  | copyOk h => have := readBody_eof h; grind
  | copyErr s1 h => have := readBody_err h; grind
  | sendData s1 h => have := readBody_data h; grind
  | sendEof h => have := readBody_eof h; grind
  | sendErr s1 h => have := readBody_err h; grind
  | readerDone s1 h => have := @bodyRead_eof p s s1; grind
  | readerData s1 _ h => have := bodyRead_data h; grind
  | readerErr s1 h => have := bodyRead_err h; grind
  | drainData s1 h => have := bodyRead_data h; grind
  | drainEnd s1 h => have := @bodyRead_eof p s s1; have := @bodyRead_err p s s1; grind
  | _ => grind

theorem BgStep.measure_lt {p : Plan} {s s' : St} (hI : Inv p s) (h : BgStep p s s') :
    measure p s' < measure p s := by
  have early0 := hI.early0
  have aliveNotPast := hI.aliveNotPast
  cases h <;> grind

theorem measure_decreases {p : Plan} {s s' : St} (hI : Inv p s) (h : s' ∈ succs p s) : measure p s' < measure p s := by
  rw [succs, List.append_assoc] at h
  rcases List.mem_append.mp h with h | h
  · exact (Step.of_mem h).measure_lt hI rfl
  · exact (BgStep.of_mem h).measure_lt hI

end

/-- blocked on a peer that never answers, with a context that never ends (no deadline, no cancel):
the property allows this wait — the effective deadline is infinite -/
def Stalled (p : Plan) (s : St) : Prop :=
  p.ctxEnds = false ∧ s.ctxDone = false ∧
  ((s.ph = .sendBody ∧ ∃ m, p.tr = .stallAfter m ∧ m ≤ s.consumed) ∨ (s.ph = .await ∧ p.resp = .stall)
   ∨ ((s.ph = .reading ∨ s.ph = .draining) ∧ p.rterm = .stall ∧ s.bodyLeft = 0))

theorem wait_has_gstep {p : Plan} {s : St} (hI : Inv p s) (hw : readBody p s = .wait) : gSteps s ≠ [] := by
  obtain ⟨hk, hg⟩ := readBody_wait hw
  rcases bodyKind_cases p s with ⟨hk', _⟩ | ⟨_, _, hpr⟩ | ⟨hk', _⟩
  · simp [hk] at hk'
  · rcases hg with hg | hg | ⟨r, hg⟩
    · exact absurd (hI.pipe_g.mpr hg) hpr
    · simp [gSteps, hg]
    · simp [gSteps, hg]
  · simp [hk] at hk'

theorem ctx_quiet {p : Plan} {s : St} (hc : cSteps p s = []) (hd : s.ctxDone = false) (hr : s.ph ≠ .returned) :
    p.ctxEnds = false := by
  simp only [cSteps] at hc
  split at hc
  · simp at hc
  · rename_i hn
    cases he : p.ctxEnds with
    | false => rfl
    | true => simp [he, hd, hr] at hn

theorem sendRead_enabled {p : Plan} {s : St} (hI : Inv p s) (hg : gSteps s = []) : sendRead p s ≠ [] := by
  simp only [sendRead]
  cases hrb : readBody p s with
  | wait => exact absurd hg (wait_has_gstep hI hrb)
  | data s1 => simp
  | eof s1 => simp
  | err s1 => simp

/-- after the return the pipe is closed (or was never opened), so a live writer goroutine has a step of
its own: it is never blocked on the pipe -/
theorem alive_has_gstep {p : Plan} {s : St} (hI : Inv p s) (hph : s.ph = .returned) (hg : s.g.alive = true) :
    gSteps s ≠ [] := by
  have hcl : s.pr = .closed := by
    cases h : s.pr with
    | none => have := hI.pipe_g.mp h; simp [G.alive, this] at hg
    | «open» => exact absurd h (hI.retPipe (Or.inr hph))
    | closed => rfl
  cases hgs : s.g with
  | idle => simp [G.alive, hgs] at hg
  | done => simp [G.alive, hgs] at hg
  | trailer => simp [gSteps, hgs, hcl]
  | run t =>
    cases t with
    | nil => simp [gSteps, hgs]
    | cons a r => cases a <;> simp [gSteps, hgs, hcl]

theorem quiescent_final {p : Plan} {s : St} (hI : Inv p s) (hq : succs p s = []) :
    (s.ph = .returned ∧ s.g.alive = false) ∨ Stalled p s := by
  simp only [succs, List.append_eq_nil_iff] at hq
  obtain ⟨⟨hm, hg⟩, hc⟩ := hq
  unfold mainSteps at hm
  split at hm
  · simp only [mStart] at hm; split at hm <;> simp at hm
  · simp only [mChoose] at hm; (repeat' split at hm) <;> simp at hm
  · simp only [mAuth, afterAuth] at hm; (repeat' split at hm) <;> simp at hm
  · exfalso
    simp only [mAuthCopy] at hm
    cases hrb : readBody p s with
    | wait => exact absurd hg (wait_has_gstep hI hrb)
    | data s1 => simp [hrb] at hm
    | eof s1 => simp only [hrb, afterAuth] at hm; (repeat' split at hm) <;> simp at hm
    | err s1 => simp [hrb] at hm
  · simp only [mUrl] at hm; split at hm <;> simp at hm
  · simp only [mSend, List.append_eq_nil_iff] at hm; obtain ⟨_, hm⟩ := hm; split at hm <;> simp at hm
  · rename_i hph
    simp only [mSendBody, List.append_eq_nil_iff] at hm
    obtain ⟨hd, hm⟩ := hm
    have hd' : s.ctxDone = false := by
      cases h : s.ctxDone with
      | false => rfl
      | true => simp [h] at hd
    have hce := ctx_quiet hc hd' (by simp [hph])
    split at hm
    · split at hm
      · simp at hm
      · exact absurd hm (sendRead_enabled hI hg)
    · rename_i m htr
      split at hm
      · rename_i hle
        exact Or.inr ⟨hce, hd', Or.inl ⟨hph, m, htr, hle⟩⟩
      · exact absurd hm (sendRead_enabled hI hg)
    · exact absurd hm (sendRead_enabled hI hg)
  · rename_i hph
    simp only [mAwait, List.append_eq_nil_iff] at hm
    obtain ⟨hd, hm⟩ := hm
    have hd' : s.ctxDone = false := by
      cases h : s.ctxDone with
      | false => rfl
      | true => simp [h] at hd
    have hce := ctx_quiet hc hd' (by simp [hph])
    split at hm
    · rename_i hr; exact Or.inr ⟨hce, hd', Or.inr (Or.inl ⟨hph, hr⟩)⟩
    · simp at hm
  · rename_i hph
    simp only [mReading] at hm
    split at hm
    · simp at hm
    · cases hrb : bodyRead p s with
      | wait =>
        obtain ⟨hb, ht, hd'⟩ := bodyRead_wait hrb
        exact Or.inr ⟨ctx_quiet hc hd' (by simp [hph]), hd', Or.inr (Or.inr ⟨Or.inl hph, ht, hb⟩)⟩
      | data s1 => simp [hrb] at hm
      | eof s1 => simp [hrb] at hm
      | err s1 => simp [hrb] at hm
  · rename_i hph
    simp only [mDraining] at hm
    split at hm
    · cases hrb : bodyRead p s with
      | wait =>
        obtain ⟨hb, ht, hd'⟩ := bodyRead_wait hrb
        exact Or.inr ⟨ctx_quiet hc hd' (by simp [hph]), hd', Or.inr (Or.inr ⟨Or.inr hph, ht, hb⟩)⟩
      | data s1 => simp [hrb] at hm
      | eof s1 => simp [hrb] at hm
      | err s1 => simp [hrb] at hm
    · simp at hm
  · simp [mClosing] at hm
  · rename_i hph
    refine Or.inl ⟨hph, ?_⟩
    cases hg' : s.g.alive with
    | false => rfl
    | true => exact absurd hg (alive_has_gstep hI hph hg')

theorem cancelNow_enabled {p : Plan} {s : St} (h : cancelNow p s = true) : cSteps p s ≠ [] := by
  simp only [cancelNow, Bool.and_eq_true, Bool.not_eq_true'] at h
  obtain ⟨hd, hm⟩ := h
  have hce : p.ctxEnds = true ∧ s.ph ≠ .returned := by
    cases hca : p.cancelAt <;> simp [hca] at hm <;> simp [Plan.ctxEnds, hca]
    · simp [hm]
    · simp [hm.1]
    · simp [hm]
    · rcases hm.1 with h | h <;> simp [h]
  simp [cSteps, hce.1, hd, hce.2]

theorem pick_mem {p : Plan} {s s' : St} (h : pick p s = some s') : s' ∈ succs p s := by
  simp only [pick] at h
  split at h
  · have := List.mem_of_mem_head? h
    simp only [succs, List.mem_append]; exact Or.inr this
  · exact List.mem_of_mem_head? h

theorem pick_none {p : Plan} {s : St} (h : pick p s = none) : succs p s = [] := by
  simp only [pick] at h
  split at h
  · rename_i hc
    have := cancelNow_enabled hc
    simp [List.head?_eq_none_iff] at h
    exact absurd h this
  · simpa [List.head?_eq_none_iff] using h

theorem runFuel_reach {p : Plan} : ∀ (f : Nat) (s : St), Reach p s → Reach p (runFuel f p s) := by
  intro f
  induction f with
  | zero => intro s h; exact h
  | succ f ih =>
    intro s h
    simp only [runFuel]
    split
    · rename_i s' hp; exact ih s' (Reach.step h (pick_mem hp))
    · exact h

theorem runFuel_quiescent {p : Plan} (hwf : p.WF) : ∀ (f : Nat) (s : St), Reach p s → measure p s < f →
    succs p (runFuel f p s) = [] := by
  intro f
  induction f with
  | zero => intro s _ h; omega
  | succ f ih =>
    intro s hr hm
    simp only [runFuel]
    split
    · rename_i s' hp
      have hmem := pick_mem hp
      have := measure_decreases (inv_reach hwf hr) hmem
      exact ih s' (Reach.step hr hmem) (by omega)
    · rename_i hp; exact pick_none hp

theorem predict_maximal {p : Plan} (hwf : p.WF) : Reach p (predictSt p) ∧ succs p (predictSt p) = [] :=
  ⟨runFuel_reach _ _ Reach.init, runFuel_quiescent hwf _ _ Reach.init (by omega)⟩

end RtVerif.C12
