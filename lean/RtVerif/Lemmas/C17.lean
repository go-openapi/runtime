import RtVerif.Model.C17
import RtVerif.Base.StreamLaws
/-
  The abstract view of the tower of peeking layers, and the simulation between the
  model (`step`) and the Spec's ideal tracker (`specStep`).
-/
namespace RtVerif.C17
open RtVerif Bytes _root_.RtVerif.Stream

def csrcSem : Sem CSrc where
  R := csrcReader
  Inv := fun c => srcSem.Inv c.s
  Dead := fun c => srcSem.Dead c.s
  content := fun c => srcSem.content c.s
  term := fun c => srcSem.term c.s
  mu := fun c => srcSem.mu c.s
  zeros := fun c => srcSem.zeros c.s
  closes := fun c => srcSem.closes c.s
  sealed := fun c => srcSem.sealed c.s

theorem csrc_laws : Laws csrcSem where
  read_inv c := src_laws.read_inv c.s
  read_term c := src_laws.read_term c.s
  read_content c := src_laws.read_content c.s
  read_len c := src_laws.read_len c.s
  read_err c := src_laws.read_err c.s
  read_mu c := src_laws.read_mu c.s
  read_mu_lt c := src_laws.read_mu_lt c.s
  read_zeros c := src_laws.read_zeros c.s
  zeros_lt c := src_laws.zeros_lt c.s
  read_closes c := src_laws.read_closes c.s
  read_sealed c := src_laws.read_sealed c.s
  dead_read c := src_laws.dead_read c.s
  dead_close c := src_laws.dead_close c.s
  close_dead c := src_laws.close_dead c.s
  close_sealed c := src_laws.close_sealed c.s
  close_unsealed c := src_laws.close_unsealed c.s

def towerSem : (n : Nat) → Sem (Stack n)
  | 0 => csrcSem
  | n + 1 => wrapSem (towerSem n)

theorem towerSem_R : ∀ n, (towerSem n).R = tower n
  | 0 => rfl
  | n + 1 => congrArg wrap (towerSem_R n)

theorem tower_laws : ∀ n, Laws (towerSem n)
  | 0 => csrc_laws
  | n + 1 => wrap_laws (tower_laws n)

theorem towerSem_closes : ∀ n (st : Stack n), (towerSem n).closes st = botCloses n st
  | 0, _ => rfl
  | n + 1, ps => towerSem_closes n ps.2

/-- The scripted stream is out of reach of reads: it was never closed, or some peeking layer above
it has been closed (and answers every read itself); its late-read counter stands at `c`. -/
def Quiet (n : Nat) (c : Nat) (st : Stack n) : Prop :=
  ((towerSem n).closes st = 0 ∨ (towerSem n).sealed st = true) ∧ botLate n st = c

theorem tower_read_quiet : ∀ (n c : Nat) (st : Stack n) (k : Nat),
    Quiet n c st → Quiet n c ((tower n).read st k).2
  | 0, c, st, k, ⟨h1, h2⟩ => by
    have hc : st.s.closes = 0 := h1.resolve_right fun h => by cases h
    refine ⟨Or.inl (((tower_laws 0).read_closes st k).trans hc), ?_⟩
    show (if st.isClosed then st.late + 1 else st.late) = c
    rw [if_neg (by simp [CSrc.isClosed, hc])]
    exact h2
  | n + 1, c, ps, k, ⟨h1, h2⟩ => by
    show Quiet (n + 1) c ((wrap (tower n)).read ps k).2
    cases hcl : ps.1.closed with
    | true => rw [wrap_read_closed _ _ _ hcl]; exact ⟨h1, h2⟩
    | false =>
      rw [wrap_read_open _ _ _ hcl]
      have h1 : (towerSem n).closes ps.2 = 0 ∨ (ps.1.closed || (towerSem n).sealed ps.2) = true := h1
      rw [hcl] at h1
      have := bread_pres (tower n) (Quiet n c) (tower_read_quiet n c) ps.1.b ps.2 k ⟨h1, h2⟩
      exact ⟨this.1.imp_right fun h => (Bool.or_eq_true _ _).mpr (Or.inr h), this.2⟩

theorem tower_close_late : ∀ (n : Nat) (st : Stack n), botLate n ((tower n).close st).2 = botLate n st
  | 0, _ => rfl
  | n + 1, ps => by
    show botLate n ((wrap (tower n)).close ps).2.2 = botLate n ps.2
    cases hcl : ps.1.closed with
    | true => rw [wrap_close_closed _ ps hcl]
    | false => rw [wrap_close_open _ ps hcl]; exact tower_close_late n ps.2

/-- `st'` is `st` after `Read` calls that handed out `d` in all (and, maybe, a new layer on top):
what the meaning of the body and the reach of reads make of that. -/
structure Moves {n n' : Nat} (st : Stack n) (d : Bytes) (st' : Stack n') : Prop where
  passes : Passes (towerSem n) st d (towerSem n') st'
  quiet : ∀ c, Quiet n c st → Quiet n' c st'

theorem moves_read (n : Nat) (st : Stack n) (k : Nat) :
    Moves st ((tower n).read st k).1.1 ((tower n).read st k).2 :=
  ⟨towerSem_R n ▸ Passes.read (tower_laws n) st k, fun c => tower_read_quiet n c st k⟩

theorem moves_drain (n : Nat) (st : Stack n) (i k : Nat) :
    Moves st (drainLoop (tower n) i st k).1.1 (drainLoop (tower n) i st k).2 :=
  ⟨towerSem_R n ▸ drainLoop_passes (tower_laws n) i st k,
    fun c => drainLoop_pres (tower n) (Quiet n c) (tower_read_quiet n c) i st k⟩

theorem moves_has (n : Nat) (st : Stack n) :
    Moves st [] (n' := n + 1)
      (({ b := (hasContent (tower n) {} st).2.1 } : PR), (hasContent (tower n) {} st).2.2) := by
  have hp := towerSem_R n ▸ hasContent_passes (tower_laws n) st
  have hq := fun c => hasContent_pres (tower n) (Quiet n c) (tower_read_quiet n c) {} st
  -- with the probe in sight, every comparison of states would run it
  generalize hasContent (tower n) {} st = x at *
  exact ⟨hp, fun c h => ⟨(hq c h).1.imp_right id, (hq c h).2⟩⟩

/-- The body is open: it still holds exactly the bytes the ideal tracker expects. -/
structure IsOpen (g : Scenario) (t : Track) (b : Body) : Prop where
  inv : (towerSem b.depth).Inv b.st
  content : (towerSem b.depth).content b.st = t.rest
  trm : (towerSem b.depth).term b.st = g.sTerm
  mu : (towerSem b.depth).mu b.st ≤ g.data.length + g.sched.length
  closes : (towerSem b.depth).closes b.st = 0
  sld : (towerSem b.depth).sealed b.st = false
  tclosed : t.closed = false
  directs : t.directs = 0
  lib : t.lib = false
  late : botLate b.depth b.st = 0

/-- The close accounting of the Spec's tracker (`d` direct closes, `l`: a close through the
library's body), read off the stack: how often the scripted stream was closed, whether further
`Close` calls are absorbed, and that no read reached it closed unless the caller closed it itself. -/
structure Acct (d : Nat) (l : Bool) {n : Nat} (st : Stack n) : Prop where
  closes : (towerSem n).closes st = d + (if l then 1 else 0)
  sealed : (towerSem n).sealed st = l
  late : d = 0 → botLate n st = 0

theorem Acct.quiet {d : Nat} {l : Bool} {n : Nat} {st : Stack n} (a : Acct d l st) (hd : d = 0) :
    Quiet n 0 st := by
  refine ⟨?_, a.late hd⟩
  cases l with
  | true => exact Or.inr a.sealed
  | false => exact Or.inl (by rw [a.closes, hd]; rfl)

theorem Acct.move {d : Nat} {l : Bool} {n n' : Nat} {st : Stack n} {st' : Stack n'} {o : Bytes}
    (a : Acct d l st) (m : Moves st o st') : Acct d l st' :=
  ⟨m.passes.closes.trans a.closes, m.passes.sealed.trans a.sealed, fun hd => (m.quiet 0 (a.quiet hd)).2⟩

structure IsClosed (g : Scenario) (t : Track) (b : Body) : Prop where
  dead : (towerSem b.depth).Dead b.st
  tclosed : t.closed = true
  acct : g.kind = .src → Acct t.directs t.lib b.st

section
variable {g : Scenario} {t : Track} {b : Body} {d : Bytes} {κ : Kind} {n' : Nat} {st' : Stack n'}

theorem IsOpen.acct (ho : IsOpen g t b) : Acct t.directs t.lib b.st :=
  ⟨by rw [ho.closes, ho.directs, ho.lib]; rfl, ho.sld.trans ho.lib.symm, fun _ => ho.late⟩

theorem IsOpen.move (ho : IsOpen g t b) (m : Moves b.st d st') {rest' : Bytes} (hr : t.rest = d ++ rest') :
    IsOpen g { t with rest := rest' } ⟨κ, n', st'⟩ := by
  obtain ⟨hI, hc, hmu⟩ := m.passes.inv ho.inv
  exact { ho with
    inv := hI
    content := List.append_cancel_left (hc.symm.trans (ho.content.trans hr))
    trm := m.passes.term.trans ho.trm
    mu := Nat.le_trans (Nat.le_of_add_right_le hmu) ho.mu
    closes := m.passes.closes.trans ho.closes
    sld := m.passes.sealed.trans ho.sld
    late := (m.quiet 0 ⟨Or.inl ho.closes, ho.late⟩).2 }

theorem IsClosed.move (hc : IsClosed g t b) (m : Moves b.st d st') : IsClosed g t ⟨κ, n', st'⟩ ∧ d = [] :=
  ⟨⟨(m.passes.dead hc.dead).1, hc.tclosed, fun hk => (hc.acct hk).move m⟩, (m.passes.dead hc.dead).2⟩

end

/-- What the tracker `t` says of the request's `Body`. -/
def Held (g : Scenario) (t : Track) : Option Body → Prop
  | none => g.kind = .nilpr ∧ t.rest = [] ∧ t.closed = false ∧ t.directs = 0 ∧ t.lib = false
  | some b => b.kind = g.kind ∧ (IsOpen g t b ∨ IsClosed g t b)

theorem Held.move_nil {g : Scenario} {t : Track} {b : Body} {n' : Nat} {st' : Stack n'}
    (h : Held g t (some b)) (m : Moves b.st [] st') : Held g t (some ⟨b.kind, n', st'⟩) :=
  ⟨h.1, h.2.imp (fun ho => ho.move m (List.nil_append _).symm) fun hc => (hc.move m).1⟩

structure Sim (g : Scenario) (t : Track) (r : Req) : Prop where
  cl : r.cl = g.cl
  hdr : r.hdr = g.hdr
  limit : r.limit = g.data.length + g.sched.length + 2
  body : Held g t r.body

/-- `r.Body` is a peeking layer made by `HasBody`. -/
def Wrapped (r : Req) : Prop := ∃ b, r.body = some b ∧ 1 ≤ b.depth

/-- Once a probe has taken the body over (`Track.probed`), the model's body is a peeking layer. -/
def ProbedWrapped (t : Track) (r : Req) : Prop := t.probed = true → Wrapped r

def StepOk (g : Scenario) (t : Track) (r : Req) (op : Op) : Prop :=
  (specStep g t op (step r op).1).1 = true ∧ Sim g (specStep g t op (step r op).1).2 (step r op).2

theorem nilSrc_open {g : Scenario} {t : Track} {κ : Kind} (hk : g.kind ≠ .src) (hr : t.rest = [])
    (hc : t.closed = false) (hd : t.directs = 0) (hl : t.lib = false) : IsOpen g t ⟨κ, 0, nilSrc⟩ :=
  ⟨⟨rfl, nofun, Or.inr rfl⟩, hr.symm, by simp [Scenario.sTerm, hk]; rfl, Nat.zero_le _, rfl, rfl,
    hc, hd, hl, rfl⟩

theorem sim_init (g : Scenario) (hok : okRuns g.sched = true) : Sim g { rest := g.sData } g.req := by
  refine ⟨rfl, rfl, rfl, ?_⟩
  show Held g _ g.req.body
  cases hk : g.kind with
  | src =>
    simp only [Scenario.req, hk, Held]
    refine ⟨trivial, Or.inl ⟨⟨hok, fun _ => rfl, Or.inl rfl⟩, ?_, ?_, Nat.le_refl _, rfl, rfl, rfl, rfl, rfl, rfl⟩⟩
    · show g.data = g.sData; simp [Scenario.sData, hk]
    · show g.term = g.sTerm; simp [Scenario.sTerm, hk]
  | nobody =>
    simp only [Scenario.req, hk, Held]
    exact ⟨trivial, Or.inl (nilSrc_open (by simp [hk]) (by simp [Scenario.sData, hk]) rfl rfl rfl)⟩
  | nilpr =>
    simp only [Scenario.req, hk, Held]
    exact ⟨trivial, by simp [Scenario.sData, hk], trivial, trivial, trivial⟩

theorem declared_eq {g : Scenario} (h : lenWF g = true) :
    declared g = if undeclared g then none else some g.cl := by
  unfold declared undeclared
  cases hh : g.hdr.isEmpty with
  | true => by_cases hc : 0 < g.cl <;> simp [hc]
  | false =>
    simp only [lenWF, hh, Bool.false_or] at h
    split at h
    · rename_i n hn; simp [hn, beq_iff_eq.mp h]
    · cases h

/-- What `HasBody` answers in a state the ideal tracker describes (no assumption on the length
fields). -/
def modelAnswer (g : Scenario) (t : Track) : Bool :=
  if 0 < g.cl then true else if !g.hdr.isEmpty then false else (!t.closed && !t.rest.isEmpty)

theorem modelAnswer_spec {g : Scenario} (t : Track) (h : lenWF g = true) :
    modelAnswer g t = specAnswer g t := by
  rw [specAnswer, declared_eq h, modelAnswer, undeclared]
  cases hh : g.hdr.isEmpty <;> by_cases hc : 0 < g.cl <;> simp [hc]

section
variable {g : Scenario} {t : Track}

theorem has_spec (r : Req) (hs : Sim g t r) :
    (hasBody r).1 = modelAnswer g t ∧ Sim g t (hasBody r).2 := by
  rw [hasBody, modelAnswer, ← hs.cl, ← hs.hdr]
  split
  · exact ⟨rfl, hs⟩
  · split
    · exact ⟨rfl, hs⟩
    · have hb := hs.body
      cases hbody : r.body with
      | none =>
        rw [hbody] at hb
        obtain ⟨hk, hr, hc, hd, hl⟩ := hb
        exact ⟨by simp [hr], { hs with body := ⟨hk.symm, Or.inl (nilSrc_open (by simp [hk]) hr hc hd hl)⟩ }⟩
      | some b =>
        rw [hbody] at hb
        have m := moves_has b.depth b.st
        have ha : (hasContent (tower b.depth) {} b.st).1 = (!t.closed && !t.rest.isEmpty) := by
          rw [← towerSem_R]
          rcases hb.2 with ho | hc
          · rw [(hasContent_spec (tower_laws b.depth) b.st ho.inv).1, ho.content, ho.tclosed]; rfl
          · rw [(hasContent_dead (tower_laws b.depth) b.st hc.dead).1, hc.tclosed]; rfl
        dsimp only
        generalize hasContent (tower b.depth) {} b.st = x at m ha ⊢
        exact ⟨ha, { hs with body := hb.move_nil m }⟩

theorem Held.probed {ob : Option Body} (h : Held g t ob) (p : Bool) : Held g { t with probed := p } ob := by
  cases ob with
  | none => exact h
  | some b => exact ⟨h.1, h.2.imp (fun ho => { ho with }) (fun hc => { hc with })⟩

theorem step_has (r : Req) (hs : Sim g t r) : StepOk g t r .hasBody := by
  obtain ⟨ha, hs'⟩ := has_spec r hs
  refine ⟨?_, ?_⟩
  · show (!lenWF g || (hasBody r).1 == specAnswer g t) = true
    cases hwf : lenWF g with
    | false => rfl
    | true => rw [ha, modelAnswer_spec t hwf]; simp
  · exact { hs' with body := hs'.body.probed _ }

end

section
variable {g : Scenario} {t : Track}

theorem step_nil (r : Req) (op : Op) (hop : op ≠ .hasBody) (hs : Sim g t r) (hb : r.body = none) :
    StepOk g t r op := by
  have hk : g.kind = .nilpr := by
    have := hs.body; rw [hb] at this; exact this.1
  cases op with
  | hasBody => exact absurd rfl hop
  | _ => simp only [StepOk, step, hb, specStep, hk, beq_self_eq_true, true_and]; exact hs

theorem step_read (r : Req) (k : Nat) (hs : Sim g t r) : StepOk g t r (.read k) := by
  cases hbody : r.body with
  | none => exact step_nil r _ nofun hs hbody
  | some b =>
    have hb := hs.body
    rw [hbody] at hb
    have m := moves_read b.depth b.st k
    have L := tower_laws b.depth
    simp only [StepOk, step, hbody, readOp, specStep]
    rw [← towerSem_R] at m ⊢
    rcases hb.2 with ho | hc
    · obtain ⟨_, hr, _⟩ := m.passes.inv ho.inv
      rw [ho.content] at hr
      have hl := L.read_len b.st k ho.inv
      have he := fun e => L.read_err b.st k e ho.inv
      generalize (towerSem b.depth).R.read b.st k = x at *
      have hdrop : t.rest.drop x.1.1.length = (towerSem b.depth).content x.2 := by rw [hr, List.drop_left]
      rw [if_neg (Bool.eq_false_iff.mp ho.tclosed), hdrop]
      refine ⟨?_, { hs with body := ⟨hb.1, Or.inl (ho.move m hr)⟩ }⟩
      simp only [Bool.and_eq_true, decide_eq_true_eq, List.isPrefixOf_iff_prefix]
      refine ⟨⟨hl, _, hr.symm⟩, ?_⟩
      cases hx : x.1.2 with
      | none => rfl
      | some e => simp [(he e hx).1, (he e hx).2, ho.trm]
    · obtain ⟨hc', hd⟩ := hc.move (κ := b.kind) m
      have he := (L.dead_read b.st k hc.dead).2.1
      generalize (towerSem b.depth).R.read b.st k = x at *
      rw [if_pos hc.tclosed, hd]
      refine ⟨?_, { hs with body := ⟨hb.1, Or.inr hc'⟩ }⟩
      cases k with
      | zero => rfl
      | succ k =>
        cases hx : x.1.2 with
        | none => exact absurd hx (he (Nat.succ_pos k))
        | some e => rfl

theorem step_drain (r : Req) (k : Nat) (hs : Sim g t r) : StepOk g t r (.drain k) := by
  cases hbody : r.body with
  | none => exact step_nil r _ nofun hs hbody
  | some b =>
    have hb := hs.body
    rw [hbody] at hb
    have m := moves_drain b.depth b.st r.limit k
    have L := tower_laws b.depth
    simp only [StepOk, step, hbody, drainOp, specStep]
    rw [← towerSem_R] at m ⊢
    cases k with
    | zero =>
      have hd := hb.2.elim (fun ho => drainLoop_zero L r.limit b.st ho.inv) fun hc => (hc.move (κ := b.kind) m).2
      generalize drainLoop (towerSem b.depth).R r.limit b.st 0 = x at *
      rw [if_pos (beq_self_eq_true _), hd]
      rw [hd] at m
      exact ⟨rfl, { hs with body := hb.move_nil m }⟩
    | succ k =>
      rw [if_neg (by simp)]
      rcases hb.2 with ho | hc
      · have hsp := (drainLoop_spec L r.limit b.st (k + 1) ho.inv (Nat.succ_pos k)
          (by have := ho.mu; have := hs.limit; omega)).1
        rw [ho.content, ho.trm] at hsp
        generalize drainLoop (towerSem b.depth).R r.limit b.st (k + 1) = x at *
        rw [if_neg (Bool.eq_false_iff.mp ho.tclosed), hsp]
        rw [hsp] at m
        exact ⟨by simp, { hs with body := ⟨hb.1, Or.inl (ho.move m (List.append_nil _).symm)⟩ }⟩
      · obtain ⟨e, he⟩ : ∃ e, (drainLoop (towerSem b.depth).R r.limit b.st (k + 1)).1 = ([], some e, false) := by
          rw [hs.limit]; exact drainLoop_dead L _ b.st (k + 1) hc.dead (Nat.succ_pos k)
        generalize drainLoop (towerSem b.depth).R r.limit b.st (k + 1) = x at *
        rw [if_pos hc.tclosed, he]
        exact ⟨rfl, { hs with body := ⟨hb.1, Or.inr (hc.move m).1⟩ }⟩

end

theorem direct_false_of_depth {b : Body} (hd : 1 ≤ b.depth) : b.direct = false := by
  unfold Body.direct
  rw [beq_eq_false_iff_ne.mpr (Nat.ne_of_gt hd)]; rfl

/-- What a `Close` does to the accounting: at depth 0 it lands on the scripted stream and is the
caller's own; through a peeking layer it reaches the stream only if no layer absorbs it, and from
then on every layer does. -/
theorem Acct.close {d : Nat} {l : Bool} : ∀ {n : Nat} {st : Stack n}, Acct d l st →
    Acct (if n == 0 then d + 1 else d) (!(n == 0) || l) ((tower n).close st).2
  | 0, st, a => by
    have hl : false = l := a.sealed
    subst hl
    exact ⟨(congrArg (· + 1) a.closes : st.s.closes + 1 = _), rfl, nofun⟩
  | n + 1, st, a => by
    have hL := tower_laws (n + 1)
    rw [← towerSem_R]
    refine ⟨?_, wrap_close_sealed (S := towerSem n) st,
      fun hd => (towerSem_R (n + 1) ▸ tower_close_late (n + 1) st).trans (a.late hd)⟩
    cases l with
    | true => exact (hL.close_sealed st a.sealed).1.trans a.closes
    | false => exact (hL.close_unsealed st a.sealed).trans (congrArg (· + 1) a.closes)

section
variable {g : Scenario} {t : Track}

theorem step_close (r : Req) (hs : Sim g t r) (hw : ProbedWrapped t r) : StepOk g t r .close := by
  cases hbody : r.body with
  | none => exact step_nil r _ nofun hs hbody
  | some b =>
    have hb := hs.body
    rw [hbody] at hb
    simp only [StepOk, step, hbody, closeOp, specStep]
    refine ⟨?_, { hs with body := ⟨hb.1, Or.inr ⟨?_, rfl, fun hk => ?_⟩⟩ }⟩
    · -- a probe took the body over: the model's body is a peeking layer, the close is not direct
      cases hp : t.probed with
      | false => rfl
      | true =>
        obtain ⟨b', hb', hd'⟩ := hw hp
        rw [hbody] at hb'; cases hb'
        rw [direct_false_of_depth hd']; rfl
    · exact towerSem_R b.depth ▸ hb.2.elim (fun ho => (tower_laws _).close_dead _ ho.inv)
        fun hc => (tower_laws _).dead_close _ hc.dead
    · have a : Acct t.directs t.lib b.st := hb.2.elim IsOpen.acct fun hc => hc.acct hk
      have hdir : b.direct = (b.depth == 0) := by simp [Body.direct, hb.1, hk]
      rw [hdir, Bool.or_comm]
      exact a.close

end

theorem step_body (r : Req) (op : Op) (b : Body) (hb : r.body = some b) :
    ∃ b', (step r op).2.body = some b' ∧ b'.kind = b.kind ∧ b.depth ≤ b'.depth ∧
      (op ≠ .hasBody → b'.depth = b.depth) ∧
      (op = .close → (step r op).1 = .cl ((tower b.depth).close b.st).1 b.direct) := by
  cases op with
  | hasBody =>
    show ∃ b', (hasBody r).2.body = some b' ∧ _
    unfold hasBody
    split
    · exact ⟨b, hb, rfl, Nat.le_refl _, fun _ => rfl, nofun⟩
    · split
      · exact ⟨b, hb, rfl, Nat.le_refl _, fun _ => rfl, nofun⟩
      · simp only [hb]; exact ⟨_, rfl, rfl, Nat.le_succ _, fun h => absurd rfl h, nofun⟩
  | close => simp only [step, hb, closeOp]; exact ⟨_, rfl, rfl, Nat.le_refl _, fun _ => rfl, fun _ => trivial⟩
  | _ => simp only [step, hb, readOp, drainOp]; exact ⟨_, rfl, rfl, Nat.le_refl _, fun _ => rfl, nofun⟩

theorem step_wrapped (r : Req) (op : Op) (h : Wrapped r) :
    Wrapped (step r op).2 ∧ (op = .close → ∃ e, (step r op).1 = .cl e false) := by
  obtain ⟨b, hb, hd⟩ := h
  obtain ⟨b', hb', _, hle, _, hcl⟩ := step_body r op b hb
  exact ⟨⟨b', hb', Nat.le_trans hd hle⟩, fun h => ⟨_, direct_false_of_depth hd ▸ hcl h⟩⟩

/-- `r.Body` is the caller's own scripted stream. -/
def Unwrapped (r : Req) : Prop := ∃ b, r.body = some b ∧ b.depth = 0 ∧ b.kind = .src

theorem step_unwrapped (r : Req) (op : Op) (h : Unwrapped r) (hop : op ≠ .hasBody) :
    Unwrapped (step r op).2 ∧ (op = .close → ∃ e, (step r op).1 = .cl e true) := by
  obtain ⟨b, hb, hd, hk⟩ := h
  obtain ⟨b', hb', hk', _, hd', hcl⟩ := step_body r op b hb
  have hdir : b.direct = true := by unfold Body.direct; rw [hd, hk]; rfl
  exact ⟨⟨b', hb', (hd' hop).trans hd, hk'.trans hk⟩, fun h => ⟨_, hdir ▸ hcl h⟩⟩

section
variable {g : Scenario} {t : Track}

theorem probe_wraps (r : Req) (hs : Sim g t r) (hu : takesOver g = true) : Wrapped (step r .hasBody).2 := by
  simp only [takesOver, undeclared, Bool.and_eq_true, Bool.not_eq_true', decide_eq_false_iff_not,
    bne_iff_ne, ne_eq] at hu
  show ∃ b, (hasBody r).2.body = some b ∧ 1 ≤ b.depth
  unfold hasBody
  rw [hs.cl, hs.hdr, if_neg hu.1.2, hu.1.1, if_neg (by simp)]
  have hb := hs.body
  cases hbody : r.body with
  | none => rw [hbody] at hb; exact absurd hb.1 hu.2
  | some b => exact ⟨_, rfl, Nat.succ_pos _⟩

theorem specStep_frame (t : Track) (op : Op) (o : Out) :
    (op ≠ .close → (specStep g t op o).2.directs = t.directs ∧ (specStep g t op o).2.lib = t.lib) ∧
    (op ≠ .hasBody → (specStep g t op o).2.probed = t.probed) ∧
    (t.closed = true → (specStep g t op o).2.closed = true) := by
  cases op <;> cases o <;> simp only [specStep] <;> (repeat' split) <;> simp

theorem step_probedWrapped (r : Req) (op : Op) (hs : Sim g t r) (hw : ProbedWrapped t r) :
    ProbedWrapped (specStep g t op (step r op).1).2 (step r op).2 := by
  intro hp
  cases hpr : t.probed with
  | true => exact (step_wrapped r op (hw hpr)).1
  | false =>
    by_cases hop : op = .hasBody
    · subst hop
      have hp : (t.probed || takesOver g) = true := hp
      rw [hpr] at hp
      exact probe_wraps r hs hp
    · obtain ⟨-, hprobed, -⟩ := specStep_frame (g := g) t op (step r op).1
      rw [hprobed hop, hpr] at hp
      cases hp

theorem step_sim (r : Req) (op : Op) (hs : Sim g t r) (hw : ProbedWrapped t r) : StepOk g t r op := by
  cases op with
  | hasBody => exact step_has r hs
  | read k => exact step_read r k hs
  | close => exact step_close r hs hw
  | drain k => exact step_drain r k hs

theorem runOps_append (r : Req) (a b : List Op) :
    runOps r (a ++ b) = ((runOps r a).1 ++ (runOps (runOps r a).2 b).1, (runOps (runOps r a).2 b).2) := by
  induction a generalizing r with
  | nil => rfl
  | cons op a ih => simp only [List.cons_append, runOps, ih]

theorem runOps_length (r : Req) (ops : List Op) : (runOps r ops).1.length = ops.length := by
  induction ops generalizing r with
  | nil => rfl
  | cons op ops ih => simp [runOps, ih]

/-- Tracker and request after the model ran `ops` from `r` and the Spec followed its trace from `t`. -/
def after (g : Scenario) (t : Track) (r : Req) (ops : List Op) : Track × Req :=
  ((specGo g t ops (runOps r ops).1).2, (runOps r ops).2)

theorem after_cons (r : Req) (op : Op) (ops : List Op) :
    after g t r (op :: ops) = after g (specStep g t op (step r op).1).2 (step r op).2 ops := rfl

theorem after_append (r : Req) (a b : List Op) :
    after g t r (a ++ b) = after g (after g t r a).1 (after g t r a).2 b := by
  induction a generalizing t r with
  | nil => rfl
  | cons op a ih => exact ih _

theorem run_sim (ops : List Op) (r : Req) (hs : Sim g t r) (hw : ProbedWrapped t r) :
    (specGo g t ops (runOps r ops).1).1 = true ∧
    Sim g (after g t r ops).1 (after g t r ops).2 ∧
    ProbedWrapped (after g t r ops).1 (after g t r ops).2 := by
  induction ops generalizing t r with
  | nil => exact ⟨rfl, hs, hw⟩
  | cons op ops ih =>
    simp only [runOps, specGo]
    rw [after_cons]
    have h := step_sim r op hs hw
    have h2 := ih (step r op).2 h.2 (step_probedWrapped r op hs hw)
    exact ⟨by rw [h.1, h2.1]; rfl, h2.2⟩

/-- While every `Close` of a run is reported with the same `direct` flag `δ` (because `I` holds of
the request all along), the tracker counts each as the caller's own (`δ`), or all of them as one
close through the library's body. -/
theorem run_acct (δ : Bool) (I : Req → Prop) (ops : List Op)
    (hI : ∀ r, I r → ∀ op ∈ ops, I (step r op).2 ∧ (op = .close → ∃ e, (step r op).1 = .cl e δ))
    (t : Track) (r : Req) (h : I r) :
    I (after g t r ops).2 ∧
    (after g t r ops).1.directs = t.directs + (if δ then ops.count .close else 0) ∧
    (after g t r ops).1.lib = (t.lib || !δ && ops.contains .close) := by
  induction ops generalizing t r with
  | nil => exact ⟨h, by cases δ <;> rfl, by simp [after, runOps, specGo]⟩
  | cons op ops ih =>
    obtain ⟨h', hcl⟩ := hI r h op List.mem_cons_self
    have := ih (fun r hr o ho => hI r hr o (List.mem_cons_of_mem _ ho)) (specStep g t op (step r op).1).2 _ h'
    rw [after_cons, this.2.1, this.2.2]
    refine ⟨this.1, ?_, ?_⟩
    all_goals
      by_cases hop : op = .close
      · obtain ⟨e, he⟩ := hcl hop
        subst hop
        rw [he]
        cases δ <;> simp [specStep] <;> omega
      · obtain ⟨hacct, -, -⟩ := specStep_frame (g := g) t op (step r op).1
        simp [hacct hop, List.count_cons, beq_eq_false_iff_ne.mpr hop, Ne.symm hop]

theorem step_out_cl (r : Req) (op : Op) {e : Option Err} {d : Bool} (h : (step r op).1 = .cl e d) :
    op = .close := by
  cases op with
  | close => rfl
  | hasBody => cases h
  | read k => simp only [step] at h; split at h <;> cases h
  | drain k => simp only [step] at h; split at h <;> cases h

theorem run_wrapped_outs (ops : List Op) (r : Req) (h : Wrapped r) : ∀ e, Out.cl e true ∉ (runOps r ops).1 := by
  induction ops generalizing r with
  | nil => exact fun _ => List.not_mem_nil
  | cons op ops ih =>
    intro e hm
    obtain ⟨h', hcl⟩ := step_wrapped r op h
    rcases List.mem_cons.mp hm with hm | hm
    · obtain ⟨e', he'⟩ := hcl (step_out_cl r op hm.symm)
      cases hm.trans he'
    · exact ih _ h' e hm

theorem sim_src (r : Req) (hs : Sim g t r) (hk : g.kind = .src) :
    ∃ b, r.body = some b ∧ (IsOpen g t b ∨ IsClosed g t b) := by
  have hb := hs.body
  cases hbody : r.body with
  | none => rw [hbody] at hb; cases hk.symm.trans hb.1
  | some b => rw [hbody] at hb; exact ⟨b, rfl, hb.2⟩

theorem sim_acct (r : Req) (hs : Sim g t r) (hk : g.kind = .src) :
    ∃ b, r.body = some b ∧ Acct t.directs t.lib b.st := by
  obtain ⟨b, hb, h⟩ := sim_src r hs hk
  exact ⟨b, hb, h.elim IsOpen.acct fun hc => hc.acct hk⟩

theorem sim_closes (r : Req) (hs : Sim g t r) : specCloses g t (reportedCloses g r) = true := by
  unfold specCloses
  cases hk : g.kind with
  | nobody => rfl
  | nilpr => rfl
  | src =>
    obtain ⟨b, hb, a⟩ := sim_acct r hs hk
    simp [reportedCloses, hk, hb, ← towerSem_closes, a.closes]

theorem sim_late (r : Req) (hs : Sim g t r) : specLate g t (reportedLate g r) = true := by
  unfold specLate
  cases hk : g.kind with
  | nobody => rfl
  | nilpr => rfl
  | src =>
    obtain ⟨b, hb, a⟩ := sim_acct r hs hk
    simp only [reportedLate, hk, hb, bne_self_eq_false, Bool.false_or, Bool.or_eq_true, bne_iff_ne, ne_eq,
      beq_iff_eq]
    exact (Decidable.em (t.directs = 0)).symm.imp_right a.late

end

/-- All bytes handed out by the `Op.read`/`Op.drain` steps of a trace, in order. -/
def delivered : List Out → Bytes
  | [] => []
  | .rd d _ :: r => d ++ delivered r
  | .dr d _ _ :: r => d ++ delivered r
  | _ :: r => delivered r

theorem delivered_append (a b : List Out) : delivered (a ++ b) = delivered a ++ delivered b := by
  induction a with
  | nil => rfl
  | cons o r ih => cases o <;> simp [delivered, ih]

theorem delivered_replicate_has (m : Nat) (a : Bool) : delivered (List.replicate m (Out.has a)) = [] := by
  induction m with
  | zero => rfl
  | succ m ih => rw [List.replicate_succ]; exact ih

section
variable {g : Scenario}

theorem specStep_delivered (t : Track) (op : Op) (o : Out) (hop : op ≠ .close) (hc : t.closed = false)
    (h : (specStep g t op o).1 = true) :
    (specStep g t op o).2.closed = false ∧ delivered [o] ++ (specStep g t op o).2.rest = t.rest := by
  obtain ⟨rest, _, di, li, pr⟩ := t
  subst hc
  cases op with
  | close => exact absurd rfl hop
  | hasBody => cases o <;> first | exact ⟨rfl, rfl⟩ | simp [specStep] at h
  | read k =>
    cases o with
    | nilBody => exact ⟨rfl, rfl⟩
    | rd d e =>
      simp only [specStep, Bool.false_eq_true, if_false, Bool.and_eq_true] at h
      exact ⟨rfl, by simpa [delivered, specStep] using List.prefix_iff_eq_append.mp (List.isPrefixOf_iff_prefix.mp h.1.2)⟩
    | _ => simp [specStep] at h
  | drain k =>
    cases o with
    | nilBody => exact ⟨rfl, rfl⟩
    | dr d e cap =>
      cases k with
      | zero =>
        simp only [specStep, beq_self_eq_true, if_true, List.isEmpty_iff] at h
        exact ⟨rfl, by simp [delivered, specStep, h]⟩
      | succ k =>
        have hk0 : (k + 1 == 0) = false := by simp
        simp only [specStep, hk0, Bool.false_eq_true, if_false, Bool.and_eq_true, beq_iff_eq] at h
        exact ⟨rfl, by simp [delivered, specStep, h.1.1]⟩
    | _ => simp [specStep] at h

theorem specGo_delivered (ops : List Op) (outs : List Out) (t : Track)
    (hnc : ∀ op ∈ ops, op ≠ .close) (hc : t.closed = false)
    (h : (specGo g t ops outs).1 = true) :
    (specGo g t ops outs).2.closed = false ∧ delivered outs ++ (specGo g t ops outs).2.rest = t.rest := by
  induction ops generalizing outs t with
  | nil =>
    cases outs with
    | nil => exact ⟨hc, rfl⟩
    | cons o r => cases h
  | cons op ops ih =>
    cases outs with
    | nil => cases h
    | cons o outs =>
      simp only [specGo] at h ⊢
      rw [Bool.and_eq_true] at h
      obtain ⟨h1, h2⟩ := specStep_delivered t op o (hnc op List.mem_cons_self) hc h.1
      have := ih outs _ (fun o ho => hnc o (List.mem_cons_of_mem _ ho)) h1 h.2
      exact ⟨this.1, by rw [← h2, ← this.2, ← List.append_assoc, ← delivered_append]; rfl⟩

theorem specGo_closed (ops : List Op) (outs : List Out) (t : Track) (h : t.closed = true) :
    (specGo g t ops outs).2.closed = true := by
  induction ops generalizing outs t with
  | nil => cases outs <;> exact h
  | cons op ops ih =>
    cases outs with
    | nil => exact h
    | cons o outs =>
      obtain ⟨-, -, hclosed⟩ := specStep_frame (g := g) t op o
      exact ih outs _ (hclosed h)

end

/-- The Spec's tracker and the request after the history `ops` of scenario `g`. -/
abbrev final (g : Scenario) (ops : List Op) : Track × Req := after g { rest := g.sData } g.req ops

section
variable {g : Scenario} (hok : okRuns g.sched = true)
include hok

theorem run_init (ops : List Op) :
    (specGo g { rest := g.sData } ops (runOps g.req ops).1).1 = true ∧ Sim g (final g ops).1 (final g ops).2 :=
  have h := run_sim ops g.req (sim_init g hok) nofun
  ⟨h.1, h.2.1⟩

theorem closes_eq (hsrc : g.kind = .src) (ops : List Op) :
    (model g ops).2.1 = (final g ops).1.directs + (if (final g ops).1.lib then 1 else 0) := by
  have := sim_closes _ (run_init hok ops).2
  simp only [specCloses, hsrc, bne_self_eq_false, Bool.false_or, beq_iff_eq] at this
  exact this

theorem late_eq (hsrc : g.kind = .src) (ops : List Op) (hd : (final g ops).1.directs = 0) :
    (model g ops).2.2 = 0 := by
  have := sim_late _ (run_init hok ops).2
  simp only [specLate, hsrc, hd, bne_self_eq_false, Bool.false_or, beq_iff_eq] at this
  exact this

theorem final_wrapped (hu : takesOver g = true) (ops : List Op) : Wrapped (final g (ops ++ [.hasBody])).2 := by
  rw [final, after_append]
  exact probe_wraps _ (run_init hok ops).2 hu

theorem final_probe (hu : takesOver g = true) (ops1 ops2 : List Op) :
    (final g (ops1 ++ .hasBody :: ops2)).1.directs = (final g ops1).1.directs ∧
    (final g (ops1 ++ .hasBody :: ops2)).1.lib = ((final g ops1).1.lib || ops2.contains .close) := by
  have h := (run_acct (g := g) false Wrapped ops2 (fun r hr op _ => step_wrapped r op hr)
    (specStep g (final g ops1).1 .hasBody (step (final g ops1).2 .hasBody).1).2 _
    (probe_wraps _ (run_init hok ops1).2 hu)).2
  obtain ⟨hacct, -, -⟩ := specStep_frame (g := g) (final g ops1).1 .hasBody (step (final g ops1).2 .hasBody).1
  rw [final, after_append, after_cons, h.1, h.2, (hacct nofun).1, (hacct nofun).2]
  exact ⟨Nat.add_zero _, by rw [Bool.not_false, Bool.true_and]⟩

theorem final_closed (hsrc : g.kind = .src) (ops1 ops2 : List Op) :
    (final g (ops1 ++ .close :: ops2)).1.closed = true := by
  obtain ⟨b, hb, _⟩ := sim_src _ (run_init hok ops1).2 hsrc
  rw [final, after_append, after_cons]
  apply specGo_closed
  simp only [step, hb, closeOp, specStep]

omit hok in
theorem final_unwrapped (hsrc : g.kind = .src) (ops : List Op) (h : ∀ op ∈ ops, op ≠ .hasBody) :
    (final g ops).1.directs = ops.count .close ∧ (final g ops).1.lib = false := by
  have := (run_acct (g := g) true Unwrapped ops (fun r hr op ho => step_unwrapped r op hr (h op ho))
    { rest := g.sData } g.req (by simp only [Scenario.req, hsrc]; exact ⟨_, rfl, rfl, rfl⟩)).2
  simpa using this

omit hok in
theorem final_noclose (ops : List Op) (h : ∀ op ∈ ops, op ≠ .close) :
    (final g ops).1.directs = 0 ∧ (final g ops).1.lib = false := by
  have := (run_acct (g := g) false (fun _ => True) ops
    (fun r _ op ho => ⟨trivial, fun hc => absurd hc (h op ho)⟩) { rest := g.sData } g.req trivial).2
  have hn : Op.close ∉ ops := fun hc => h _ hc rfl
  simpa [hn] using this

theorem final_delivered (ops : List Op) (h : ∀ op ∈ ops, op ≠ .close) :
    (final g ops).1.closed = false ∧ delivered (model g ops).1 ++ (final g ops).1.rest = g.sData :=
  specGo_delivered ops _ _ h rfl (run_init hok ops).1

end

theorem model_snoc (g : Scenario) (ops : List Op) (op : Op) :
    (model g (ops ++ [op])).1 = (model g ops).1 ++ [(step (final g ops).2 op).1] := by
  show (runOps g.req (ops ++ [op])).1 = _
  rw [runOps_append]; rfl

theorem takesOver_of {g : Scenario} (hsrc : g.kind = .src) (hu : undeclared g = true) :
    takesOver g = true := by
  unfold takesOver; rw [hu, hsrc]; rfl

end RtVerif.C17
