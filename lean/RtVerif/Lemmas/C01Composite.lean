import RtVerif.Model.C01
import RtVerif.Lemmas.C01Bridge
/-
  C01, composite segments: a template segment `pre {n0} st0 {n1} st1 … {nk} stk`.
  `greedy` is `decodeCompositParams` on the structured pattern (leftmost occurrence of every
  separator, `HasSuffix` for the text after the last placeholder), and the transcription of the Go
  function computes it on the pattern *text* `st0 {n1} st1 … {nk} stk`.  Whenever the segment text
  has an instantiation at all the leftmost splitting is one, so where the instantiation is unique it
  is what `defaultRouter.Lookup` hands on.
-/
namespace RtVerif.C01
open RtVerif Bytes

/-- `{n1} st1 {n2} st2 …` -/
def segText : List (Bytes × Bytes) → Bytes
  | [] => []
  | (n, st) :: r => lbrace :: (n ++ rbrace :: (st ++ segText r))

/-- the pattern handed to `decodeCompositParams` for the first placeholder: what follows `{n0}` -/
def patAfter (st0 : Bytes) (r : List (Bytes × Bytes)) : Bytes := st0 ++ segText r

/-- names and static texts are free of braces -/
def PhsWF (phs : List (Bytes × Bytes)) : Prop :=
  ∀ p ∈ phs, p.1.all notBrace = true ∧ p.2.all notBrace = true

/-- what `decodeCompositParams` computes, on the structured pattern -/
def greedy : List (Bytes × Bytes) → Bytes → List Bytes
  | [], _ => []
  | (_, st) :: [], t => [if hasSuffix t st then t.take (t.length - st.length) else []]
  | (_, st) :: (q :: r), t =>
    match indexOf st t with
    | some i => t.take i :: greedy (q :: r) (t.drop (i + st.length))
    | none => [] :: greedy (q :: r) []

theorem greedy_length (phs : List (Bytes × Bytes)) (t : Bytes) : (greedy phs t).length = phs.length := by
  induction phs generalizing t with
  | nil => rfl
  | cons p r ih =>
    cases r with
    | nil => rfl
    | cons q r' =>
      simp only [greedy]
      split <;> simp [ih]

theorem segText_length (r : List (Bytes × Bytes)) : r.length ≤ (segText r).length := by
  induction r with
  | nil => simp [segText]
  | cons p r' ih =>
    simp only [segText, List.length_cons, List.length_append]
    omega

theorem patAfter_eq_nil {st0 : Bytes} {r : List (Bytes × Bytes)} (h : patAfter st0 r = []) : st0 = [] ∧ r = [] := by
  cases r with
  | nil => simpa [patAfter, segText] using h
  | cons p t => simp [patAfter, segText] at h

theorem indexOf_go_shift (pat s : Bytes) (i : Nat) : indexOf.go pat s i = (indexOf.go pat s 0).map (i + ·) := by
  induction s generalizing i with
  | nil => simp only [indexOf.go]; split <;> simp
  | cons c t ih =>
    simp only [indexOf.go]
    split
    · simp
    · rw [ih (i + 1), ih (0 + 1)]
      cases indexOf.go pat t 0 <;> simp; omega

theorem indexOf_cons (pat : Bytes) (c : UInt8) (t : Bytes) :
    indexOf pat (c :: t) = if pat.isPrefixOf (c :: t) then some 0 else (indexOf pat t).map (· + 1) := by
  unfold indexOf
  rw [indexOf.go, indexOf_go_shift]
  simp [Nat.add_comm]

/-- a pattern does not start inside text free of its first byte -/
theorem indexOf_skip (c : UInt8) (pat a rest : Bytes) (h : c ∉ a) :
    indexOf (c :: pat) (a ++ rest) = (indexOf (c :: pat) rest).map (a.length + ·) := by
  induction a with
  | nil => simp
  | cons x a' ih =>
    simp only [List.mem_cons, not_or] at h
    rw [List.cons_append, indexOf_cons, List.isPrefixOf_cons_cons, beq_false_of_ne h.1, ih h.2]
    cases indexOf (c :: pat) rest <;> simp; omega

theorem indexOf_prefix (pat X : Bytes) (h : pat.isPrefixOf X = true) : indexOf pat X = some 0 := by
  cases X with
  | nil => cases pat <;> simp_all [indexOf, indexOf.go]
  | cons c t => rw [indexOf_cons, if_pos h]

theorem indexOf_sound (pat s : Bytes) (j : Nat) (h : indexOf pat s = some j) :
    s = s.take j ++ pat ++ s.drop (j + pat.length) := by
  induction s generalizing j with
  | nil => cases pat <;> simp_all [indexOf, indexOf.go]
  | cons c t ih =>
    rw [indexOf_cons] at h
    split at h
    · cases h; simpa using eq_append_of_isPrefixOf ‹_›
    · obtain ⟨j', hj', rfl⟩ := Option.map_eq_some_iff.mp h
      simpa [Nat.add_right_comm] using ih j' hj'

theorem indexOf_le (pat a b : Bytes) : ∃ j, j ≤ a.length ∧ indexOf pat (a ++ pat ++ b) = some j := by
  induction a with
  | nil => exact ⟨0, Nat.le_refl _, indexOf_prefix _ _ (by simp)⟩
  | cons c a' ih =>
    rw [List.cons_append, List.cons_append, indexOf_cons]
    split
    · exact ⟨0, Nat.zero_le _, rfl⟩
    · obtain ⟨j, hj, he⟩ := ih
      exact ⟨j + 1, Nat.succ_le_succ hj, by rw [he]; rfl⟩

theorem indexOf_single (c : UInt8) (a b : Bytes) (h : c ∉ a) : indexOf [c] (a ++ c :: b) = some a.length := by
  rw [indexOf_skip c [] a _ h, indexOf_prefix _ _ (by simp)]
  rfl

theorem indexOf_single_none (c : UInt8) (a : Bytes) (h : c ∉ a) : indexOf [c] a = none := by
  have := indexOf_skip c [] a [] h
  rwa [List.append_nil] at this

/-- the last pattern, static text only: `HasSuffix` -/
theorem decodeComposite_last (f : Nat) (name value st : Bytes) (hst : st.all notBrace = true) :
    decodeComposite (f + 1) name value st =
      some [(name, if hasSuffix value st then value.take (value.length - st.length) else [])] := by
  simp only [decodeComposite, indexOf_single_none lbrace st (not_mem_of_all hst rfl)]
  split <;> rfl

/-- a pattern `st {n1} rest`: the value is cut at the leftmost `st` -/
theorem decodeComposite_step (f : Nat) (name value st n1 rest : Bytes) (hst : st.all notBrace = true)
    (hn1 : n1.all notBrace = true) :
    decodeComposite (f + 1) name value (st ++ lbrace :: (n1 ++ rbrace :: rest)) =
      match indexOf st value with
      | some i => (decodeComposite f n1 (value.drop (i + st.length)) rest).map ((name, value.take i) :: ·)
      | none => (decodeComposite f n1 [] rest).map ((name, []) :: ·) := by
  have hleft : indexOf [lbrace] (st ++ lbrace :: (n1 ++ rbrace :: rest)) = some st.length :=
    indexOf_single lbrace st _ (not_mem_of_all hst rfl)
  have hright : indexOf [rbrace] (st ++ lbrace :: (n1 ++ rbrace :: rest)) = some (st.length + (n1.length + 1)) := by
    have := indexOf_single rbrace (st ++ lbrace :: n1) rest (by
      simp only [List.mem_append, List.mem_cons, not_or]
      exact ⟨not_mem_of_all hst rfl, by decide, not_mem_of_all hn1 rfl⟩)
    simpa using this
  have hlt : ¬ (st.length + (n1.length + 1) < st.length + 1) := by omega
  have hname : ((st ++ lbrace :: (n1 ++ rbrace :: rest)).drop (st.length + 1)).take
      (st.length + (n1.length + 1) - (st.length + 1)) = n1 := by
    have : st.length + (n1.length + 1) - (st.length + 1) = n1.length := by omega
    rw [this, show st ++ lbrace :: (n1 ++ rbrace :: rest) = (st ++ [lbrace]) ++ (n1 ++ rbrace :: rest) by simp,
      List.drop_left' (by simp), List.take_left' rfl]
  have hnext : (st ++ lbrace :: (n1 ++ rbrace :: rest)).drop (st.length + (n1.length + 1) + 1) = rest := by
    rw [show st ++ lbrace :: (n1 ++ rbrace :: rest) = (st ++ lbrace :: (n1 ++ [rbrace])) ++ rest by simp,
      List.drop_left' (by simp; omega)]
  rw [decodeComposite]
  simp only [hleft, hright, hlt, ↓reduceIte, List.take_left' rfl, hname, hnext]
  rfl

theorem decodeComposite_eq (r : List (Bytes × Bytes)) :
    ∀ (fuel : Nat) (n0 st0 t : Bytes), PhsWF ((n0, st0) :: r) → r.length < fuel →
      decodeComposite fuel n0 t (patAfter st0 r) =
        some ((((n0, st0) :: r).map (·.1)).zip (greedy ((n0, st0) :: r) t)) := by
  induction r with
  | nil =>
    intro fuel n0 st0 t hw hf
    cases fuel with
    | zero => omega
    | succ f =>
      rw [patAfter, segText, List.append_nil, decodeComposite_last _ _ _ _ (hw _ List.mem_cons_self).2]
      rfl
  | cons p r' ih =>
    intro fuel n0 st0 t hw hf
    obtain ⟨n1, st1⟩ := p
    cases fuel with
    | zero => omega
    | succ f =>
      have hw' : PhsWF ((n1, st1) :: r') := fun x hx => hw x (List.mem_cons_of_mem _ hx)
      have hf' : r'.length < f := by simp only [List.length_cons] at hf; omega
      show decodeComposite (f + 1) n0 t (st0 ++ lbrace :: (n1 ++ rbrace :: patAfter st1 r')) = _
      rw [decodeComposite_step _ _ _ _ _ _ (hw _ List.mem_cons_self).2 (hw' _ List.mem_cons_self).1]
      simp only [greedy]
      cases indexOf st0 t <;> simp [ih f n1 st1 _ hw' hf']

/-- the fuel `defaultRouter.Lookup` passes, the length of the pattern and two, is enough -/
theorem decodeComposite_patAfter (n0 st0 : Bytes) (r : List (Bytes × Bytes)) (t : Bytes)
    (hw : PhsWF ((n0, st0) :: r)) :
    decodeComposite ((patAfter st0 r).length + 2) n0 t (patAfter st0 r) =
      some ((((n0, st0) :: r).map (·.1)).zip (greedy ((n0, st0) :: r) t)) :=
  decodeComposite_eq r _ n0 st0 t hw (by
    have := segText_length r
    simp only [patAfter, List.length_append]; omega)

theorem mem_splitsAt (sep t v r : Bytes) : (v, r) ∈ splitsAt sep t ↔ t = v ++ sep ++ r := by
  induction t generalizing v with
  | nil => cases sep <;> simp [splitsAt, eq_comm]
  | cons c t ih =>
    simp only [splitsAt, List.mem_append, List.mem_map, Prod.mk.injEq, Prod.exists]
    cases v with
    | nil =>
      constructor
      · rintro (h | ⟨v', r', _, h, _⟩)
        · split at h
          · rename_i hp
            simp only [List.mem_singleton, Prod.mk.injEq, true_and] at h
            rw [h]; simpa using eq_append_of_isPrefixOf hp
          · cases h
        · cases h
      · intro he
        left
        rw [if_pos (by simp [he])]
        simp [he]
    | cons d v' =>
      simp only [List.cons_append, List.cons.injEq]
      constructor
      · rintro (h | ⟨v2, r2, hm, ⟨rfl, rfl⟩, rfl⟩)
        · split at h <;> simp at h
        · exact ⟨rfl, by simpa using (ih v2).mp hm⟩
      · rintro ⟨rfl, he⟩
        exact Or.inr ⟨v', r, (ih v').mpr (by simpa using he), ⟨rfl, rfl⟩, rfl⟩

theorem renderVals_cons_iff (n st : Bytes) (r : List (Bytes × Bytes)) (vs : List Bytes) (t : Bytes) :
    renderVals ((n, st) :: r) vs = some t ↔
      ∃ v vs' rest, vs = v :: vs' ∧ renderVals r vs' = some rest ∧ t = v ++ st ++ rest := by
  cases vs with
  | nil => simp [renderVals]
  | cons v vs' =>
    simp only [renderVals, Option.map_eq_some_iff, List.cons.injEq]
    constructor
    · rintro ⟨rest, h, rfl⟩; exact ⟨v, vs', rest, ⟨rfl, rfl⟩, h, rfl⟩
    · rintro ⟨v2, vs2, rest, ⟨rfl, rfl⟩, h, rfl⟩; exact ⟨rest, h, rfl⟩

theorem renderVals_nil_iff (us : List Bytes) (t : Bytes) : renderVals [] us = some t ↔ us = [] ∧ t = [] := by
  cases us <;> simp [renderVals, eq_comm]

/-- **the enumerator of the Spec is exact**: `allInst phs t` lists the value lists `vs` with
`t = v0 ++ st0 ++ v1 ++ st1 ++ … ++ vk ++ stk`, and nothing else -/
theorem mem_allInst (phs : List (Bytes × Bytes)) (t : Bytes) (vs : List Bytes) :
    vs ∈ allInst phs t ↔ renderVals phs vs = some t := by
  induction phs generalizing t vs with
  | nil => cases vs <;> cases t <;> simp [allInst, renderVals]
  | cons p r ih =>
    obtain ⟨n, st⟩ := p
    rw [renderVals_cons_iff]
    simp only [allInst, List.mem_flatMap, List.mem_map, Prod.exists]
    constructor
    · rintro ⟨v, t', hm, vs', hvs', rfl⟩
      exact ⟨v, vs', t', rfl, (ih t' vs').mp hvs', (mem_splitsAt st t v t').mp hm⟩
    · rintro ⟨v, vs', rest, rfl, hr, ht⟩
      exact ⟨v, rest, (mem_splitsAt st t v rest).mpr ht, vs', (ih rest vs').mpr hr, rfl⟩

/-- text in front of an instantiation goes into the first value -/
theorem renderVals_prepend (q : Bytes × Bytes) (r : List (Bytes × Bytes)) (us : List Bytes) (t w : Bytes)
    (h : renderVals (q :: r) us = some t) : ∃ us', renderVals (q :: r) us' = some (w ++ t) := by
  obtain ⟨n, st⟩ := q
  obtain ⟨v, vs', rest, rfl, hr, rfl⟩ := (renderVals_cons_iff n st r us t).mp h
  exact ⟨(w ++ v) :: vs', (renderVals_cons_iff n st r _ _).mpr ⟨w ++ v, vs', rest, rfl, hr, by simp⟩⟩

theorem greedy_complete (phs : List (Bytes × Bytes)) :
    ∀ (t : Bytes), (∃ us, renderVals phs us = some t) → renderVals phs (greedy phs t) = some t := by
  induction phs with
  | nil =>
    rintro t ⟨us, h⟩
    rw [((renderVals_nil_iff us t).mp h).2]
    rfl
  | cons p r ih =>
    rintro t ⟨us, h⟩
    obtain ⟨n, st⟩ := p
    obtain ⟨u, us', rest, rfl, hr, rfl⟩ := (renderVals_cons_iff n st r us t).mp h
    cases r with
    | nil =>
      obtain ⟨rfl, rfl⟩ := (renderVals_nil_iff us' rest).mp hr
      simp [greedy, hasSuffix, renderVals]
    | cons q r' =>
      obtain ⟨j, hj, hi⟩ := indexOf_le st u rest
      -- what is left after the leftmost separator still ends in `rest`
      obtain ⟨w, hw⟩ : rest <:+ (u ++ st ++ rest).drop (j + st.length) := by
        apply List.suffix_of_suffix_length_le (List.suffix_append _ _) (List.drop_suffix _ _)
        simp only [List.length_drop, List.length_append]; omega
      obtain ⟨us'', hus⟩ := renderVals_prepend q r' us' rest w hr
      simp only [greedy, hi]
      exact (renderVals_cons_iff n st (q :: r') _ _).mpr
        ⟨_, _, _, rfl, ih _ ⟨us'', hw ▸ hus⟩, indexOf_sound st _ j hi⟩

/-- in `u ++ st ++ rest` the separator `st` occurs at its designated place only -/
def OnlyAt (st u rest : Bytes) : Prop := ∀ a b, u ++ st ++ rest = a ++ st ++ b → a = u

/-- every separator between two placeholders occurs, in the text that remains from the value in
front of it on, at its designated place only.  (The text after the last placeholder is anchored
at the end of the segment: no condition.)  Adjacent placeholders (`st = []`) are outside. -/
def SepOnce : List (Bytes × Bytes) → List Bytes → Prop
  | (_, st) :: q :: r, u :: us =>
    (∃ rest, renderVals (q :: r) us = some rest ∧ OnlyAt st u rest) ∧ SepOnce (q :: r) us
  | _, _ => True

theorem unique_of_sepOnce (phs : List (Bytes × Bytes)) :
    ∀ (us : List Bytes) (t : Bytes), renderVals phs us = some t → SepOnce phs us →
      ∀ us', renderVals phs us' = some t → us' = us := by
  induction phs with
  | nil =>
    intro us t h _ us' h'
    rw [((renderVals_nil_iff us t).mp h).1, ((renderVals_nil_iff us' t).mp h').1]
  | cons p r ih =>
    intro us t h hs us' h'
    obtain ⟨n, st⟩ := p
    obtain ⟨u, us1, rest, rfl, hr, rfl⟩ := (renderVals_cons_iff n st r us t).mp h
    obtain ⟨u', us1', rest', rfl, hr', ht'⟩ := (renderVals_cons_iff n st r us' _).mp h'
    cases r with
    | nil =>
      -- the last placeholder: anchored at the end of the segment
      obtain ⟨rfl, rfl⟩ := (renderVals_nil_iff us1 rest).mp hr
      obtain ⟨rfl, rfl⟩ := (renderVals_nil_iff us1' rest').mp hr'
      simp only [List.append_nil, List.append_cancel_right_eq] at ht'
      rw [ht']
    | cons q r' =>
      obtain ⟨⟨rest0, hr0, honly⟩, hs'⟩ := hs
      obtain rfl : rest = rest0 := Option.some.inj (hr.symm.trans hr0)
      obtain rfl : u' = u := honly u' rest' ht'
      simp only [List.append_assoc, List.append_cancel_left_eq] at ht'
      subst ht'
      rw [ih us1 _ hr hs' us1' hr']

theorem onlyAt_single (c : UInt8) (u rest : Bytes) (hu : c ∉ u) (hr : c ∉ rest) : OnlyAt [c] u rest := by
  intro a b h
  induction u generalizing a with
  | nil =>
    cases a with
    | nil => rfl
    | cons x a' =>
      simp only [List.nil_append, List.cons_append, List.cons.injEq] at h
      exact absurd (by rw [h.2]; simp) hr
  | cons y u' ih =>
    cases a with
    | nil =>
      simp only [List.cons_append, List.nil_append, List.cons.injEq] at h
      exact absurd (h.1 ▸ List.mem_cons_self) hu
    | cons x a' =>
      simp only [List.cons_append, List.cons.injEq] at h
      rw [h.1, ih (fun hm => hu (List.mem_cons_of_mem _ hm)) a' (by simpa using h.2)]

theorem map_zip_decode (names : List Bytes) (vals : List Bytes) :
    (names.zip vals).map (fun kv => (kv.1, decode kv.2)) = names.zip (vals.map decode) := by
  induction names generalizing vals with
  | nil => rfl
  | cons n ns ih => cases vals <;> simp [ih]

/-- the test `x < len(pattern) && pattern[x] != '/'` of `defaultRouter.Lookup` -/
theorem lt_and_getElem?_ne (T : Bytes) (x : Nat) :
    (decide (x < T.length) && T[x]? != some slash) =
      match T.drop x with
      | c :: _ => c != slash
      | [] => false := by
  rw [← List.head?_drop]
  cases h : T.drop x with
  | nil => simp [List.drop_eq_nil_iff.mp h]
  | cons c t =>
    have : x < T.length := Nat.lt_of_not_le fun hle => by simp [List.drop_eq_nil_of_le hle] at h
    simp [this, bne]

/-- The call `defaultRouter.Lookup` makes for the captured text `raw` of a segment whose pattern is
`… {n0} st0 {n1} st1 … {nk} stk` inside the template `tmpl = A ++ {n0} ++ pattern ++ B`:
the raw text is split leftmost-first and every fragment is decoded.  Where nothing follows `{n0}`
in its segment the text is used directly, which is the same. -/
theorem paramsOf_at (A B n0 st0 : Bytes) (r : List (Bytes × Bytes)) (raw : Bytes)
    (hw : PhsWF ((n0, st0) :: r))
    (hidx : indexOf (needleOf n0) (A ++ needleOf n0 ++ patAfter st0 r ++ B) = some A.length)
    (hns : slash ∉ patAfter st0 r) (hB : B = [] ∨ ∃ B', B = slash :: B') :
    paramsOf (A ++ needleOf n0 ++ patAfter st0 r ++ B) n0 raw =
      some ((((n0, st0) :: r).map (·.1)).zip ((greedy ((n0, st0) :: r) raw).map decode)) := by
  have hdrop : (A ++ needleOf n0 ++ patAfter st0 r ++ B).drop (A.length + n0.length + 2) = patAfter st0 r ++ B := by
    rw [List.append_assoc (A ++ needleOf n0), List.drop_left' (by simp [needleOf]; omega)]
  unfold paramsOf
  simp only [show lbrace :: n0 ++ [rbrace] = needleOf n0 from rfl, hidx, lt_and_getElem?_ne, hdrop]
  cases hp : patAfter st0 r with
  | nil =>
    obtain ⟨rfl, rfl⟩ := patAfter_eq_nil hp
    rcases hB with rfl | ⟨B', rfl⟩ <;> simp [greedy, hasSuffix]
  | cons c pt =>
    have hc : (c != slash) = true := bne_iff_ne.mpr fun e => hns (by rw [hp, e]; exact List.mem_cons_self)
    simp only [List.cons_append, hc, ↓reduceIte]
    rw [← List.cons_append, ← hp, (span_noslash _ (fun c => bne_iff_ne) _ _ hns hB).1,
      decodeComposite_patAfter n0 st0 r raw hw]
    simp only [Option.map_some, map_zip_decode]

end RtVerif.C01
