import RtVerif.Lemmas.C03
/-
  Lemmas for the refinement theorem of C03: outside the recorded finding classes the model's `bind`
  produces what the Spec expects.
-/
namespace RtVerif.C03
open RtVerif Bytes

/-- a model item result and what the Spec expects of the item agree -/
def Agrees : ItemOut → Option Scalar → Prop
  | .ok v, some v' => v = v'
  | .err _, none => True
  | _, _ => False

theorem Agrees.inv {io : ItemOut} {os : Option Scalar} (h : Agrees io os) :
    (∃ v, io = .ok v ∧ os = some v) ∨ (∃ c, io = .err c ∧ os = none) := by
  cases io <;> cases os <;> cases h
  · exact .inl ⟨_, rfl, rfl⟩
  · exact .inr ⟨_, rfl, rfl⟩

theorem equalFold_comm (a b : Bytes) : equalFold a b = equalFold b a := BEq.comm

theorem lastOr_singleton (v : Bytes) : lastOr [v] = v := rfl

theorem lastOr_nil : lastOr [] = [] := rfl

/-- the Spec's comparison of the declared name with the key sent -/
def sameName (d : Decl) (r : Req) : Bool :=
  match d.loc with
  | .header => equalFold d.name r.key
  | _ => d.name == r.key

theorem specTexts_eq (d : Decl) (r : Req) :
    specTexts d r = r.values.bind fun vs => if sameName d r then some vs else none := by
  unfold specTexts
  cases r.values <;> rfl

theorem key_match (d : Decl) (r : Req) (hn : d.loc = .header → d.name.all isTokenChar = true)
    (hk : d.loc = .header → r.key.all isTokenChar = true) :
    (storedKey d.loc r.key == lookupKey d.loc d.name) = sameName d r := by
  unfold sameName
  cases hl : d.loc
  case header =>
    have hfact : Facts.c03HeaderLookupCanonical = true := by decide
    simp only [storedKey, lookupKey, hfact, if_true]
    rw [Bool.eq_iff_iff, beq_iff_eq, equalFold_comm]
    exact canonHeader_eq_iff _ _ (hk hl) (hn hl)
  all_goals exact BEq.comm

/-- what `GetOK` returns is what the Spec calls "the texts sent for the parameter" -/
theorem getOK_spec (d : Decl) (r : Req) (hd : d.wf = true) (hr : Req.wf d r = true) :
    (getOK d r).1 = (specTexts d r).getD [] ∧ (getOK d r).2.1 = (specTexts d r).isSome ∧
    ((getOK d r).2.2 = false → lastOr (getOK d r).1 = []) := by
  simp only [Req.wf, Decl.wf, Bool.and_eq_true] at hr hd
  have hkey := key_match d r (fun hl => by simpa [hl] using hd.1.2) (fun hl => by simpa [hl] using hr.2)
  clear hd
  rw [specTexts_eq]
  cases hv : r.values with
  | none => simp [getOK, hv, lastOr]
  | some vs =>
    rw [hv] at hr
    simp only [getOK, hv, hkey, Option.bind_some]
    cases sameName d r
    · exact ⟨rfl, rfl, fun _ => rfl⟩
    · have hlast : ∀ l : List Bytes, (!l.isEmpty) = false → lastOr l = [] := by
        intro l h
        cases l
        · rfl
        · cases h
      cases hl : d.loc
      case path =>
        -- a route holds exactly one value per name
        match vs with
        | [] => simp at hr
        | [v] => exact ⟨rfl, rfl, fun h => show v = [] by simpa using h⟩
        | _ :: _ :: _ => simp [hl] at hr
      all_goals exact ⟨rfl, rfl, hlast vs⟩

/-- the kinds `specSKind` can return -/
inductive SpecKindCase (ext : Option Ext) : SKind → Prop where
  | bool : SpecKindCase ext .bool
  | int (w : Nat) : (w = 8 ∨ w = 16 ∨ w = 32 ∨ w = 64) → SpecKindCase ext (.int w)
  | float (w : Nat) : (w = 32 ∨ w = 64) → SpecKindCase ext (.float w)
  | str : SpecKindCase ext .str
  | reg (e : Ext) : ext = some e → SpecKindCase ext (.reg e.named e.goName)

theorem specSKind_inv {ext : Option Ext} {ty fmt : String} {k : SKind} (h : specSKind ext ty fmt = some k) :
    (ty = "boolean" ∧ k = .bool) ∨ (ty = "integer" ∧ k = .int (widthOf fmt)) ∨
    (ty = "number" ∧ k = .float (if fmt == "float" then 32 else 64)) ∨
    (ty = "string" ∧ ((ext = none ∧ k = .str) ∨ ∃ e, ext = some e ∧ k = .reg e.named e.goName)) := by
  unfold specSKind at h
  by_cases h1 : ty = "boolean"
  · rw [if_pos (beq_iff_eq.2 h1)] at h
    exact .inl ⟨h1, (Option.some.inj h).symm⟩
  rw [if_neg (mt beq_iff_eq.1 h1)] at h
  by_cases h2 : ty = "integer"
  · rw [if_pos (beq_iff_eq.2 h2), widthOf_beq] at h
    exact .inr (.inl ⟨h2, (Option.some.inj h).symm⟩)
  rw [if_neg (mt beq_iff_eq.1 h2)] at h
  by_cases h3 : ty = "number"
  · rw [if_pos (beq_iff_eq.2 h3)] at h
    exact .inr (.inr (.inl ⟨h3, (Option.some.inj h).symm⟩))
  rw [if_neg (mt beq_iff_eq.1 h3)] at h
  by_cases h4 : ty = "string"
  · rw [if_pos (beq_iff_eq.2 h4)] at h
    refine .inr (.inr (.inr ⟨h4, ?_⟩))
    cases ext
    · exact .inl ⟨rfl, (Option.some.inj h).symm⟩
    · exact .inr ⟨_, rfl, (Option.some.inj h).symm⟩
  · rw [if_neg (mt beq_iff_eq.1 h4)] at h
    cases h

theorem specSKind_cases (ext : Option Ext) (ty fmt : String) (k : SKind)
    (h : specSKind ext ty fmt = some k) : SpecKindCase ext k := by
  obtain ⟨_, rfl⟩ | ⟨_, rfl⟩ | ⟨_, rfl⟩ | ⟨_, ⟨_, rfl⟩ | ⟨e, he, rfl⟩⟩ := specSKind_inv h
  · exact .bool
  · exact .int _ (widthOf_mem fmt)
  · exact .float _ (by split <;> simp)
  · exact .str
  · exact .reg e he

theorem SpecKindCase.usable {ext : Option Ext} {k : SKind} (h : SpecKindCase ext k) :
    (!k.handled && !k.isReg) = false := by
  cases h with
  | bool => decide
  | int w hw => rcases hw with rfl | rfl | rfl | rfl <;> decide
  | float w hw => rcases hw with rfl | rfl <;> decide
  | str => decide
  | reg e _ => simp [SKind.isReg]

theorem convertInt_agrees (w : Nat) (hw : w ≤ 64) (t : Bytes) :
    Agrees (convertInt w t) (specLiteral none (.int w) t) := by
  rw [convertInt_eq w hw t]
  simp only [specLiteral]
  cases intLit? t with
  | none => trivial
  | some v =>
    show Agrees (if Num.fitsInt w v then _ else _) (if Num.fitsInt w v then _ else _)
    split <;> trivial

theorem convertFloat_agrees (w : Nat) (t : Bytes) : Agrees (convertFloat w t) (specFloat w t) := by
  unfold convertFloat specFloat
  cases parseFloatFor w t <;> trivial

theorem unmarshalReg_agrees (ext : Option Ext) (n : String) (t : Bytes) :
    Agrees (unmarshalReg ext n t) (specLiteral ext (.reg true n) t) := by
  unfold unmarshalReg specLiteral
  cases extLookup ext t with
  | none => trivial
  | some p =>
    obtain ⟨res, ok⟩ := p
    cases res <;> trivial

/-- outside the recorded finding classes a non-empty text converts to what it denotes -/
theorem convertText_agrees (ext : Option Ext) (k : SKind) (t : Bytes) (hk : SpecKindCase ext k)
    (hne : t.isEmpty = false) (hkn : textKnown k t = none) :
    Agrees (convertText ext k t) (specLiteral ext k t) := by
  cases hk with
  | bool =>
    simp only [convertText, specLiteral, convertBool]
    cases ht : trueSet.contains (toLower t)
    · cases hf : falseSet.contains (toLower t)
      · simp only [textKnown, hne, ht, hf] at hkn
        simp at hkn
      · exact rfl
    · exact rfl
  | int w hw => exact convertInt_agrees w (widths_le hw).2 t
  | float w hw =>
    simp only [convertText, specLiteral]
    cases hd : isDecimalLit t
    · -- no decimal literal: the accept set of `ParseFloat` must reject it too
      cases hp : parseFloatFor w t
      · simp only [textKnown, hne, hd, floatAccepts, hp] at hkn
        simp at hkn
      · simp [convertFloat, hp, Agrees]
    · exact convertFloat_agrees w t
  | str => exact rfl
  | reg e he => exact unmarshalReg_agrees ext _ t

theorem defaultScalar_agrees (ext : Option Ext) (k : SKind) (dv : DefScalar) :
    Agrees (defaultScalar ext k dv) (specDefaultScalar ext k dv) := by
  cases k <;> cases dv <;> first
    | trivial
    | exact convertFloat_agrees _ _
    | exact unmarshalReg_agrees ext _ _

/-- the required-string rule of the validator fires on the value -/
def ruleOn (d : Decl) : Scalar → Bool
  | .str s => strRule d s
  | .reg _ r => isNamed d.ext && strRule d r
  | _ => false

theorem okFor_value_self (v : Val) : okFor (.value v) (.value v) = true := by simp [okFor]

theorem okFor_step (e : Option Nat) (v : Val) :
    okFor (if e.isSome = true then .reject else .value v)
      (match e with | some c => .e422 c | none => .value v) = true := by
  cases e <;> simp [okFor, isE422]

theorem validated_ok (d : Decl) (v : Val) (h : (validate d v).isSome = violates d v) :
    okFor (specValue d v) (validated d (.value v)) = true := by
  unfold specValue validated
  rw [← h]
  exact okFor_step _ _

theorem validate_scalar_isSome (d : Decl) (v : Scalar) (hrule : ruleOn d v = false) :
    (validate d (.scalar v)).isSome = violates d (.scalar v) := by
  unfold violates
  cases v with
  | str s => simp_all [ruleOn, validate, formatInvalid]
  | reg n r =>
    simp only [ruleOn] at hrule
    simp only [validate, hrule, Bool.false_eq_true, if_false, formatInvalid, validateScalar]
    cases formatRejects d.ext r <;> rfl
  | _ => simp [validate, formatInvalid]

theorem validated_scalar (d : Decl) (v : Scalar) (hrule : ruleOn d v = false) :
    okFor (specValue d (.scalar v)) (validated d (.value (.scalar v))) = true :=
  validated_ok d _ (validate_scalar_isSome d v hrule)

theorem validated_list (d : Decl) (tag : String) (vs : List Scalar) :
    okFor (specValue d (.list tag vs)) (validated d (.value (.list tag vs))) = true :=
  validated_ok d _ rfl

theorem okFor_either_of_specValue (d : Decl) (v : Val) (out : BindOut)
    (h : okFor (specValue d v) out = true) : okFor (.either v) out = true := by
  unfold specValue at h
  cases out <;> split at h <;> simp_all [okFor, isE422]

theorem okFor_reject (o : BindOut) : okFor .reject o = isE422 o := by
  cases o <;> rfl

theorem validated_e422 (d : Decl) (c : Nat) : validated d (.e422 c) = .e422 c := rfl

def extOk (ext : Option Ext) : Bool :=
  match ext with
  | some e => e.wf
  | none => true

theorem extLookup_some (e : Ext) (t : Bytes) :
    extLookup (some e) t = (e.graph.find? (fun g => g.1 == t)).map (·.2) := rfl

theorem ext_empty (e : Ext) (hw : e.wf = true) : ∃ r0 ok, extLookup (some e) [] = some (some r0, ok) := by
  simp only [Ext.wf, Bool.and_eq_true] at hw
  obtain ⟨h, _⟩ := hw
  split at h
  · rename_i hf
    exact ⟨_, _, by rw [extLookup_some, hf]; rfl⟩
  · cases h

theorem named_rendering (e : Ext) (hw : e.wf = true) (hn : e.named = true) (t r : Bytes) (ok : Bool)
    (h : extLookup (some e) t = some (some r, ok)) : r = t := by
  simp only [Ext.wf, Bool.and_eq_true, hn, Bool.not_true, Bool.false_or, List.all_eq_true] at hw
  obtain ⟨⟨gt, gres, gok⟩, hf, hg⟩ := Option.map_eq_some_iff.1 h
  have hmem := hw.2 _ (List.mem_of_find?_eq_some hf)
  have hp := List.find?_some hf
  cases hg
  simp only [beq_iff_eq] at hmem hp
  rw [hmem, hp]

theorem emptyNoDefault_spec (ext : Option Ext) (k : SKind) (hk : SpecKindCase ext k) (hext : extOk ext = true) :
    emptyNoDefault ext k = .ok (specZero ext k) := by
  cases hk with
  | reg e he =>
    subst he
    obtain ⟨r0, ok, h0⟩ := ext_empty e hext
    simp [emptyNoDefault, specZero, unmarshalReg, h0]
  | _ => rfl

theorem strRule_nonempty (d : Decl) (t : Bytes) (h : t.isEmpty = false) : strRule d t = false := by
  simp [strRule, h]

theorem ruleOn_text (d : Decl) (k : SKind) (t : Bytes) (v : Scalar) (hk : SpecKindCase d.ext k)
    (hext : extOk d.ext = true) (hne : t.isEmpty = false) (hs : specLiteral d.ext k t = some v) :
    ruleOn d v = false := by
  cases hk with
  | str =>
    cases hs
    exact strRule_nonempty d t hne
  | reg e he =>
    simp only [specLiteral] at hs
    split at hs <;> cases hs
    rename_i r ok hl
    simp only [ruleOn, isNamed, he]
    cases hn : e.named with
    | false => rfl
    | true =>
      -- a named string type renders as the text it was given, and that text is not empty
      rw [he] at hl hext
      rw [named_rendering e hext hn t r ok hl]
      exact strRule_nonempty d _ hne
  | _ =>
    simp only [specLiteral, specFloat] at hs
    repeat' split at hs
    all_goals cases hs
    all_goals rfl

theorem ruleOn_zero (d : Decl) (hasKey : Bool) (hd : d.default = none)
    (hreq : requiredFails d hasKey [] = false) (v : Scalar) : ruleOn d v = false := by
  have key : ∀ s, strRule d s = false := by
    intro s
    simp only [requiredFails, hd, Option.isNone_none, Bool.and_true, List.isEmpty_nil] at hreq
    simp only [strRule, hd]
    cases h1 : d.required <;> cases h2 : d.allowEmpty <;> cases hasKey <;> simp_all
  cases v <;> simp [ruleOn, key]

theorem requiredFails_empty (d : Decl) (hasKey : Bool) (hd : d.default = none) :
    requiredFails d hasKey [] = (d.required && !(hasKey && d.allowEmpty)) := by
  simp only [requiredFails, hd, Option.isNone_none, Bool.and_true, List.isEmpty_nil]
  cases d.required <;> cases hasKey <;> cases d.allowEmpty <;> rfl

theorem sliceRequiredFails_nil (d : Decl) (hasKey : Bool) :
    sliceRequiredFails d hasKey [] = requiredFails d hasKey [] := by
  simp [sliceRequiredFails, requiredFails]

/-- **absent or empty.** The outcome `out` for a parameter without text, against `specAbsent`: a 422 when the
required test fails, else what the zero value yields; with a declared default, what the default yields (R7: or a
422, when the default is the empty string of a required parameter). -/
theorem absent_ok (d : Decl) (hasKey : Bool) (zero : Val) (dflt : Option Val) (out : BindOut)
    (hreq : d.default = none → requiredFails d hasKey [] = true → isE422 out = true)
    (hzero : d.default = none → requiredFails d hasKey [] = false → okFor (specValue d zero) out = true)
    (hdflt : ∀ x, d.default = some x → match dflt with
      | some v => okFor (specValue d v) out = true ∨ (emptyDefaultConflict d = true ∧ isE422 out = true)
      | none => isE422 out = true) :
    okFor (specAbsent d hasKey dflt zero) out = true := by
  have e422 : isE422 out = true → ∃ c, out = .e422 c := fun h => by
    cases out <;> first | exact ⟨_, rfl⟩ | cases h
  cases hd : d.default with
  | none =>
    have hr := requiredFails_empty d hasKey hd
    cases hf : requiredFails d hasKey []
    · have hok := hzero hd hf
      have he := okFor_either_of_specValue d zero out hok
      rw [hf] at hr
      unfold specValue at hok
      simp only [specAbsent, hd, ← hr, Bool.false_eq_true, if_false]
      cases d.required
      · cases hv : violates d zero
        · simpa [hv] using hok
        · simpa using he
      · simpa using hok
    · obtain ⟨c, rfl⟩ := e422 (hreq hd hf)
      rw [hf] at hr
      simp only [specAbsent, hd, ← hr, if_true]
      rfl
  | some x =>
    have h := hdflt x hd
    cases dflt with
    | none =>
      obtain ⟨c, rfl⟩ := e422 h
      simp [specAbsent, hd, okFor]
    | some v =>
      simp only [specAbsent, hd]
      split
      · rcases h with h | ⟨_, h⟩
        · exact okFor_either_of_specValue d v out h
        · obtain ⟨c, rfl⟩ := e422 h
          simp [okFor, isE422]
      · rcases h with h | ⟨h, _⟩
        · exact h
        · contradiction

/-- a conversion and what it should yield, for one kind -/
structure Conv where
  conv : Bytes → ItemOut
  lit : Bytes → Option Scalar
  dconv : DefScalar → ItemOut
  dlit : DefScalar → Option Scalar
  zero : Scalar

/-- `setFieldValue` for a usable kind, seen through its conversions -/
def Conv.set (c : Conv) (d : Decl) (dflt : Option DefScalar) (text : Bytes) (hasKey : Bool) : ItemOut :=
  if requiredFails d hasKey text then .err 602
  else if text.isEmpty then (match dflt with | some dv => c.dconv dv | none => .ok c.zero)
  else c.conv text

def Conv.dfltVal (c : Conv) (d : Decl) : Option Val :=
  match d.default with
  | some (.scalar dv) => (c.dlit dv).map .scalar
  | _ => none

/-- `specScalar`, seen through the denotations -/
def Conv.spec (c : Conv) (d : Decl) (texts : Option (List Bytes)) : Expect :=
  if (lastOr (texts.getD [])).isEmpty then
    specAbsent d texts.isSome (c.dfltVal d) (.scalar c.zero)
  else
    match c.lit (lastOr (texts.getD [])) with
    | none => .reject
    | some v => specValue d (.scalar v)

theorem ruleOn_strRule (d : Decl) (v : Scalar) (h : ruleOn d v = true) : ∃ s, strRule d s = true := by
  cases v <;> simp only [ruleOn, Bool.and_eq_true, Bool.false_eq_true] at h
  · exact ⟨_, h⟩
  · exact ⟨_, h.2⟩

theorem validate_rule (d : Decl) (v : Scalar) (h : ruleOn d v = true) : validate d (.scalar v) = some 602 := by
  cases v <;> simp_all [ruleOn, validate]

theorem lastOr_none_empty (texts : Option (List Bytes)) (h : (lastOr (texts.getD [])).isEmpty = false) :
    texts.isSome = true := by
  cases texts with
  | none => cases h
  | some _ => rfl

/-- the scalar case of the refinement, for any conversions that agree with their denotations -/
theorem Conv.main (c : Conv) (d : Decl) (texts : Option (List Bytes))
    (hdef : d.default = none ∨ ∃ dv, d.default = some (.scalar dv))
    (hconv : (lastOr (texts.getD [])).isEmpty = false →
      Agrees (c.conv (lastOr (texts.getD []))) (c.lit (lastOr (texts.getD []))))
    (hd : ∀ dv, d.default = some (.scalar dv) → Agrees (c.dconv dv) (c.dlit dv))
    (hrt : ∀ v, (lastOr (texts.getD [])).isEmpty = false → c.lit (lastOr (texts.getD [])) = some v → ruleOn d v = false)
    (hrz : d.default = none → requiredFails d texts.isSome [] = false → ruleOn d c.zero = false) :
    okFor (c.spec d texts)
      (validated d (itemOut (c.set d (scalarDefault d) (lastOr (texts.getD [])) texts.isSome))) = true := by
  unfold Conv.spec Conv.set
  cases hte : (lastOr (texts.getD [])).isEmpty
  · have hreq : requiredFails d true (lastOr (texts.getD [])) = false := by simp [requiredFails, hte]
    simp only [Bool.false_eq_true, if_false, lastOr_none_empty texts hte, hreq]
    rcases (hconv hte).inv with ⟨v, hm, hs⟩ | ⟨e, hm, hs⟩
    · rw [hm, hs]
      exact validated_scalar d v (hrt v hte hs)
    · rw [hm, hs]
      rfl
  · rw [List.isEmpty_iff.1 hte]
    simp only [if_true]
    refine absent_ok d _ _ _ _ (fun _ hreq => ?_) (fun hd0 hreq => ?_) fun x hx => ?_
    · simp [hreq, itemOut, validated, isE422]
    · simp only [hreq, Bool.false_eq_true, if_false, scalarDefault, hd0, itemOut]
      exact validated_scalar d _ (hrz hd0 hreq)
    · obtain ⟨dv, hd0⟩ := hdef.resolve_left (by simp [hx])
      have hreq : requiredFails d texts.isSome [] = false := by simp [requiredFails, hd0]
      simp only [hreq, Bool.false_eq_true, if_false, scalarDefault, Conv.dfltVal, hd0]
      rcases (hd dv hd0).inv with ⟨v, hm, hs⟩ | ⟨e, hm, hs⟩ <;> rw [hm, hs]
      · cases hrule : ruleOn d v
        · exact .inl (validated_scalar d v hrule)
        · -- the rule fires on the default: it is the empty string of a required parameter (R7)
          obtain ⟨s, hs'⟩ := ruleOn_strRule d v hrule
          simp only [strRule, hd0, Option.isNone_some, Bool.false_or, Bool.and_eq_true] at hs'
          refine .inr ⟨?_, ?_⟩
          · simp only [emptyDefaultConflict, hd0, Bool.and_eq_true]
            exact ⟨hs'.1.1, hs'.1.2⟩
          · simp [validated, itemOut, validate_rule d v hrule, isE422]
      · rfl

/-- the map target: `setFieldValue` of a declared kind through its conversions -/
def convMap (ext : Option Ext) (k : SKind) : Conv :=
  { conv := convertText ext k, lit := specLiteral ext k, dconv := defaultScalar ext k,
    dlit := specDefaultScalar ext k, zero := specZero ext k }

theorem scalar_main (d : Decl) (k : SKind) (texts : Option (List Bytes))
    (hk : SpecKindCase d.ext k) (hext : extOk d.ext = true)
    (hdef : d.default = none ∨ ∃ dv, d.default = some (.scalar dv))
    (hkn : textKnown k (lastOr (texts.getD [])) = none) :
    okFor (specScalar d texts k)
      (validated d (itemOut (setFieldValue d k (scalarDefault d) (lastOr (texts.getD [])) texts.isSome))) = true := by
  have hset : ∀ dflt t hasKey, setFieldValue d k dflt t hasKey = (convMap d.ext k).set d dflt t hasKey := by
    intro dflt t hasKey
    simp only [setFieldValue, hk.usable, emptyValue, emptyNoDefault_spec d.ext k hk hext, Conv.set, convMap]
    rfl
  rw [hset]
  exact Conv.main (convMap d.ext k) d texts hdef (fun hne => convertText_agrees d.ext k _ hk hne hkn)
    (fun dv _ => defaultScalar_agrees d.ext k dv) (fun v hne hs => ruleOn_text d k _ v hk hext hne hs)
    (fun hd0 hreq => ruleOn_zero d _ hd0 hreq _)

theorem setFieldValue_text (d : Decl) (k : SKind) (dv : Option DefScalar) (t : Bytes)
    (huse : (!k.handled && !k.isReg) = false) (hne : t ≠ []) :
    setFieldValue d k dv t true = convertText d.ext k t := by
  simp [setFieldValue, requiredFails, List.isEmpty_eq_false_iff.2 hne, huse]

theorem splitByFormat_eq (data : Bytes) (cf : String) :
    splitByFormat data cf =
      match sepOf cf with
      | some sep => if data = [] then [] else ((splitByte sep data).map trimSpace).filter (fun x => !x.isEmpty)
      | none => [] := by
  unfold splitByFormat
  cases data <;> cases sepOf cf <;> simp [splitLoop_eq]

theorem sepOf_not_multi (cf : String) (h : (cf == "multi") = false) : ∃ sep, sepOf cf = some sep := by
  unfold sepOf
  rw [h]
  cases cf == "ssv" <;> cases cf == "tsv" <;> cases cf == "pipes" <;> exact ⟨_, rfl⟩

theorem split_empty_text (sep : UInt8) :
    ((splitByte sep []).map trimSpace).filter (fun x => !x.isEmpty) = [] := by
  simp [splitByte, trimSpace, trimLeft]

theorem specItems_split (d : Decl) (texts : Option (List Bytes)) (hm : (d.cf == "multi") = false) :
    specItems d texts = splitByFormat (lastOr (texts.getD [])) d.cf := by
  obtain ⟨sep, hsep⟩ := sepOf_not_multi d.cf hm
  rw [splitByFormat_eq]
  simp only [specItems, hm, Bool.false_eq_true, if_false, hsep]
  split
  · rename_i hl
    rw [hl]
    exact (split_empty_text sep).symm
  · rfl

theorem specKind_inv {d : Decl} {K : Kind} (h : specKind d = some K) :
    match K with
    | .scalar k => (d.ty == "array") = false ∧ specSKind d.ext d.ty d.format = some k
    | .slice k => (d.ty == "array") = true ∧ specSKind d.ext d.itemsTy d.itemsFormat = some k := by
  unfold specKind at h
  split at h <;> obtain ⟨k, hk, rfl⟩ := Option.map_eq_some_iff.1 h
  · exact ⟨‹_›, hk⟩
  · exact ⟨Bool.eq_false_iff.2 ‹_›, hk⟩

end RtVerif.C03
