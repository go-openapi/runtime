import RtVerif.Model.C11
import RtVerif.Lemmas.GoPath
namespace RtVerif.C11
open RtVerif Bytes

theorem readSize_bounds (chunk room len : Nat) (hr : 0 < room) (hl : 0 < len) :
    0 < readSize chunk room len ∧ readSize chunk room len ≤ room ∧ readSize chunk room len ≤ len := by
  by_cases h : chunk = 0 <;> simp [readSize, h] <;> omega

theorem readFull_spec (chunk : Nat) :
    ∀ fuel want c, want ≤ fuel → readFull chunk fuel want c = (c.take want, c.drop want) := by
  intro fuel
  induction fuel with
  | zero => intro want c h; simp [Nat.le_zero.mp h, readFull]
  | succ fuel ih =>
    intro want c h
    cases want with
    | zero => simp [readFull]
    | succ want =>
      cases c with
      | nil => simp [readFull]
      | cons b c =>
        -- one `Read` delivers between 1 and `want + 1` bytes; the rest is read with less fuel
        obtain ⟨h1, h2, h3⟩ := readSize_bounds chunk (want + 1) (b :: c).length (by omega) (by simp)
        simp only [readFull, List.isEmpty_cons, Bool.false_eq_true, ↓reduceIte]
        generalize readSize chunk (want + 1) (b :: c).length = k at h1 h2 h3
        rw [ih (want + 1 - k) _ (by omega), List.drop_drop, ← List.take_add, Nat.add_sub_cancel' h2]

theorem getBodies_plain (k : Nat) (st : St) :
    getBodies false k st = some (st, List.replicate k st.buf) := by
  induction k with
  | zero => rfl
  | succ k ih => simp [getBodies, getBody, ih, List.replicate_succ]

theorem getBodies_copied (ov : Bool) (k : Nat) (st : St) (h : st.copied = true) :
    getBodies ov k st = some (st, List.replicate k st.buf) := by
  induction k with
  | zero => rfl
  | succ k ih => cases ov <;> simp [getBodies, getBody, ih, h, List.replicate_succ]

theorem getBodies_stream (k : Nat) (buf c : Bytes) (cl : Bool) :
    getBodies true (k + 1) { buf := buf, body := .stream c cl } =
      some ({ buf := buf ++ c, body := .buffer, copied := true, closed := cl },
        List.replicate (k + 1) (buf ++ c)) := by
  simp [getBodies, getBody, getBodies_copied, List.replicate_succ]

theorem getBodies_deadPipe (k : Nat) (buf : Bytes) :
    getBodies true (k + 1) { buf := buf, body := .deadPipe } = none := by
  simp [getBodies, getBody]

/-- The unreachable branches of `getBody`: the override is installed only over a stream or a pipe. -/
theorem getBody_unreachable (b : Body) (h : overrideInstalled b = true) : b ≠ .buffer ∧ b ≠ .nobody := by
  cases b <;> simp [overrideInstalled] at h ⊢

theorem bytesLe_refl : ∀ a : Bytes, bytesLe a a = true
  | [] => rfl
  | x :: xs => by simp [bytesLe, UInt8.lt_irrefl x, bytesLe_refl xs]

theorem filter_insertKV (k : Bytes) (x : Bytes × List Bytes) (l : List (Bytes × List Bytes)) :
    (insertKV x l).filter (·.1 == k) = ([x] ++ l).filter (·.1 == k) := by
  induction l with
  | nil => rfl
  | cons y ys ih =>
    unfold insertKV
    split
    · rfl
    · -- `y` is passed over, so its key is not `x`'s
      have hxy : ¬(x.1 = k ∧ y.1 = k) := fun ⟨hx, hy⟩ =>
        ‹¬_› (by rw [hx, hy]; exact bytesLe_refl k)
      simp only [List.filter_cons, ih, List.cons_append, List.nil_append]
      by_cases hx : x.1 = k <;> by_cases hy : y.1 = k <;> simp_all

theorem filter_sortKV (k : Bytes) (l : List (Bytes × List Bytes)) :
    (sortKV l).filter (·.1 == k) = l.filter (·.1 == k) := by
  induction l with
  | nil => rfl
  | cons x xs ih =>
    have : sortKV (x :: xs) = insertKV x (sortKV xs) := rfl
    rw [this, filter_insertKV]
    simp only [List.cons_append, List.nil_append, List.filter_cons, ih]

theorem fieldValues_sortKV (k : Bytes) (l : List (Bytes × List Bytes)) :
    fieldValues (sortKV l) k = fieldValues l k := by
  unfold fieldValues; rw [filter_sortKV]

def pairsOf (l : List (Bytes × List Bytes)) : List (Bytes × Bytes) :=
  l.flatMap fun kv => kv.2.map fun v => (kv.1, v)

theorem valuesOf_pairsOf (k : Bytes) (l : List (Bytes × List Bytes)) :
    valuesOf (pairsOf l) k = fieldValues l k := by
  induction l with
  | nil => rfl
  | cons x xs ih =>
    have h1 : pairsOf (x :: xs) = x.2.map (fun v => (x.1, v)) ++ pairsOf xs := by simp [pairsOf]
    unfold valuesOf at ih ⊢
    rw [h1, List.filter_append, List.map_append, ih]
    unfold fieldValues
    by_cases hx : (x.1 == k) = true
    · simp [hx, List.filter_map, Function.comp_def]
    · have hx' : (x.1 == k) = false := by simpa using hx
      simp [hx', List.filter_map, Function.comp_def]

theorem formSegs_eq (l : List (Bytes × List Bytes)) :
    formSegs l = (pairsOf l).map fun p => formSeg p.1 p.2 := by
  simp [formSegs, pairsOf, List.map_flatMap, Function.comp_def]

/-- apart from its `=`, a segment holds only bytes of escaped text: no `&`, no `;` -/
theorem not_mem_formSeg {c : UInt8} (hc : GoURL.isSafe true c = false) (hne : c ≠ 61) (k v : Bytes) :
    c ∉ formSeg k v := by
  simp [formSeg, hne, GoURL.queryEscape, GoURL.not_mem_escape hc]

theorem cutEq_append (a b : Bytes) (h : 61 ∉ a) : cutEq (a ++ 61 :: b) = (a, b) := by
  induction a with
  | nil => simp [cutEq]
  | cons x xs ih =>
    simp only [List.mem_cons, not_or] at h
    simp [cutEq, Ne.symm h.1, ih h.2]

theorem parseSeg_formSeg (k v : Bytes) : parseSeg (formSeg k v) = some (k, v) := by
  have h59 : (formSeg k v).contains 59 = false :=
    List.any_eq_false.mpr fun c hc e =>
      not_mem_formSeg (c := 59) (by decide) (by decide) k v (beq_iff_eq.mp e ▸ hc)
  have hcut : cutEq (formSeg k v) = (GoURL.queryEscape k, GoURL.queryEscape v) :=
    cutEq_append _ _ (GoURL.not_mem_escape (by decide) k)
  simp [parseSeg, h59, hcut, GoURL.queryUnescape, GoURL.queryEscape, GoURL.unescape_escape]

theorem splitByte_ne_nil (c : UInt8) (s : Bytes) : splitByte c s ≠ [] := by
  induction s with
  | nil => simp [splitByte]
  | cons b r ih =>
    unfold splitByte
    split
    · simp
    · split <;> simp

theorem splitByte_append {c : UInt8} {a rest h : Bytes} {t : List Bytes} (ha : c ∉ a)
    (hr : splitByte c rest = h :: t) : splitByte c (a ++ rest) = (a ++ h) :: t := by
  induction a with
  | nil => exact hr
  | cons x a ih =>
    simp only [List.mem_cons, not_or] at ha
    simp [splitByte, ih ha.2, Ne.symm ha.1]

theorem splitByte_sep (c : UInt8) (b : Bytes) : splitByte c (c :: b) = [] :: splitByte c b := by
  cases h : splitByte c b with
  | nil => exact absurd h (splitByte_ne_nil c b)
  | cons x xs => simp [splitByte, h]

theorem splitByte_joinAmp (s : Bytes) (t : List Bytes) (h : ∀ x ∈ s :: t, 38 ∉ x) :
    splitByte 38 (joinAmp (s :: t)) = s :: t := by
  induction t generalizing s with
  | nil => simpa [joinAmp] using splitByte_append (h s (by simp)) (rfl : splitByte 38 [] = [[]])
  | cons u w ih =>
    have := ih u fun x hx => h x (List.mem_cons_of_mem _ hx)
    simpa [joinAmp] using splitByte_append (h s (by simp)) ((splitByte_sep 38 _).trans (congrArg _ this))

theorem split_joinAmp (segs : List Bytes) (h : ∀ s ∈ segs, 38 ∉ s ∧ s.isEmpty = false) :
    (splitByte 38 (joinAmp segs)).filter (fun s => !s.isEmpty) = segs := by
  cases segs with
  | nil => rfl
  | cons s t =>
    rw [splitByte_joinAmp s t fun x hx => (h x hx).1]
    exact List.filter_eq_self.mpr fun x hx => by simp [(h x hx).2]

/-- `url.ParseQuery (Values.Encode fields)` succeeds and yields the pairs of the sorted form. -/
theorem parseQuery_encodeForm (fields : List (Bytes × List Bytes)) :
    parseQuery (encodeForm fields) = some (pairsOf (sortKV fields)) := by
  unfold parseQuery encodeForm
  rw [formSegs_eq, split_joinAmp]
  · generalize pairsOf (sortKV fields) = ps
    induction ps with
    | nil => rfl
    | cons p ps ih => simp [List.mapM_cons, parseSeg_formSeg, ih]
  · intro s hs
    obtain ⟨q, _, rfl⟩ := List.mem_map.mp hs
    exact ⟨not_mem_formSeg (by decide) (by decide) _ _, by simp [formSeg]⟩

theorem baseMediaType_multipartHeader (b : Bytes) :
    baseMediaType (multipartHeaderLit ++ b) = multipartLit := by
  simp +decide only [baseMediaType, beforeByte, multipartHeaderLit, List.cons_append, List.nil_append,
    List.takeWhile_cons_of_pos, List.takeWhile_cons_of_neg]

theorem facts_urlencoded : Facts.c11URLEncodedMime = urlencodedLit := by decide
theorem facts_multipart : Facts.c11MultipartMime = multipartLit := by decide

theorem mangle_of_not_urlencoded (mt b : Bytes) (h : toLower mt ≠ urlencodedLit) :
    mangleContentType mt b = multipartHeaderLit ++ b := by
  have : (toLower mt == Facts.c11URLEncodedMime) = false := by
    rw [facts_urlencoded]; simpa using h
  simp [mangleContentType, this]

theorem toLower_multipart_ne : toLower multipartLit ≠ urlencodedLit := by decide

theorem baseMediaType_urlencoded : baseMediaType urlencodedLit = urlencodedLit := by decide

theorem isPerm_refl (l : List Part) : l.isPerm l = true := List.isPerm_iff.mpr (List.Perm.refl l)

theorem choose_inv {env : Env} {i : Input} {c : Chosen} (h : choose env i = .ok c) :
    (c.body ≠ .buffer → c.buf = []) ∧ c.body ≠ .deadPipe := by
  unfold choose at h
  split at h
  · split at h <;> cases h
    · -- form data under another media type: no pipe is opened, the initial body is the buffer
      simp_all [initialBody, opensPipe]
    · simp
  · split at h
    · cases h; simp_all [initialBody]
    · cases h; simp
    · cases h; simp
    · -- a value: without form data the pipe is not opened, whatever the media type
      split at h <;> cases h
      simp_all [initialBody, opensPipe]

/-- `getBody_is_what_is_sent` on the state machine, for a body source as `choose` leaves it: the auth block
ends, the GetBody calls do not change what is sent, and whatever the auth writer was given, each time it
asked, is what is sent. -/
theorem authPhase_spec (i : Input) (c : Chosen) (hbuf : c.body ≠ .buffer → c.buf = [])
    (hd : c.body ≠ .deadPipe) :
    ∃ st gets, authPhase i c = some (st, gets) ∧ sentOf st = sentOf (St.init c) ∧
      gets.length = i.auth.getD 0 ∧ ∀ g ∈ gets, sameAsSent (sentOf (St.init c)) g = true := by
  unfold authPhase St.init
  cases i.auth with
  | none => exact ⟨_, _, rfl, rfl, rfl, nofun⟩
  | some k =>
    cases hb : c.body with
    | deadPipe => exact absurd hb hd
    | nobody =>
      exact ⟨_, _, getBodies_plain k _, rfl, by simp, by simp [sentOf, sameAsSent, hbuf (hb ▸ nofun)]⟩
    | buffer => exact ⟨_, _, getBodies_plain k _, rfl, by simp, by simp [sentOf, sameAsSent]⟩
    | stream x cl =>
      have he := hbuf (hb ▸ nofun)
      cases k with
      | zero => exact ⟨_, _, rfl, rfl, rfl, nofun⟩
      | succ k =>
        exact ⟨_, _, getBodies_stream k _ x cl, by simp [sentOf, he], by simp,
          by simp [sentOf, sameAsSent, he]⟩

theorem build_gate_error (env : Env) (i : Input) (hg : gatePasses env i.mediaType = false) :
    build env i = .gateError := by
  simp [build, hg]

theorem gate_fails_unregistered (env : Env) (mt : Bytes) (hg : gatePasses env mt = false) :
    env.produce mt = none := by
  simp only [gatePasses, Bool.or_eq_false_iff] at hg
  simpa using hg.1.1

theorem build_of_choose {env : Env} {i : Input} {c : Chosen} (hg : gatePasses env i.mediaType = true)
    (hc : choose env i = .ok c) :
    ∃ b, build env i = .built b ∧ b.header = finalHeader i c ∧ b.sent = sentOf (St.init c) ∧
      b.parts = c.parts ∧ b.sent ≠ .never ∧
      b.gets.length = i.auth.getD 0 ∧ ∀ g ∈ b.gets, sameAsSent b.sent g = true := by
  obtain ⟨hbuf, hd⟩ := choose_inv hc
  obtain ⟨st, gets, ha, hsent, hl, hall⟩ := authPhase_spec i c hbuf hd
  refine ⟨_, by simp only [build, hg, hc, ha, hsent]; rfl, rfl, rfl, rfl, ?_, hl, hall⟩
  simp only [St.init, sentOf]
  cases hb : c.body <;> simp
  exact hd hb

theorem build_cases (env : Env) (i : Input) :
    (build env i ≠ .hang ∧ ∀ b, build env i ≠ .built b) ∨
      ∃ c, gatePasses env i.mediaType = true ∧ choose env i = .ok c := by
  unfold build
  cases hg : gatePasses env i.mediaType with
  | false => exact .inl ⟨nofun, nofun⟩
  | true =>
    cases hc : choose env i with
    | ok c => exact .inr ⟨c, rfl, rfl⟩
    | _ => exact .inl ⟨nofun, nofun⟩

theorem choose_nil (env : Env) (i : Input) (hp : i.payload = .none) (hf : hasForm i = false) :
    choose env i = .ok ⟨none, [], .nobody, none⟩ := by
  simp [choose, initialBody, hf, hp]

theorem choose_value (env : Env) (i : Input) (b : Bytes) (hp : i.payload = .value) (hf : hasForm i = false)
    (hprod : env.produce i.mediaType = some (some b)) :
    choose env i = .ok ⟨some i.mediaType, b, .buffer, none⟩ := by
  simp [choose, initialBody, opensPipe, hf, hp, hprod]

theorem choose_value_error (env : Env) (i : Input) (hp : i.payload = .value) (hf : hasForm i = false)
    (hprod : env.produce i.mediaType = some none) : choose env i = .produceError := by
  simp [choose, hf, hp, hprod]

theorem choose_value_nil (env : Env) (i : Input) (hp : i.payload = .value) (hf : hasForm i = false)
    (hprod : env.produce i.mediaType = none) : choose env i = .nilProducerPanic := by
  simp [choose, hf, hp, hprod]

/-- an io.Reader payload is the body as it is; an io.ReadCloser is also closed -/
theorem choose_reader (env : Env) (i : Input) (b : Bytes)
    (hp : i.payload = .reader b ∨ i.payload = .readCloser b)
    (hf : hasForm i = false) : ∃ cl, choose env i = .ok ⟨some i.mediaType, [], .stream b cl, none⟩ := by
  rcases hp with hp | hp
  · exact ⟨false, by simp [choose, hf, hp]⟩
  · exact ⟨true, by simp [choose, hf, hp]⟩

theorem choose_urlencoded (env : Env) (i : Input) (hf : hasForm i = true) (hm : isMultipart i = false) :
    choose env i = .ok ⟨some i.mediaType, encodeForm i.fields, .buffer, none⟩ := by
  simp [choose, initialBody, opensPipe, hf, hm]

theorem choose_multipart (env : Env) (i : Input) (hf : hasForm i = true) (hm : isMultipart i = true) :
    choose env i = .ok ⟨some (mangleContentType i.mediaType env.boundary), [],
      .stream (env.mpDoc env.boundary (allParts env i)) true, some (allParts env i)⟩ := by
  simp [choose, hf, hm]

theorem finalHeader_mediaType (i : Input) (c : Chosen) (h : c.header = some i.mediaType) :
    finalHeader i c = some i.mediaType := by
  unfold finalHeader
  split <;> simp [h]

theorem finalHeader_nonempty (i : Input) (c : Chosen) (hd : Bytes) (h : c.header = some hd)
    (hne : hd.isEmpty = false) :
    finalHeader i c = some hd := by
  unfold finalHeader
  simp [h, hne]

theorem finalHeader_nobody (i : Input) (c : Chosen) (h : c.body = .nobody) : finalHeader i c = c.header := by
  unfold finalHeader
  simp [h]

theorem mangle_nonempty (mt b : Bytes) : (mangleContentType mt b).isEmpty = false := by
  unfold mangleContentType
  split <;> simp [boundaryParamLit, multipartHeaderLit]

theorem kindOf_inv (i : Input) :
    match kindOf i with
    | .nil => i.payload = .none ∧ hasForm i = false
    | .value => i.payload = .value ∧ hasForm i = false
    | .reader b => (i.payload = .reader b ∨ i.payload = .readCloser b) ∧ hasForm i = false
    | .formOnly => i.payload = .none ∧ hasForm i = true ∧ i.files.isEmpty = true
    | .withFiles => i.payload = .none ∧ hasForm i = true ∧ i.files.isEmpty = false
    | .mixed => True := by
  unfold kindOf hasForm
  cases i.fields.isEmpty <;> cases i.files.isEmpty <;> cases i.payload <;> simp

end RtVerif.C11
