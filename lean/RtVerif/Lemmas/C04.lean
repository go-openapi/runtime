import RtVerif.Model.C04
import RtVerif.Lemmas.ByteFacts
import RtVerif.Lemmas.GoPath
import RtVerif.Lemmas.C10
import RtVerif.Props.C10
/-
  C04, the client side of the path round trip on a simple template: the `ReplaceAll` loop puts the
  escaped value in place of each placeholder, and neither the wire nor `path.Clean` changes the built
  path, because each of its segments is a normal path segment of bytes valid in an encoded path.
-/
namespace RtVerif.C04
open RtVerif Bytes

/-- static text the theorems cover contains none of the bytes with a meaning for the template, the
router or the wire -/
theorem litByteSafe_spec (c : UInt8) : litByteSafe c = true →
    c ≠ 47 ∧ c ≠ 123 ∧ c ≠ 125 ∧ c ≠ 58 ∧ c ≠ 42 ∧ c ≠ 35 ∧ c ≠ 0 ∧ c ≠ 37 ∧ validEncodedByte c = true := by
  revert c; apply forall_byte; decide +kernel

/-- the model's table for `encodePath` is the general one at that mode: of the reserved bytes, `?` alone is
escaped -/
theorem shouldEscapePath_eq (c : UInt8) : shouldEscapePath c = GoURLParse.shouldEscape .path c := by
  by_cases h : c = 63
  · subst h; decide
  · have h' : (c == 63) = false := beq_eq_false_iff_ne.2 h
    have hm : (GoURLParse.Mode.path == .host || GoURLParse.Mode.path == .zone) = false := rfl
    have hf : (GoURLParse.Mode.path == .fragment) = false := rfl
    simp only [shouldEscapePath, GoURLParse.shouldEscape, GoURL.isReservedCh, hm, hf, h', Bool.or_false,
      Bool.false_and, Bool.or_assoc]
    cases GoURL.isAlnum c <;> cases GoURL.isMark c <;>
      simp only [Bool.false_or, Bool.true_or, Bool.not_true, Bool.false_eq_true, if_false, if_true]
    -- both sides now test the nine other reserved bytes
    generalize (c == 36 || _) = r
    cases r <;> rfl

theorem validEncodedByte_eq (c : UInt8) : validEncodedByte c = GoURLParse.validEncodedByte c := by
  rw [validEncodedByte, GoURLParse.validEncodedByte, shouldEscapePath_eq]

/-- every byte `url.PathEscape` can produce is accepted as it stands by `validEncoded(·, encodePath)` -/
theorem isSafe_valid (c : UInt8) : GoURL.isSafe false c = true → validEncodedByte c = true :=
  validEncodedByte_eq c ▸ GoURLParse.safe_valid c

/-- `/s1/s2/…` -/
def flat (f : Seg → Bytes) (segs : List Seg) : Bytes := segs.flatMap fun s => (47 : UInt8) :: f s

theorem flat_nil (f : Seg → Bytes) : flat f [] = [] := rfl

theorem flat_cons (f : Seg → Bytes) (s : Seg) (r : List Seg) : flat f (s :: r) = 47 :: (f s ++ flat f r) := rfl

theorem flat_append (f : Seg → Bytes) (a b : List Seg) : flat f (a ++ b) = flat f a ++ flat f b := by
  simp [flat]

theorem flat_eq (f : Seg → Bytes) (segs : List Seg) : flat f segs = C10.joinRooted (segs.map f) := by
  simp [flat, C10.joinRooted, List.flatMap_map]

theorem renderSegs_eq (f : Seg → Bytes) (segs : List Seg) :
    renderSegs f segs = if segs = [] then [47] else flat f segs := by
  cases segs with
  | nil => rfl
  | cons s r => simpa [renderSegs, flat_eq] using C10.render_true_eq ((s :: r).map f) (by simp)

theorem flat_head (f : Seg → Bytes) (segs : List Seg) : flat f segs = [] ∨ ∃ r, flat f segs = 47 :: r := by
  cases segs with
  | nil => exact Or.inl rfl
  | cons s r => exact Or.inr ⟨_, flat_cons f s r⟩

theorem litOk_all {b : Bytes} (h : litOk b = true) : ∀ c ∈ b, litByteSafe c = true := by
  simp only [litOk, Bool.and_eq_true, List.all_eq_true] at h
  exact h.2

theorem nameOk_all {n : Bytes} (h : nameOk n = true) :
    n ≠ [] ∧ ∀ c ∈ n, c ≠ 47 ∧ c ≠ 123 ∧ c ≠ 125 ∧ c ≠ 35 ∧ c ≠ 10 ∧ c ≠ 0 := by
  simp only [nameOk, Bool.and_eq_true, Bool.not_eq_eq_eq_not, Bool.not_true, List.isEmpty_eq_false_iff,
    List.all_eq_true, bne_iff_ne, ne_eq] at h
  refine ⟨h.1, fun c hc => ?_⟩
  have := h.2 c hc
  exact ⟨this.1.1.1.1.1, this.1.1.1.1.2, this.1.1.1.2, this.1.1.2, this.1.2, this.2⟩

def SegsWF (segs : List Seg) : Prop := ∀ s ∈ segs, segOk true s = true

theorem SegsWF.lit {segs : List Seg} (hw : SegsWF segs) {b : Bytes} (hb : Seg.lit b ∈ segs) : litOk b = true := by
  simpa [segOk] using hw _ hb

theorem SegsWF.ph {segs : List Seg} (hw : SegsWF segs) {n : Bytes} (hn : Seg.ph n ∈ segs) : nameOk n = true := by
  simpa [segOk] using hw _ hn

theorem SegsWF.tail {s : Seg} {r : List Seg} (hw : SegsWF (s :: r)) : SegsWF r :=
  fun x hx => hw x (List.mem_cons_of_mem _ hx)

theorem braceFree_name {n : Bytes} (h : nameOk n = true) : C10.braceFree n = true := by
  simp only [C10.braceFree, List.all_eq_true, Bool.and_eq_true, bne_iff_ne, ne_eq]
  exact fun c hc => ⟨((nameOk_all h).2 c hc).2.1, ((nameOk_all h).2 c hc).2.2.1⟩

def tokOf : Seg → C10.Tok
  | .lit b => .lit b
  | .ph n => .ph n

theorem wf_tokOf {segs : List Seg} (hw : SegsWF segs) {s : Seg} (hs : s ∈ segs) : (tokOf s).wf = true := by
  cases s with
  | lit b =>
    simp only [tokOf, C10.Tok.wf, C10.braceFree, List.all_eq_true, Bool.and_eq_true, bne_iff_ne, ne_eq]
    intro c hc
    have := litByteSafe_spec c (litOk_all (hw.lit hs) c hc)
    exact ⟨this.2.1, this.2.2.1⟩
  | ph n => exact braceFree_name (hw.ph hs)

/-- on a simple template the sequential `ReplaceAll` loop replaces every placeholder
segment by its escaped value — whatever the order of the parameters -/
theorem substSeq_flat (params : List (Bytes × Bytes)) (segs : List Seg) (hn : C10.NamesOk params)
    (hw : SegsWF segs) :
    C10.substSeq params (renderSegs Seg.text segs) = renderSegs (Seg.sub params) segs := by
  have htext : ∀ s, C10.render [tokOf s] = s.text := fun s => by cases s <;> simp [tokOf, C10.render, Seg.text]
  have hsub : ∀ s, C10.encodeSeg params [tokOf s] = s.sub params := fun s => by
    cases s with
    | lit b => simp [tokOf, C10.encodeSeg, C10.encodeTok, Seg.sub]
    | ph n =>
      simp only [tokOf, C10.encodeSeg, C10.encodeTok, Seg.sub, List.flatMap_cons, List.flatMap_nil, List.append_nil]
      cases C10.lookupParam params n <;> rfl
  rw [renderSegs_eq, renderSegs_eq]
  by_cases hs : segs = []
  · simpa [hs, C10.joinRooted, C10.render, C10.encodeSeg] using C10.substSeq_joinRooted params [[]] hn (by simp)
  · have h := C10.substSeq_joinRooted params (segs.map fun s => [tokOf s]) hn fun l hl t ht => by
      obtain ⟨s, hs, rfl⟩ := List.mem_map.mp hl
      exact List.mem_singleton.mp ht ▸ wf_tokOf hw hs
    simpa [hs, flat_eq, List.map_map, Function.comp_def, htext, hsub] using h

def ValuesOk (segs : List Seg) (params : List (Bytes × Bytes)) : Prop :=
  ∀ n ∈ phNames segs, ∃ v, C10.lookupParam params n = some v ∧ pathValueOk v = true

theorem mem_phNames {segs : List Seg} {n : Bytes} : n ∈ phNames segs ↔ Seg.ph n ∈ segs := by
  induction segs with
  | nil => simp [phNames]
  | cons s r ih => cases s <;> simp [phNames, ih]

theorem ValuesOk.tail {s : Seg} {r : List Seg} {params : List (Bytes × Bytes)} (hv : ValuesOk (s :: r) params) :
    ValuesOk r params :=
  fun n hn => hv n (mem_phNames.mpr (List.mem_cons_of_mem _ (mem_phNames.mp hn)))

theorem valuesOk_of_bool {segs : List Seg} {params : List (Bytes × Bytes)} (h : valuesOk segs params = true) :
    ValuesOk segs params := by
  intro n hn
  have := List.all_eq_true.mp h n hn
  cases hv : C10.lookupParam params n with
  | none => rw [hv] at this; cases this
  | some v => rw [hv] at this; exact ⟨v, rfl, this⟩

theorem pathEscape_ne_of_unescape {v w : Bytes} (hw : GoURL.pathUnescape w = some w) (hne : v ≠ w) :
    GoURL.pathEscape v ≠ w := by
  intro h
  have := GoURL.unescape_escape false v
  rw [show GoURL.escape false v = w from h, show GoURL.unescape false w = some w from hw] at this
  exact hne (Option.some.inj this).symm

/-- the escaped form of an admissible value is a normal path segment: non-empty, not a dot segment,
and without `/` -/
theorem normal_escaped {v : Bytes} (h : pathValueOk v = true) : GoPath.Normal (GoURL.pathEscape v) := by
  simp only [pathValueOk, Bool.and_eq_true, Bool.not_eq_eq_eq_not, Bool.not_true,
    List.isEmpty_eq_false_iff, bne_iff_ne, ne_eq] at h
  exact ⟨pathEscape_ne_of_unescape (w := []) rfl h.1.1,
    pathEscape_ne_of_unescape (w := GoPath.dot) (by decide) h.1.2,
    pathEscape_ne_of_unescape (w := GoPath.dotdot) (by decide) h.2,
    fun hm => (GoURL.pathEscape_no_special v _ hm).1 rfl⟩

theorem sub_ph {segs : List Seg} {params : List (Bytes × Bytes)} (hv : ValuesOk segs params) {n : Bytes}
    (hn : Seg.ph n ∈ segs) : ∃ v, C10.lookupParam params n = some v ∧ pathValueOk v = true ∧
      Seg.sub params (.ph n) = GoURL.pathEscape v := by
  obtain ⟨v, h1, h2⟩ := hv n (mem_phNames.mpr hn)
  exact ⟨v, h1, h2, by simp [Seg.sub, h1]⟩

theorem sub_ok {segs : List Seg} {params : List (Bytes × Bytes)} (hw : SegsWF segs) (hv : ValuesOk segs params)
    {s : Seg} (hs : s ∈ segs) :
    GoPath.Normal (Seg.sub params s) ∧ ∀ c ∈ Seg.sub params s, validEncodedByte c = true := by
  cases s with
  | lit b =>
    have hall := litOk_all (hw.lit hs)
    have hb := hw.lit hs
    simp only [litOk, Bool.and_eq_true, Bool.not_eq_eq_eq_not, Bool.not_true, List.isEmpty_eq_false_iff,
      bne_iff_ne, ne_eq] at hb
    exact ⟨⟨hb.1.1.1, hb.1.1.2, hb.1.2, fun hm => (litByteSafe_spec _ (hall _ hm)).1 rfl⟩,
      fun c hc => (litByteSafe_spec c (hall c hc)).2.2.2.2.2.2.2.2⟩
  | ph n =>
    obtain ⟨v, _, h2, h3⟩ := sub_ph hv hs
    rw [h3]
    exact ⟨normal_escaped h2, fun c hc => isSafe_valid c (GoURL.escape_safe false v c hc)⟩

theorem wirePath_id {p : Bytes} (h : ∀ c ∈ p, validEncodedByte c = true) : wirePath p = p := by
  simp [wirePath, List.all_eq_true.mpr h]

/-- **the wire keeps the built path**: every byte of the path built for a simple template from
admissible values is one `http.NewRequest`/`Request.Write`/`http.ReadRequest` hand over unchanged -/
theorem wire_built {segs : List Seg} {params : List (Bytes × Bytes)} (hw : SegsWF segs)
    (hv : ValuesOk segs params) (trailing : Bool) :
    wirePath (renderSegs (Seg.sub params) segs ++ (if trailing then [47] else [])) =
      renderSegs (Seg.sub params) segs ++ (if trailing then [47] else []) := by
  refine wirePath_id fun c hc => ?_
  rw [renderSegs_eq, List.mem_append] at hc
  have h47 : ∀ c ∈ [(47 : UInt8)], validEncodedByte c = true := by decide
  rcases hc with hc | hc
  · split at hc
    · exact h47 c hc
    · obtain ⟨s, hs, hc⟩ := List.mem_flatMap.mp hc
      rcases List.mem_cons.mp hc with rfl | hc
      · decide
      · exact (sub_ok hw hv hs).2 c hc
  · cases trailing
    · cases hc
    · exact h47 c hc

/-- **`path.Clean` keeps the built path** (and takes a reinstated trailing slash away again): no
value can add, remove or merge a segment -/
theorem clean_built {segs : List Seg} {params : List (Bytes × Bytes)} (hw : SegsWF segs)
    (hv : ValuesOk segs params) (trailing : Bool) :
    GoPath.clean (renderSegs (Seg.sub params) segs ++ (if trailing then [47] else [])) =
      renderSegs (Seg.sub params) segs := by
  have hc : GoPath.clean (renderSegs (Seg.sub params) segs) = renderSegs (Seg.sub params) segs :=
    GoPath.clean_render ⟨0, segs.map (Seg.sub params), by simp, fun s hs => by
      obtain ⟨s0, hs0, rfl⟩ := List.mem_map.mp hs
      exact (sub_ok hw hv hs0).1, fun _ => rfl⟩
  cases trailing with
  | false => simpa using hc
  | true => exact (GoPath.clean_trailing_slash _ (by simp [renderSegs, GoPath.render])).trans hc

end RtVerif.C04
