import RtVerif.Lemmas.C04Server
import RtVerif.Props.C05
import RtVerif.Props.C01
/-
  C04: the router's answer for the built path of a simple template, from C05's specification of
  `Lookup`: completeness rules out a miss, the absence of a rival record rules out every other
  record, soundness gives the names and the values.
-/
namespace RtVerif.C04
open RtVerif Bytes

theorem own_mem_records (api : C01.Api) (i : Nat) (op : C01.Op) (hop : api.ops[i]? = some op) :
    (C01.convert (C01.fullPath api op), i) ∈ C01.recordsFor api (toUpper op.method) := by
  unfold C01.recordsFor
  rw [List.mem_filterMap]
  exact ⟨(op, i), List.mem_zipIdx_iff_getElem?.mpr hop, by simp [C01.hasHandler_of_mem (List.mem_of_getElem? hop)]⟩

theorem method_known (api : C01.Api) (i : Nat) (op : C01.Op) (hop : api.ops[i]? = some op) :
    (C01.methodsOf api).contains (toUpper op.method) = true := by
  have hmem : op ∈ api.ops := List.mem_of_getElem? hop
  simp only [C01.methodsOf, List.contains_eq_mem, decide_eq_true_eq, List.mem_eraseDups, List.mem_map]
  exact ⟨op, hmem, rfl⟩

theorem lookupUnder_ok {api : C01.Api} {m : Bytes} {t : C05.Table} (p : Bytes)
    (hb : C05.build (C01.recordsFor api m) = .ok t) : C01.lookupUnder api m p = some (C05.lookup t p) := by
  simp [C01.lookupUnder, C05.route, hb]

theorem ne_nil_of_paramKey {segs : List Seg} (hpk : C05.isParamKey (renderSegs Seg.key segs) = true) :
    segs ≠ [] := by
  rintro rfl
  revert hpk
  decide

theorem matchKey_own (s : Bool) (params : List (Bytes × Bytes)) (segs : List Seg) (hw : SegsWF segs)
    (hv : ValuesOk segs params) (hpk : C05.isParamKey (renderSegs Seg.key segs) = true) :
    C05.matchKey s (renderSegs Seg.key segs ++ [C05.cTerm]) (renderSegs (Seg.sub params) segs) =
      some (escVals params segs) := by
  simp only [renderSegs_eq, ne_nil_of_paramKey hpk, ↓reduceIte]
  exact matchKey_built s params segs hw hv

theorem namesOf_own (segs : List Seg) (hw : SegsWF segs)
    (hpk : C05.isParamKey (renderSegs Seg.key segs) = true) :
    C05.namesOf (renderSegs Seg.key segs ++ [C05.cTerm]) = phNames segs := by
  simp only [renderSegs_eq, ne_nil_of_paramKey hpk, ↓reduceIte]
  exact namesOf_key segs hw

/-- a key without parameters belongs to a template without placeholders: the built path is the key -/
theorem static_own (params : List (Bytes × Bytes)) {segs : List Seg}
    (hpk : C05.isParamKey (renderSegs Seg.key segs) = false) :
    phNames segs = [] ∧ renderSegs (Seg.sub params) segs = renderSegs Seg.key segs := by
  have hst : phNames segs = [] := by
    cases segs with
    | nil => rfl
    | cons s r =>
      apply Classical.byContradiction
      intro hne
      simp [renderSegs_eq, isParamKey_of_ph _ hne] at hpk
  exact ⟨hst, by rw [renderSegs_eq, renderSegs_eq, flat_sub_of_static params segs hst]⟩

/-- **the router's answer**: for the cleaned built path of a simple template with admissible
values, in a table the router accepted and without a rival record, `Lookup` reports the own
operation with the template's names and the escaped values. -/
theorem lookup_own (api : C01.Api) (i : Nat) (op : C01.Op) (segs : List Seg)
    (params : List (Bytes × Bytes)) (t : C05.Table)
    (hop : api.ops[i]? = some op)
    (hkey : C01.convert (C01.fullPath api op) = renderSegs Seg.key segs)
    (hw : SegsWF segs) (hv : ValuesOk segs params)
    (hb : C05.build (C01.recordsFor api (toUpper op.method)) = .ok t)
    (hr : noRival api i op (renderSegs (Seg.sub params) segs) = true) :
    C05.lookup t (renderSegs (Seg.sub params) segs) = .found i (phNames segs) (escVals params segs) := by
  have hspec := C05.lookup_spec _ t (renderSegs (Seg.sub params) segs) hb
  have hown := hkey ▸ own_mem_records api i op hop
  simp only [noRival, List.all_eq_true, Bool.not_eq_eq_eq_not, Bool.not_true, hkey] at hr
  cases hl : C05.lookup t (renderSegs (Seg.sub params) segs) with
  | notFound =>
    -- completeness: the own record is instantiated by the path
    exfalso
    rw [hl] at hspec
    have h := List.all_eq_true.mp hspec _ hown
    cases hpk : C05.isParamKey (renderSegs Seg.key segs) with
    | true =>
      simp only [hpk, Bool.not_true, Bool.false_eq_true, ↓reduceIte, matchKey_own false params segs hw hv hpk,
        List.any_eq_true, List.isEmpty_iff] at h
      obtain ⟨x, hx, hx0⟩ := h
      exact escVals_nonempty hv x hx hx0
    | false =>
      simp only [hpk, Bool.not_false, ↓reduceIte, bne_iff_ne, ne_eq] at h
      exact h (static_own params hpk).2.symm
  | found v names vals =>
    rw [hl] at hspec
    simp only [C05.specLookup, List.any_eq_true, Bool.and_eq_true, beq_iff_eq] at hspec
    obtain ⟨kv, hkv, rfl, hfo⟩ := hspec
    -- the record is the own one: anything else would be a rival
    have hvi : kv.2 = i := by
      refine Decidable.byContradiction fun hne => ?_
      have hnr := hr kv hkv
      simp only [isRival, bne_iff_ne.mpr hne, Bool.true_and] at hnr
      cases hpk : C05.isParamKey kv.1 with
      | true =>
        simp only [C05.foundOk, hpk, Bool.not_true, Bool.false_eq_true, ↓reduceIte, Bool.and_eq_true,
          beq_iff_eq, Bool.not_eq_eq_eq_not, List.all_eq_true, Bool.or_eq_true] at hfo
        obtain ⟨⟨⟨hm, _⟩, hnostatic⟩, hpref⟩ := hfo
        -- the own key is parameterised (a parameter-free own key equal to the path would have won)
        have hopk : C05.isParamKey (renderSegs Seg.key segs) = true := by
          refine Decidable.byContradiction fun hno => ?_
          have hno := Bool.not_eq_true _ ▸ hno
          rw [List.any_eq_true.mpr ⟨_, hown, by simp [hno, (static_own params hno).2]⟩] at hnostatic
          cases hnostatic
        -- preference puts the own record in front of it, so it is at least as literal: a rival
        have hp := hpref _ hown
        simp only [hopk, matchKey_own true params segs hw hv hopk, Option.isSome_some, Bool.and_self] at hp
        simp only [hpk, ↓reduceIte, hopk, Bool.true_and, hm, Option.isSome_some] at hnr
        rcases hp with hp | hp
        · cases hp
        · rw [hp] at hnr; cases hnr
      | false =>
        simp only [C05.foundOk, hpk, Bool.not_false, ↓reduceIte, Bool.and_eq_true, beq_iff_eq] at hfo
        simp only [hpk, Bool.false_eq_true, ↓reduceIte, beq_eq_false_iff_ne, ne_eq] at hnr
        exact hnr hfo.1.1
    obtain ⟨op', hop', _, _, hk1⟩ := C01.mem_recordsFor hkv
    obtain rfl : op = op' := Option.some.inj (hop.symm.trans (hvi ▸ hop'))
    rw [hk1, hkey] at hfo
    rw [hvi]
    -- soundness: names and values are read off the own key
    cases hpk : C05.isParamKey (renderSegs Seg.key segs) with
    | true =>
      simp only [C05.foundOk, hpk, Bool.not_true, Bool.false_eq_true, ↓reduceIte, Bool.and_eq_true,
        beq_iff_eq, matchKey_own false params segs hw hv hpk, namesOf_own segs hw hpk, Option.some.injEq] at hfo
      rw [hfo.1.1.2, ← hfo.1.1.1]
    | false =>
      simp only [C05.foundOk, hpk, Bool.not_false, ↓reduceIte, Bool.and_eq_true, beq_iff_eq,
        List.isEmpty_iff] at hfo
      have hst := (static_own params hpk).1
      rw [hfo.1.2, hfo.2, hst, escVals, hst]
      rfl

end RtVerif.C04
