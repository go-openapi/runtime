import RtVerif.Lemmas.C12Step
/-
  C12, part F: a second invariant — faults of the plan are never swallowed.  The writer goroutine
  never drops the failing read of its script; a consumer only sees the end of the request body when
  no source failed; a state that holds a response went through every earlier stage successfully.
-/
namespace RtVerif.C12
open RtVerif

def hasFail (t : List Act) : Bool := t.any (· == .fail)

@[simp] theorem hasFail_nil : hasFail [] = false := rfl
@[simp] theorem hasFail_fail (r : List Act) : hasFail (.fail :: r) = true := by simp [hasFail]

theorem hasFail_cons {a : Act} (h : a ≠ .fail) (r : List Act) : hasFail (a :: r) = hasFail r := by
  cases a <;> simp_all [hasFail]

theorem getLast?_cons_snoc (a x : Act) (l : List Act) : (x :: (l ++ [a])).getLast? = some a := by
  induction l generalizing x with
  | nil => simp
  | cons b t ih => simpa [List.getLast?_cons_cons] using ih b

/-- the writer's script neither drops a failing read nor invents one -/
theorem hasFail_fileScriptW (full : Bool) (w : Nat) (s : Src) : hasFail (fileScriptW full w s) = s.fails := by
  cases hf : s.fails <;> simp only [fileScriptW, hasFail, hf] <;> (repeat' split) <;> simp_all

theorem hasFail_filesScript (l : List Src) : hasFail (filesScript l) = l.any (·.fails) := by
  induction l with
  | nil => rfl
  | cons a t ih =>
    have := hasFail_fileScriptW sniffFull Facts.c11SniffWindow a
    simp only [hasFail, fileScript, filesScript, List.any_append, List.any_cons] at *
    rw [ih, this]

theorem hasFail_script (p : Plan) : hasFail p.script = p.files.any (·.fails) := by
  rw [← hasFail_filesScript]
  simp [Plan.script, hasFail]

def Plan.streamFails (p : Plan) : Bool := (p.streamSrc.map (·.fails)).getD false

/-- the request body has been consumed to its end -/
def past (s : St) : Bool := midBody s.ph || s.haveResp || s.bodyInBuf

def rank : Ph → Nat
  | .start => 0 | .choose => 1 | .auth => 2 | .authCopy => 3 | .url => 4 | .send => 5 | .sendBody => 6
  | .await => 7 | .reading => 8 | .draining => 8 | .closing => 8 | .returned => 9

/-- what a call that got as far as stage `n` (a value of `rank`) has behind it; stages 3 (`authCopy`) and 7
(`await`) add nothing -/
def rankFacts (p : Plan) (n : Nat) : Prop :=
  (1 ≤ n → p.writerErr = false) ∧ (2 ≤ n → p.payload ≠ .produceErr)
  ∧ (4 ≤ n → p.auth ≠ .fail ∧ p.auth ≠ .bodyFail) ∧ (5 ≤ n → p.urlErr = false)
  ∧ (6 ≤ n → p.tr ≠ .errBefore) ∧ (8 ≤ n → p.resp ≠ .stall)

theorem readBody_eof_stream {p : Plan} {s s' : St} (h : readBody p s = .eof s') (hk : bodyKind p s = .stream) :
    p.streamFails = false := by
  unfold readBody at h
  simp only [hk] at h
  split at h
  · simp at h
  · split at h
    · simp at h
    · rename_i hf; simpa [Plan.streamFails] using hf

def Inv2 (p : Plan) (s : St) : Prop :=
  (∀ t, s.g = .run t → hasFail t = hasFail p.script) ∧
  (s.g = .trailer → hasFail p.script = false) ∧
  (s.g = .done → s.pwErr = false → hasFail p.script = false) ∧
  (past s = true → s.g = .done → s.pwErr = false) ∧
  (past s = true → p.streamFails = false) ∧
  (if s.ph = .returned then (s.haveResp = true → rankFacts p 8) else rankFacts p (rank s.ph))

theorem inv2_init (p : Plan) : Inv2 p (init p) := by
  simp [Inv2, init, past, midBody, rank, rankFacts]

attribute [local grind] Inv2 past rank rankFacts midBody pre G.alive bodyKind Plan.streamFails Plan.streamSrc
  ret release closeReqBody finish failDo copied gFail readerReturn
attribute [local grind =] hasFail_nil hasFail_cons hasFail_fail

theorem Inv2.step {p : Plan} {s s' : St} {ph : Ph} (hwf : p.WF) (hI : Inv p s) (hJ : Inv2 p s) (hph : s.ph = ph)
    (h : Step p s ph s') : Inv2 p s' := by
  have hwf1 := @wf_form p hwf
  have hwf2 : p.startsWriter = true → p.hasFormOrFiles = true := by
    intro h; simp [Plan.startsWriter] at h; exact h.1
  have hws := @wf_stream p hwf
  have pipe_g := hI.pipe_g
  have nowriter := hI.nowriter
  have early0 := hI.early0
  have aliveNotPast := hI.aliveNotPast
  have copyPh := hI.copyPh
  have respPh := hI.respPh
  have respPre := hI.respPre
  cases h with
  | copyData s1 h => have := readBody_data h; grind
  | copyFail h => have := readBody_eof h; have := readBody_eof_stream h; grind
  | copyOk h => have := readBody_eof h; have := readBody_eof_stream h; grind
  | copyErr s1 h => have := readBody_err h; grind
  | sendData s1 h => have := readBody_data h; grind
  | sendEof h => have := readBody_eof h; have := readBody_eof_stream h; grind
  | sendErr s1 h => have := readBody_err h; grind
  | readerDone s1 h => have := @bodyRead_eof p s s1; grind
  | readerData s1 _ h => have := bodyRead_data h; grind
  | readerErr s1 h => have := bodyRead_err h; grind
  | drainData s1 h => have := bodyRead_data h; grind
  | drainEnd s1 h => have := @bodyRead_eof p s s1; have := @bodyRead_err p s s1; grind
  | _ => grind

theorem Inv2.bgStep {p : Plan} {s s' : St} (hI : Inv p s) (hJ : Inv2 p s) (h : BgStep p s s') : Inv2 p s' := by
  have aliveNotPast := hI.aliveNotPast
  cases h <;> grind

theorem inv2_reach {p : Plan} {s : St} (hwf : p.WF) (h : Reach p s) : Inv2 p s := by
  induction h with
  | init => exact inv2_init p
  | step hr hs ih =>
    have hI := inv_reach hwf hr
    rw [succs, List.append_assoc] at hs
    rcases List.mem_append.mp hs with hs | hs
    · exact ih.step hwf hI rfl (.of_mem hs)
    · exact ih.bgStep hI (.of_mem hs)

end RtVerif.C12
