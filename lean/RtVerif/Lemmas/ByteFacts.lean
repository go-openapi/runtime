import RtVerif.Base.Bytes
/-
  Facts about single bytes and byte strings that several properties use.

  ASCII case mapping is stated once in `Nat` terms (`toLowerB_toNat`, `toUpperB_toNat`); what the
  properties need of it follows by arithmetic on the two letter ranges.

  `forall_byte` is for facts that are tables by nature (which bytes net/url escapes, which it accepts
  in a path); they are proved by evaluating them on every byte:

      revert c; apply forall_byte; decide +kernel

  `+kernel`: the elaborator's own evaluator needs a raised recursion limit for 256 cases, and what it
  does comes on top of the kernel's work, which has to evaluate the table anyway.
-/
namespace RtVerif

theorem forall_byte {P : UInt8 → Prop} (h : ∀ n, n < 256 → P (UInt8.ofNat n)) (c : UInt8) : P c := by
  have := h c.toNat c.toNat_lt
  rwa [UInt8.ofNat_toNat] at this

namespace Bytes

/-- `A`–`Z` move up by 32, every other byte stays (a disjunction, so that `omega` can use it). -/
theorem toLowerB_toNat (b : UInt8) :
    (65 ≤ b.toNat ∧ b.toNat ≤ 90 ∧ (toLowerB b).toNat = b.toNat + 32) ∨
    (¬(65 ≤ b.toNat ∧ b.toNat ≤ 90) ∧ (toLowerB b).toNat = b.toNat) := by
  unfold toLowerB
  simp only [UInt8.le_iff_toNat_le, UInt8.toNat_ofNat]
  split
  · rename_i h
    rw [UInt8.toNat_add]
    exact .inl ⟨h.1, h.2, by simp; omega⟩
  · rename_i h
    exact .inr ⟨h, rfl⟩

theorem toUpperB_toNat (b : UInt8) :
    (97 ≤ b.toNat ∧ b.toNat ≤ 122 ∧ (toUpperB b).toNat = b.toNat - 32) ∨
    (¬(97 ≤ b.toNat ∧ b.toNat ≤ 122) ∧ (toUpperB b).toNat = b.toNat) := by
  unfold toUpperB
  simp only [UInt8.le_iff_toNat_le, UInt8.toNat_ofNat]
  split
  · rename_i h
    rw [UInt8.toNat_sub_of_le _ _ (UInt8.le_iff_toNat_le.2 (Nat.le_trans (by decide) h.1))]
    exact .inl ⟨h.1, h.2, rfl⟩
  · rename_i h
    exact .inr ⟨h, rfl⟩

theorem toLowerB_idem (b : UInt8) : toLowerB (toLowerB b) = toLowerB b := by
  have h1 := toLowerB_toNat b
  have h2 := toLowerB_toNat (toLowerB b)
  exact UInt8.toNat_inj.1 (by omega)

theorem toUpperB_idem (b : UInt8) : toUpperB (toUpperB b) = toUpperB b := by
  have h1 := toUpperB_toNat b
  have h2 := toUpperB_toNat (toUpperB b)
  exact UInt8.toNat_inj.1 (by omega)

theorem toLowerB_toUpperB (b : UInt8) : toLowerB (toUpperB b) = toLowerB b := by
  rcases toUpperB_toNat b with ⟨h1, h2, e⟩ | ⟨_, e⟩
  · have h3 := toLowerB_toNat (toUpperB b)
    have h4 := toLowerB_toNat b
    exact UInt8.toNat_inj.1 (by omega)
  · rw [UInt8.toNat_inj.1 e]

theorem toUpperB_toLowerB (b : UInt8) : toUpperB (toLowerB b) = toUpperB b := by
  rcases toLowerB_toNat b with ⟨h1, h2, e⟩ | ⟨_, e⟩
  · have h3 := toUpperB_toNat (toLowerB b)
    have h4 := toUpperB_toNat b
    exact UInt8.toNat_inj.1 (by omega)
  · rw [UInt8.toNat_inj.1 e]

abbrev Letter (c : UInt8) : Prop := (65 ≤ c.toNat ∧ c.toNat ≤ 90) ∨ (97 ≤ c.toNat ∧ c.toNat ≤ 122)

theorem toLowerB_eq_iff {c : UInt8} (hc : ¬Letter c) (b : UInt8) : toLowerB b = c ↔ b = c := by
  have h := toLowerB_toNat b
  rw [← UInt8.toNat_inj, ← UInt8.toNat_inj]
  omega

theorem toUpperB_eq_iff {c : UInt8} (hc : ¬Letter c) (b : UInt8) : toUpperB b = c ↔ b = c := by
  have h := toUpperB_toNat b
  rw [← UInt8.toNat_inj, ← UInt8.toNat_inj]
  omega

theorem toLowerB_beq {c : UInt8} (hc : ¬Letter c) (b : UInt8) : (toLowerB b == c) = (b == c) := by
  rw [Bool.eq_iff_iff, beq_iff_eq, beq_iff_eq]
  exact toLowerB_eq_iff hc b

theorem toUpperB_beq {c : UInt8} (hc : ¬Letter c) (b : UInt8) : (toUpperB b == c) = (b == c) := by
  rw [Bool.eq_iff_iff, beq_iff_eq, beq_iff_eq]
  exact toUpperB_eq_iff hc b

/-- `-`, after which `http.CanonicalHeaderKey` writes an upper-case letter -/
theorem dash_not_letter : ¬Letter 45 := by decide

theorem toLowerB_class {p : UInt8 → Bool} (hp : ∀ c, Letter c → p c = true) (c : UInt8) :
    p (toLowerB c) = p c := by
  rcases toLowerB_toNat c with ⟨h1, h2, e⟩ | ⟨_, e⟩
  · rw [hp c (.inl ⟨h1, h2⟩), hp _ (.inr (by omega))]
  · rw [UInt8.toNat_inj.1 e]

theorem toUpperB_class {p : UInt8 → Bool} (hp : ∀ c, Letter c → p c = true) (c : UInt8) :
    p (toUpperB c) = p c := by
  rcases toUpperB_toNat c with ⟨h1, h2, e⟩ | ⟨_, e⟩
  · rw [hp c (.inr ⟨h1, h2⟩), hp _ (.inl (by omega))]
  · rw [UInt8.toNat_inj.1 e]

theorem toLower_idem (s : Bytes) : toLower (toLower s) = toLower s := by
  simp [toLower, toLowerB_idem]

theorem toUpper_idem (s : Bytes) : toUpper (toUpper s) = toUpper s := by
  simp [toUpper, toUpperB_idem]

theorem toLower_toUpper (s : Bytes) : toLower (toUpper s) = toLower s := by
  simp [toLower, toUpper, toLowerB_toUpperB]

theorem all_toLower {p : UInt8 → Bool} (hp : ∀ c, Letter c → p c = true) (s : Bytes) :
    (toLower s).all p = s.all p := by
  rw [toLower, List.all_map]
  exact congrArg s.all (funext (toLowerB_class hp))

theorem beforeByte_map {f : UInt8 → UInt8} {c : UInt8} (hf : ∀ b, f b = c ↔ b = c) (s : Bytes) :
    beforeByte (s.map f) c = (beforeByte s c).map f := by
  unfold beforeByte
  rw [List.takeWhile_map]
  congr 2
  funext b
  rw [Bool.eq_iff_iff]
  simp [hf b]

theorem beforeByte_toLower {c : UInt8} (hc : ¬Letter c) (s : Bytes) :
    beforeByte (toLower s) c = toLower (beforeByte s c) :=
  beforeByte_map (toLowerB_eq_iff hc) s

theorem beforeByte_toUpper {c : UInt8} (hc : ¬Letter c) (s : Bytes) :
    beforeByte (toUpper s) c = toUpper (beforeByte s c) :=
  beforeByte_map (toUpperB_eq_iff hc) s

theorem bne_of_not_mem {m : Bytes} {c : UInt8} (h : c ∉ m) : ∀ x ∈ m, (x != c) = true :=
  fun _ hx => bne_iff_ne.2 fun e => h (e ▸ hx)

theorem takeWhile_eq_self {α} {p : α → Bool} {l : List α} (h : ∀ x ∈ l, p x = true) :
    l.takeWhile p = l := by
  simpa using List.takeWhile_append_of_pos (l₂ := []) h

theorem beforeByte_of_not_mem {s : Bytes} {c : UInt8} (h : c ∉ s) : beforeByte s c = s :=
  takeWhile_eq_self (bne_of_not_mem h)

theorem dropWhile_eq_nil {α} {p : α → Bool} {l : List α} (h : ∀ x ∈ l, p x = true) :
    l.dropWhile p = [] := by
  simpa using List.dropWhile_append_of_pos (l₂ := []) h

theorem takeWhile_append_cons {α} {p : α → Bool} {a : List α} {c : α} (q : List α)
    (ha : ∀ x ∈ a, p x = true) (hc : p c = false) : (a ++ c :: q).takeWhile p = a := by
  rw [List.takeWhile_append_of_pos ha, List.takeWhile_cons_of_neg (ne_true_of_eq_false hc), List.append_nil]

theorem dropWhile_append_cons {α} {p : α → Bool} {a : List α} {c : α} (q : List α)
    (ha : ∀ x ∈ a, p x = true) (hc : p c = false) : (a ++ c :: q).dropWhile p = c :: q := by
  rw [List.dropWhile_append_of_pos ha, List.dropWhile_cons_of_neg (ne_true_of_eq_false hc)]

theorem all_of_all {α} {p q : α → Bool} {l : List α} (h : l.all p = true)
    (hpq : ∀ x, p x = true → q x = true) : l.all q = true :=
  List.all_eq_true.mpr fun x hx => hpq x (List.all_eq_true.mp h x hx)

theorem eq_append_of_isPrefixOf {p s : Bytes} (h : p.isPrefixOf s = true) : s = p ++ s.drop p.length :=
  (List.prefix_iff_eq_append.mp (List.isPrefixOf_iff_prefix.mp h)).symm

end Bytes
end RtVerif
