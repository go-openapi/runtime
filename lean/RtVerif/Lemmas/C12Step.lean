import RtVerif.Lemmas.C12
/-
  C12, part F: the transitions of the call LTS as relations.  `succs` computes the successors of a
  state by nested case distinctions; `Step` (main thread) and `BgStep` (writer goroutine, context) list
  them one by one, the successor written as an update of the state: the form every proof by induction
  over executions needs.  Every successor is a step (`Step.of_mem`, `BgStep.of_mem`); a constructor keeps
  of the branch's guard what the proofs read, so the relations may be larger than `succs`.
-/
namespace RtVerif.C12
open RtVerif

theorem bodyKind_cases (p : Plan) (s : St) :
    (bodyKind p s = .buf ∧ (s.bodyInBuf = true ∨ (s.pr = .none ∧ p.streamSrc.isSome = false)))
    ∨ (bodyKind p s = .pipe ∧ s.bodyInBuf = false ∧ s.pr ≠ .none)
    ∨ (bodyKind p s = .stream ∧ s.bodyInBuf = false ∧ s.pr = .none ∧ p.streamSrc.isSome = true) := by
  unfold bodyKind
  grind

/-- what a Read of the request body can yield -/
theorem readBody_data {p : Plan} {s s' : St} (h : readBody p s = .data s') :
    (bodyKind p s = .buf ∧ 0 < s.bufLeft ∧ s' = { s with bufLeft := 0, consumed := s.consumed + 1 })
    ∨ (bodyKind p s = .stream ∧ 0 < s.streamLeft ∧ s' = { s with streamLeft := s.streamLeft - 1, consumed := s.consumed + 1 })
    ∨ (bodyKind p s = .pipe ∧ ∃ a r, s.g = .run (a :: r) ∧ a ≠ .fail ∧ s' = { s with g := .run r, consumed := s.consumed + 1 })
    ∨ (bodyKind p s = .pipe ∧ s.g = .trailer ∧ s' = { s with g := .done, consumed := s.consumed + 1 }) := by
  unfold readBody at h
  split at h
  · rename_i hk; split at h <;> simp at h; subst h; simp [*]
  · rename_i hk; split at h
    · simp at h; subst h; simp [*]
    · split at h <;> simp at h
  · rename_i hk
    split at h
    · rename_i r hg; simp at h; subst h; right; right; left; exact ⟨hk, .wForm, r, hg, by simp, rfl⟩
    · rename_i r hg; simp at h; subst h; right; right; left; exact ⟨hk, .w, r, hg, by simp, rfl⟩
    · rename_i hg; simp at h; subst h; right; right; right; exact ⟨hk, hg, rfl⟩
    · split at h <;> simp at h
    · simp at h

theorem readBody_eof {p : Plan} {s s' : St} (h : readBody p s = .eof s') :
    s' = s ∧ ((bodyKind p s = .buf ∧ s.bufLeft = 0) ∨ (bodyKind p s = .stream ∧ s.streamLeft = 0)
      ∨ (bodyKind p s = .pipe ∧ s.g = .done ∧ s.pwErr = false)) := by
  unfold readBody at h
  split at h
  · rename_i hk; split at h <;> simp at h; subst h; simp [hk]; omega
  · rename_i hk; split at h
    · simp at h
    · split at h <;> simp at h; subst h; simp [hk]; omega
  · rename_i hk
    split at h <;> try (simp at h; done)
    rename_i hg
    split at h <;> simp at h
    subst h; simp [*]

theorem readBody_err {p : Plan} {s s' : St} (h : readBody p s = .err s') :
    (bodyKind p s = .stream ∧ s' = { s with srcFailed := true })
    ∨ (bodyKind p s = .pipe ∧ s.g = .done ∧ s.pwErr = true ∧ s' = s) := by
  unfold readBody at h
  split at h
  · split at h <;> simp at h
  · rename_i hk; split at h
    · simp at h
    · split at h <;> simp at h; subst h; simp [hk]
  · rename_i hk
    split at h <;> try (simp at h; done)
    rename_i hg
    split at h <;> simp at h
    subst h; simp [*]

theorem readBody_wait {p : Plan} {s : St} (h : readBody p s = .wait) :
    bodyKind p s = .pipe ∧ (s.g = .idle ∨ s.g = .run [] ∨ ∃ r, s.g = .run (.fail :: r)) := by
  unfold readBody at h
  split at h
  · split at h <;> simp at h
  · split at h
    · simp at h
    · split at h <;> simp at h
  · rename_i hk
    refine ⟨hk, ?_⟩
    split at h <;> try (simp at h; done)
    · split at h <;> simp at h
    · rename_i h1 h2 h3 h4
      cases hg : s.g with
      | idle => simp
      | trailer => exact absurd hg h3
      | done => exact absurd hg h4
      | run t =>
        cases t with
        | nil => simp
        | cons a r =>
          cases a with
          | wForm => exact absurd hg (h1 r)
          | w => exact absurd hg (h2 r)
          | fail => right; right; exact ⟨r, rfl⟩

theorem bodyRead_data {p : Plan} {s s' : St} (h : bodyRead p s = .data s') :
    0 < s.bodyLeft ∧ s' = { s with bodyLeft := s.bodyLeft - 1 } := by
  unfold bodyRead at h
  grind

theorem bodyRead_eof {p : Plan} {s s' : St} (h : bodyRead p s = .eof s') :
    s.bodyLeft = 0 ∧ p.rterm = .eof ∧ s' = { s with bodyAtEnd := true, seenEOF := true } := by
  unfold bodyRead at h
  grind

theorem bodyRead_err {p : Plan} {s s' : St} (h : bodyRead p s = .err s') :
    s.bodyLeft = 0 ∧ s' = { s with bodyAtEnd := true } := by
  unfold bodyRead at h
  grind

theorem bodyRead_wait {p : Plan} {s : St} (h : bodyRead p s = .wait) :
    s.bodyLeft = 0 ∧ p.rterm = .stall ∧ s.ctxDone = false := by
  unfold bodyRead at h
  grind

/-- the request body as `GetBody()` leaves it once the copy has met the end -/
def copied (p : Plan) (s : St) : St :=
  { closeReqBody p s with bodyInBuf := true, bufLeft := min 1 s.consumed }

/-- The phase is an index beside `s.ph` so that `cases` on a step of a known phase leaves that phase's
constructors only. -/
inductive Step (p : Plan) (s : St) : Ph → St → Prop
  | writerErr : p.writerErr → Step p s .start (ret .writer (release p s))
  | start : ¬p.writerErr → Step p s .start { s with ph := .choose }
  | chooseWriter : p.startsWriter →
      Step p s .choose { s with ph := .auth, g := .run p.script, pr := .open }
  | chooseBuf : ¬p.startsWriter → p.hasFormOrFiles ∨ p.payload = .buffered →
      Step p s .choose { s with ph := .auth, bufLeft := 1 }
  | produceErr : ¬p.startsWriter → p.payload = .produceErr →
      Step p s .choose (ret .produce (release p s))
  | chooseStream (src : Src) : ¬p.startsWriter → ¬p.hasFormOrFiles → p.payload = .stream src →
      Step p s .choose { s with ph := .auth, streamLeft := src.reads }
  | chooseNone : ¬p.startsWriter → ¬p.hasFormOrFiles → p.payload = .none →
      Step p s .choose { s with ph := .auth }
  | authCopy : bodyKind p s ≠ .buf → Step p s .auth { s with ph := .authCopy, consumed := 0 }
  | authFail : Step p s .auth (ret .auth (release p s))
  | authOk : p.auth ≠ .fail → p.auth ≠ .bodyFail → Step p s .auth { s with ph := .url }
  | copyData (s1 : St) : readBody p s = .data s1 → Step p s .authCopy s1
  | copyFail : readBody p s = .eof s → Step p s .authCopy (ret .auth (release p (copied p s)))
  | copyOk : readBody p s = .eof s → p.auth ≠ .fail → p.auth ≠ .bodyFail →
      Step p s .authCopy { copied p s with ph := .url }
  | copyErr (s1 : St) : readBody p s = .err s1 → Step p s .authCopy (ret .copy (release p s1))
  | urlErr : p.urlErr → Step p s .url (ret .url (release p s))
  | url : ¬p.urlErr → Step p s .url { s with ph := .send, consumed := 0 }
  | sendFail (o : Origin) : o ≠ .none → o ≠ .writer → Step p s .send (failDo o p { s with entered := true })
  | send : p.tr ≠ .errBefore → Step p s .send { s with entered := true, ph := .sendBody }
  | bodyFail (o : Origin) : o ≠ .none → o ≠ .writer → Step p s .sendBody (failDo o p s)
  | sendData (s1 : St) : readBody p s = .data s1 → Step p s .sendBody s1
  | sendEof : readBody p s = .eof s → Step p s .sendBody { closeReqBody p s with ph := .await }
  | sendErr (s1 : St) : readBody p s = .err s1 → Step p s .sendBody (failDo .source p s1)
  | awaitCtx : Step p s .await (finish .ctx s)
  | headers (k : Nat) (t : RTerm) : p.resp = .headers k t →
      Step p s .await { s with ph := .reading, haveResp := true, bodyLeft := k, readLeft := p.readN }
  | readerDone (s1 : St) : s.readLeft = some 0 ∧ s1 = s ∨ bodyRead p s = .eof s1 →
      Step p s .reading (readerReturn p s1)
  | readerData (s1 : St) : s.readLeft ≠ some 0 → bodyRead p s = .data s1 →
      Step p s .reading { s1 with readLeft := s.readLeft.map (· - 1) }
  | readerErr (s1 : St) : bodyRead p s = .err s1 →
      Step p s .reading { s1 with ph := .draining, pending := .bodyRead }
  | drainData (s1 : St) : bodyRead p s = .data s1 → Step p s .draining s1
  | drainEnd (s1 : St) : (p.reuse ∧ (bodyRead p s = .eof s1 ∨ bodyRead p s = .err s1)) ∨ (¬(p.reuse ∧ ¬s.seenEOF) ∧ s1 = s) →
      Step p s .draining { s1 with ph := .closing }
  | close : Step p s .closing
      { s with bodyCloses := s.bodyCloses + 1, endAtClose := s.bodyAtEnd, released := true, ph := .returned,
               res := some s.pending }

inductive BgStep (p : Plan) (s : St) : St → Prop
  | gFailRead (r : List Act) : s.g = .run (.fail :: r) → BgStep p s { gFail s true with srcFailed := true }
  | gClosedPipe (a : Act) (r : List Act) (f : Bool) : s.g = .run (a :: r) → a ≠ .fail → s.pr = .closed →
      f = Facts.c12FilesDeferFirst ∨ f = true → BgStep p s (gFail s f)
  | gTrailer : s.g = .run [] → BgStep p s { s with g := .trailer, fileCloses := s.fileCloses + 1 }
  | gDone : s.g = .trailer → s.pr = .closed → BgStep p s { s with g := .done }
  | ctx : s.ctxDone = false → s.ph ≠ .returned → BgStep p s { s with ctxDone := true }


theorem mem_afterAuth {p : Plan} {s s' : St} (h : s' ∈ afterAuth p s) :
    s' = ret .auth (release p s) ∨ p.auth ≠ .fail ∧ p.auth ≠ .bodyFail ∧ s' = { s with ph := .url } := by
  unfold afterAuth at h
  split at h <;> simp_all

theorem mem_mAuth {p : Plan} {s s' : St} (h : s' ∈ mAuth p s) :
    bodyKind p s ≠ .buf ∧ s' = { s with ph := .authCopy, consumed := 0 } ∨ s' ∈ afterAuth p s := by
  unfold mAuth at h
  split at h <;> first | exact .inr h | (split at h <;> simp_all)

theorem Step.of_mem {p : Plan} {s s' : St} (h : s' ∈ mainSteps p s) : Step p s s.ph s' := by
  unfold mainSteps at h
  split at h <;> rename_i hph <;> rw [hph]
  · simp only [mStart] at h
    split at h <;> cases List.mem_singleton.mp h
    · exact .writerErr ‹_›
    · exact .start ‹_›
  · simp only [mChoose] at h
    split at h
    · cases List.mem_singleton.mp h; exact .chooseWriter ‹_›
    · split at h
      · cases List.mem_singleton.mp h; exact .chooseBuf ‹_› (.inl ‹_›)
      · split at h <;> cases List.mem_singleton.mp h
        · exact .produceErr ‹_› ‹_›
        · exact .chooseStream _ ‹_› ‹_› ‹_›
        · exact .chooseBuf ‹_› (.inr ‹_›)
        · exact .chooseNone ‹_› ‹_› ‹_›
  · rcases mem_mAuth h with ⟨hk, rfl⟩ | h
    · exact .authCopy hk
    · rcases mem_afterAuth h with rfl | ⟨h1, h2, rfl⟩
      · exact .authFail
      · exact .authOk h1 h2
  · simp only [mAuthCopy] at h
    split at h
    · cases List.mem_singleton.mp h; exact .copyData _ ‹_›
    · cases h
    · obtain ⟨rfl, -⟩ := readBody_eof ‹_›
      rcases mem_afterAuth h with rfl | ⟨h1, h2, rfl⟩
      · exact .copyFail ‹_›
      · exact .copyOk ‹_› h1 h2
    · cases List.mem_singleton.mp h; exact .copyErr _ ‹_›
  · simp only [mUrl] at h
    split at h <;> cases List.mem_singleton.mp h
    · exact .urlErr ‹_›
    · exact .url ‹_›
  · simp only [mSend, List.mem_append] at h
    rcases h with h | h
    · split at h
      · cases List.mem_singleton.mp h; exact .sendFail _ (by simp) (by simp)
      · cases h
    · split at h <;> cases List.mem_singleton.mp h
      · exact .sendFail _ (by simp) (by simp)
      · exact .send (by simp_all)
  · have hsr : s' ∈ sendRead p s → Step p s .sendBody s' := by
      intro hs
      simp only [sendRead] at hs
      split at hs
      · cases List.mem_singleton.mp hs; exact .sendData _ ‹_›
      · cases hs
      · obtain ⟨rfl, -⟩ := readBody_eof ‹_›
        cases List.mem_singleton.mp hs; exact .sendEof ‹_›
      · cases List.mem_singleton.mp hs; exact .sendErr _ ‹_›
    simp only [mSendBody, List.mem_append] at h
    rcases h with h | h
    · split at h
      · cases List.mem_singleton.mp h; exact .bodyFail _ (by simp) (by simp)
      · cases h
    · split at h
      · split at h
        · cases List.mem_singleton.mp h; exact .bodyFail _ (by simp) (by simp)
        · exact hsr h
      · split at h
        · cases h
        · exact hsr h
      · exact hsr h
  · simp only [mAwait, List.mem_append] at h
    rcases h with h | h
    · split at h
      · cases List.mem_singleton.mp h; exact .awaitCtx
      · cases h
    · split at h
      · cases h
      · cases List.mem_singleton.mp h; exact .headers _ _ ‹_›
  · simp only [mReading] at h
    split at h
    · cases List.mem_singleton.mp h; exact .readerDone _ (.inl ⟨by simp_all, rfl⟩)
    · split at h
      · cases List.mem_singleton.mp h; exact .readerData _ (by simp_all) ‹_›
      · cases List.mem_singleton.mp h; exact .readerDone _ (.inr ‹_›)
      · cases List.mem_singleton.mp h; exact .readerErr _ ‹_›
      · cases h
  · simp only [mDraining] at h
    split at h
    · split at h
      · cases List.mem_singleton.mp h; exact .drainData _ ‹_›
      · cases List.mem_singleton.mp h; exact .drainEnd _ (.inl ⟨by simp_all, .inl ‹_›⟩)
      · cases List.mem_singleton.mp h; exact .drainEnd _ (.inl ⟨by simp_all, .inr ‹_›⟩)
      · cases h
    · cases List.mem_singleton.mp h; exact .drainEnd _ (.inr ⟨by simp_all, rfl⟩)
  · simp only [mClosing] at h
    cases List.mem_singleton.mp h; exact .close
  · cases h

theorem BgStep.of_mem {p : Plan} {s s' : St} (h : s' ∈ gSteps s ++ cSteps p s) : BgStep p s s' := by
  rcases List.mem_append.mp h with h | h
  · simp only [gSteps] at h
    split at h
    · cases List.mem_singleton.mp h; exact .gFailRead _ ‹_›
    · split at h
      · cases List.mem_singleton.mp h; exact .gClosedPipe _ _ _ ‹_› (by simp) (by simp_all) (.inl rfl)
      · cases h
    · split at h
      · cases List.mem_singleton.mp h; exact .gClosedPipe _ _ _ ‹_› (by simp) (by simp_all) (.inr rfl)
      · cases h
    · cases List.mem_singleton.mp h; exact .gTrailer ‹_›
    · split at h
      · cases List.mem_singleton.mp h; exact .gDone ‹_› (by simp_all)
      · cases h
    · cases h
  · simp only [cSteps] at h
    split at h
    · cases List.mem_singleton.mp h; exact .ctx (by simp_all) (by simp_all)
    · cases h

/-- `Inv` as one conjunction: the form in which a single `grind` call can establish all of it. -/
def InvC (p : Plan) (s : St) : Prop :=
  (s.pr = .none ↔ s.g = .idle) ∧
  (p.startsWriter = false → s.g = .idle) ∧
  (pre s.ph = true → s.g = .idle ∧ s.fileCloses = 0 ∧ s.streamCloses = 0 ∧ s.bodyInBuf = false
    ∧ s.streamLeft = 0 ∧ s.bufLeft = 0) ∧
  (s.g = .idle → p.startsWriter = true → pre s.ph = true ∨ s.res = some .writer) ∧
  (s.res = some .writer → s.fileCloses = 1 ∧ s.g = .idle) ∧
  (∀ t, s.g = .run t → s.fileCloses = 0) ∧
  ((s.g = .trailer ∨ s.g = .done) → s.fileCloses = 1) ∧
  ((midBody s.ph = true ∨ s.ph = .returned) → s.pr ≠ .open) ∧
  (s.g.alive = true → midBody s.ph = false ∧ s.haveResp = false ∧ s.bodyInBuf = false) ∧
  (s.srcFailed = true → s.haveResp = false ∧ midBody s.ph = false ∧
    (s.ph = .returned ∨ (s.pwErr = true ∧ s.g = .done ∧ s.bodyInBuf = false))) ∧
  (s.ph = .authCopy → s.bodyInBuf = false) ∧
  (p.streamSrc.isSome = true →
    s.streamCloses = (if s.bodyInBuf || midBody s.ph || s.ph == .returned then 1 else 0)) ∧
  ((s.ph = .reading ∨ s.ph = .draining ∨ s.ph = .closing) → s.haveResp = true) ∧
  (s.haveResp = true → s.ph = .reading ∨ s.ph = .draining ∨ s.ph = .closing ∨ s.ph = .returned) ∧
  (s.haveResp = false → s.bodyLeft = 0) ∧
  ((s.ph ≠ .returned ∨ s.haveResp = false) → s.bodyCloses = 0) ∧
  (s.ph = .returned → s.haveResp = true → s.bodyCloses = 1 ∧ (p.reuse = true → s.endAtClose = true)) ∧
  (s.seenEOF = true → s.bodyAtEnd = true) ∧
  (s.ph = .closing → p.reuse = true → s.bodyAtEnd = true) ∧
  (s.ph = .reading → p.readN = none → s.readLeft = none) ∧
  ((s.ph = .draining ∨ s.ph = .closing) → s.pending = .none → complete p s) ∧
  (s.res = some .none → s.haveResp = true ∧ complete p s) ∧
  (s.res = none ↔ s.ph ≠ .returned) ∧
  (s.ph = .returned → s.entered = true → s.released = true) ∧
  (s.entered = true → preSend s.ph = false) ∧
  s.bufLeft ≤ 1 ∧
  (s.bodyInBuf = true → s.g.alive = false ∧ s.pr ≠ .open) ∧
  (s.pending = .none ∨ s.pending = .reader ∨ s.pending = .bodyRead)

theorem inv_iff {p : Plan} {s : St} : Inv p s ↔ InvC p s :=
  ⟨fun ⟨h1, h2, h3, h4, h5, h6, h7, h8, h9, h10, h11, h12, h13, h14, h15, h16, h17, h18, h19, h20, h21, h22,
      h23, h24, h25, h26, h27, h28⟩ =>
    ⟨h1, h2, h3, h4, h5, h6, h7, h8, h9, h10, h11, h12, h13, h14, h15, h16, h17, h18, h19, h20, h21, h22,
      h23, h24, h25, h26, h27, h28⟩,
   fun ⟨h1, h2, h3, h4, h5, h6, h7, h8, h9, h10, h11, h12, h13, h14, h15, h16, h17, h18, h19, h20, h21, h22,
      h23, h24, h25, h26, h27, h28⟩ =>
    ⟨h1, h2, h3, h4, h5, h6, h7, h8, h9, h10, h11, h12, h13, h14, h15, h16, h17, h18, h19, h20, h21, h22,
      h23, h24, h25, h26, h27, h28⟩⟩

/-! ### every transition preserves `Inv`

One `grind` call per transition: it unfolds the successor and splits once for each of the 28 conjuncts of
`InvC` (hence the bound on splits), and on the outcome of the read where there is one.  The phases come in
four groups only so that each declaration stays within the default heartbeat limit. -/

attribute [local grind] InvC pre midBody preSend G.alive complete bodyKind Plan.streamSrc
  ret release closeReqBody finish failDo copied gFail readerReturn
attribute [local grind =] fact_release fact_defer

theorem Inv.step_prepare {p : Plan} {s s' : St} {ph : Ph} (hwf : p.WF) (hI : Inv p s) (hph : s.ph = ph)
    (hc : ph = .start ∨ ph = .choose ∨ ph = .auth ∨ ph = .url) (h : Step p s ph s') : Inv p s' := by
  rw [inv_iff] at hI ⊢
  have hws := @wf_stream p hwf
  rcases hc with rfl | rfl | rfl | rfl <;> cases h <;> grind (splits := 32)

theorem Inv.step_copy {p : Plan} {s s' : St} (hwf : p.WF) (hI : Inv p s) (hph : s.ph = .authCopy)
    (h : Step p s .authCopy s') : Inv p s' := by
  rw [inv_iff] at hI ⊢
  have hws := @wf_stream p hwf
  cases h with
  | copyData s1 h => have := readBody_data h; grind (splits := 32)
  | copyFail h => have := readBody_eof h; grind (splits := 32)
  | copyOk h => have := readBody_eof h; grind (splits := 32)
  | copyErr s1 h => have := readBody_err h; grind (splits := 32)

theorem Inv.step_send {p : Plan} {s s' : St} {ph : Ph} (hwf : p.WF) (hI : Inv p s) (hph : s.ph = ph)
    (hc : ph = .send ∨ ph = .sendBody) (h : Step p s ph s') : Inv p s' := by
  rw [inv_iff] at hI ⊢
  have hws := @wf_stream p hwf
  rcases hc with rfl | rfl
  · cases h <;> grind (splits := 32)
  · cases h with
    | bodyFail o h1 h2 => grind (splits := 32)
    | sendData s1 h => have := readBody_data h; grind (splits := 32)
    | sendEof h => have := readBody_eof h; grind (splits := 32)
    | sendErr s1 h => have := readBody_err h; grind (splits := 32)

theorem Inv.step_response {p : Plan} {s s' : St} {ph : Ph} (hI : Inv p s) (hph : s.ph = ph)
    (hc : ph = .await ∨ ph = .reading ∨ ph = .draining ∨ ph = .closing) (h : Step p s ph s') : Inv p s' := by
  rw [inv_iff] at hI ⊢
  have hd := @bodyRead_data p s
  have he := @bodyRead_eof p s
  have hr := @bodyRead_err p s
  rcases hc with rfl | rfl | rfl | rfl <;> cases h <;> grind (splits := 32)

theorem Inv.bgStep {p : Plan} {s s' : St} (hI : Inv p s) (h : BgStep p s s') : Inv p s' := by
  rw [inv_iff] at hI ⊢
  cases h <;> grind (splits := 32)

theorem Inv.step {p : Plan} {s s' : St} (hwf : p.WF) (hI : Inv p s) (h : s' ∈ succs p s) : Inv p s' := by
  rw [succs, List.append_assoc] at h
  rcases List.mem_append.mp h with h | h
  · have hs := Step.of_mem h
    generalize hph : s.ph = ph at hs
    cases ph
    case start => exact hI.step_prepare hwf hph (.inl rfl) hs
    case choose => exact hI.step_prepare hwf hph (.inr (.inl rfl)) hs
    case auth => exact hI.step_prepare hwf hph (.inr (.inr (.inl rfl))) hs
    case authCopy => exact hI.step_copy hwf hph hs
    case url => exact hI.step_prepare hwf hph (.inr (.inr (.inr rfl))) hs
    case send => exact hI.step_send hwf hph (.inl rfl) hs
    case sendBody => exact hI.step_send hwf hph (.inr rfl) hs
    case await => exact hI.step_response hph (.inl rfl) hs
    case reading => exact hI.step_response hph (.inr (.inl rfl)) hs
    case draining => exact hI.step_response hph (.inr (.inr (.inl rfl))) hs
    case closing => exact hI.step_response hph (.inr (.inr (.inr rfl))) hs
    case returned => cases hs
  · exact hI.bgStep (.of_mem h)

theorem inv_reach {p : Plan} {s : St} (hwf : p.WF) (h : Reach p s) : Inv p s := by
  induction h with
  | init => exact inv_init p
  | step _ hs ih => exact ih.step hwf hs

end RtVerif.C12
