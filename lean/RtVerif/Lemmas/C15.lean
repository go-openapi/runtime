import RtVerif.Model.C15
/-
  The loops on the scripted streams of a case in closed form; what one value written out, a stream
  copied and a stream buffered look like to the Spec (`Wrote`, `Core.*`); the kind tables against
  the dispatch table; the four codec bodies by class (`bc_core` … `tp_core`); what is observed of a
  call in terms of its body (`consume_obs`, `produce_obs`), and from these `model_spec`.
-/
namespace RtVerif.C15
open RtVerif Bytes _root_.RtVerif.Stream

/-- Open: not closed yet. -/
def Open (r : Src) : Prop := r.checksClosed = true ∧ r.closes = 0

theorem Open.inv {r : Src} (h : Open r) : srcSemAny.Inv r := ⟨fun _ => h.2, Or.inl h.1⟩

theorem case_open (c : Case) : Open c.src := ⟨rfl, rfl⟩

theorem minRead_pos : 0 < minRead := by unfold minRead; omega

theorem fuel_gt (r : Src) : srcSemAny.mu r < fuel r := Nat.lt_succ_self _

theorem readAll_fst (r : Src) (h : Open r) : (readAll r).1 = (r.data, eofNil r.term, false) :=
  (readFromLoop_spec src_rlaws _ (fun _ => minRead_pos) (fuel r) 0 r h.inv (fuel_gt r)).1

theorem readAll_closes (r : Src) (h : Open r) : (readAll r).2.closes = r.closes :=
  have ⟨_, _, _, _, hc⟩ := readFromLoop_spec src_rlaws _ (fun _ => minRead_pos) (fuel r) 0 r h.inv (fuel_gt r)
  hc

theorem copyAll_post (r : Src) (w : Snk) (h : Open r) : CopyPost srcSemAny r w (copyAll r w) :=
  copyLoop_spec src_rlaws (fuel r) r w h.inv (fuel_gt r)

theorem eofNil_ne {t : Err} (h : t ≠ .eof) : eofNil t = some t := if_neg h

/-- The bodies that buffer their input first (`bcBuffered`, `tcInner`), `store` being what they do
with the buffered bytes. -/
def buffered (store : Bytes → Bytes → Res × Bytes) (st : St) : Res × St :=
  if (readAll st.r).1.2.2 then (.hang, { st with r := (readAll st.r).2 })
  else match (readAll st.r).1.2.1 with
    | some e => (.rd e, { st with r := (readAll st.r).2 })
    | none =>
      ((store st.val (readAll st.r).1.1).1,
       { st with val := (store st.val (readAll st.r).1.1).2, r := (readAll st.r).2 })

theorem bcBuffered_eq (f : Feat) (flag : Nat) (st : St) :
    bcBuffered f flag st = buffered (bcStore f flag) st := rfl

theorem tcInner_eq (f : Feat) (flag : Nat) (st : St) :
    tcInner f flag st = buffered (tcStore f flag) st := rfl

theorem buffered_w (store : Bytes → Bytes → Res × Bytes) (st : St) : (buffered store st).2.w = st.w := by
  unfold buffered
  split
  · rfl
  · split <;> rfl

/-- A body that reads the stream of `st` to its end and does nothing else: on EOF the result is `r`
and the value holds `v`, otherwise the stream's error is the result. -/
structure ReadsAll (st : St) (x : Res × St) (r : Res) (v : Bytes) : Prop where
  eof : st.r.term = .eof → x.1 = r ∧ x.2.val = v
  err : st.r.term ≠ .eof → x.1 = .rd st.r.term
  w : x.2.w = st.w
  closes : x.2.r.closes = st.r.closes

theorem buffered_reads (store : Bytes → Bytes → Res × Bytes) (st : St) (h : Open st.r) :
    ReadsAll st (buffered store st) (store st.val st.r.data).1 (store st.val st.r.data).2 := by
  refine ⟨fun ht => ?_, fun ht => ?_, buffered_w store st, ?_⟩
  · unfold buffered
    rw [readAll_fst st.r h, ht]
    exact ⟨rfl, rfl⟩
  · unfold buffered
    rw [readAll_fst st.r h, eofNil_ne ht]
    rfl
  · unfold buffered
    rw [← readAll_closes st.r h]
    split
    · rfl
    · split <;> rfl

/-- The `io.ReaderFrom` branch of the byte-stream consumer. -/
theorem readFrom_reads (st : St) (h : Open st.r) :
    ReadsAll st (resRead (readAll st.r).1, { st with val := st.val ++ (readAll st.r).1.1, r := (readAll st.r).2 })
      .ok (st.val ++ st.r.data) := by
  refine ⟨fun ht => ?_, fun ht => ?_, rfl, readAll_closes st.r h⟩
  · rw [readAll_fst st.r h, ht]
    exact ⟨rfl, rfl⟩
  · rw [readAll_fst st.r h]
    unfold resRead
    rw [eofNil_ne ht]
    rfl

/-- The value `p` handed to the writer `w` in one piece, by `Write` (`writeOnce`) or by `WriteTo`
(`bufWriteTo`): result `r`, writer afterwards `w'`. -/
structure Wrote (w : Snk) (p : Bytes) (r : Res) (w' : Snk) : Prop where
  got : ∃ m, w'.got = w.got ++ p.take m
  ok_all : w.lie = false → r = .ok → w'.got = w.got ++ p
  faultFree : w.faultFree = true → r = .ok ∧ w'.got = w.got ++ p
  res : r = .ok ∨ r.isWriteError = true
  closes : w'.closes = w.closes
  within : ∀ l, w.limit = some l → w.got.length ≤ l → w'.got.length ≤ l

theorem writeOnce_closes (w : Snk) (p : Bytes) : (writeOnce w p).2.closes = w.closes := rfl

theorem writeOnce_wrote (w : Snk) (p : Bytes) : Wrote w p (writeOnce w p).1 (writeOnce w p).2 := by
  unfold writeOnce
  cases h : (w.write p).1.2 with
  | none =>
    exact ⟨⟨_, rfl⟩, fun hl _ => (w.write_took p (w.write_ok_full p hl h)).got,
      fun hff => ⟨rfl, (w.write_took p (w.accept_faultFree _ hff)).got⟩, .inl rfl, rfl, w.write_within p⟩
  | some e =>
    exact ⟨⟨_, rfl⟩, fun _ hr => (nomatch hr), fun hff => (nomatch (w.write_faultFree_ok p hff).1.symm.trans h),
      .inr rfl, rfl, w.write_within p⟩

/-- `WriteTo` also checks the count, so a lying writer does not make it report success. -/
theorem bufWriteTo_wrote (content : Bytes) (w : Snk) :
    Wrote w content (bufWriteTo content w).1 (bufWriteTo content w).2.2 := by
  unfold bufWriteTo
  split
  · rename_i he
    rw [List.isEmpty_iff] at he
    subst he
    exact ⟨⟨0, by simp⟩, fun _ _ => by simp, fun _ => ⟨rfl, by simp⟩, .inl rfl, rfl, fun _ _ h => h⟩
  · split
    · rename_i e he
      exact ⟨⟨_, rfl⟩, fun _ h => (nomatch h),
        fun hff => (nomatch (w.write_faultFree_ok content hff).1.symm.trans he), .inr rfl, rfl,
        w.write_within content⟩
    · split
      · rename_i hs
        exact ⟨⟨_, rfl⟩, fun _ h => (nomatch h), fun hff => absurd (w.write_faultFree_ok content hff).2 hs,
          .inr rfl, rfl, w.write_within content⟩
      · rename_i hs
        have hs := (w.write_took content (Decidable.of_not_not hs)).got
        exact ⟨⟨_, rfl⟩, fun _ _ => hs, fun _ => ⟨rfl, hs⟩, .inl rfl, rfl, w.write_within content⟩

theorem specStored_iff {c : Case} {o : Obs} {s : Bytes} :
    specStored c o s = true ↔
    (c.rterm = .eof → o.res = .ok ∧ o.val = s) ∧ (c.rterm ≠ .eof → o.res = .rd c.rterm) := by
  grind [specStored]

/-- One value `p` written out, as `specWritten` reads it. -/
def Written (c : Case) (o : Obs) (p : Bytes) : Prop :=
  o.wgot <+: p ∧ (c.wlie = false → o.res = .ok → o.wgot = p) ∧
  (c.snkFaultFree = true → o.res = .ok ∧ o.wgot = p) ∧ (o.res = .ok ∨ o.res.isWriteError = true)

theorem specWritten_iff {c : Case} {o : Obs} {p : Bytes} : specWritten c o p = true ↔ Written c o p := by
  grind [specWritten, Written]

/-- A stream copied into the case's writer, as `specDst … .sink` and `specSrc … .stream` read it. -/
def Copied (c : Case) (o : Obs) : Prop :=
  o.wgot <+: c.rdata ∧
  (c.wlie = false → o.res = .ok → o.wgot = c.rdata ∧ c.rterm = .eof) ∧
  (c.rterm = .eof → c.snkFaultFree = true → o.res = .ok) ∧
  (c.rterm ≠ .eof → o.res = .rd c.rterm ∨ o.res.isWriteError = true)

theorem specCopied_iff {c : Case} {o : Obs} : specDst c o .sink = true ↔ Copied c o := by
  grind [specDst, Copied]

theorem specUnmarshal_iff {c : Case} {o : Obs} :
    specDst c o .unmarshal = true ↔
    (c.rterm = .eof → c.flag = 0 → o.res = .ok) ∧
    (o.res = .ok → c.rterm = .eof ∧
      ((c.flag = 0 ∧ o.val = c.rdata) ∨ (c.codec = .text ∧ c.rdata = [] ∧ o.val = c.content))) ∧
    (c.rterm ≠ .eof → o.res = .rd c.rterm) := by
  grind [specDst]

def st0 (c : Case) : St := ⟨c.content, c.src, c.snk⟩

/-- What is observed of the outcome `x` of a body after `rk` further `Close` calls on the reader
and `wk` on the writer. -/
def obsOf (x : Res × St) (rk wk : Nat) : Obs :=
  ⟨x.1, x.2.val, x.2.r.closes + rk, x.2.r.data.length, x.2.w.closes + wk, x.2.w.got, true⟩

/-- What the Spec asks of the outcome `x` of a body run on `st0 c`: no panic, no hang, it closed the
reader `n` times and the writer never, it kept within the writer's capacity, and the class clause
`cl` holds of it whatever is closed afterwards. -/
structure Core (c : Case) (x : Res × St) (n : Nat) (cl : Obs → Bool) : Prop where
  live : x.1 ≠ .panic ∧ x.1 ≠ .hang
  rcloses : x.2.r.closes = n
  wcloses : x.2.w.closes = 0
  within : ∀ l, c.wlimit = some l → x.2.w.got.length ≤ l
  clause : ∀ rk wk, cl (obsOf x rk wk) = true

theorem isError_live {r : Res} (h : r.isError = true) : r ≠ .panic ∧ r ≠ .hang := by
  cases r <;> simp [Res.isError] at h ⊢

theorem Core.mono {c : Case} {x : Res × St} {n : Nat} {cl cl' : Obs → Bool} (h : Core c x n cl)
    (hcl : ∀ o, cl o = true → cl' o = true) : Core c x n cl' :=
  ⟨h.live, h.rcloses, h.wcloses, h.within, fun rk wk => hcl _ (h.clause rk wk)⟩

theorem Core.refused {c : Case} {x : Res × St} {cl : Obs → Bool} (hr : x.1.isError = true) (hst : x.2 = st0 c)
    (hcl : ∀ o : Obs, o.res = x.1 → o.wgot = [] → cl o = true) : Core c x 0 cl := by
  obtain ⟨r, st⟩ := x
  subst hst
  exact ⟨isError_live hr, rfl, rfl, fun _ _ => Nat.zero_le _, fun _ _ => hcl _ rfl rfl⟩

theorem Core.wrote {c : Case} {x : Res × St} {p : Bytes} (h : Wrote c.snk p x.1 x.2.w)
    (hr : x.2.r.closes = 0) : Core c x 0 (specWritten c · p) := by
  refine ⟨?_, hr, h.closes, fun l hl => h.within l hl (Nat.zero_le _),
    fun rk wk => specWritten_iff.mpr ⟨?_, ?_, ?_, h.res⟩⟩
  · have := h.res
    revert this
    cases x.1 <;> simp [Res.isWriteError]
  · obtain ⟨m, hm⟩ := h.got
    show x.2.w.got <+: p
    rw [hm]
    exact List.take_prefix m p
  · exact fun hl hok => (h.ok_all hl hok).trans (List.nil_append p)
  · exact fun hff => ⟨(h.faultFree hff).1, (h.faultFree hff).2.trans (List.nil_append p)⟩

theorem copied_of_post {c : Case} {x : (Option CErr × Bool) × Src × Snk} {o : Obs}
    (P : CopyPost srcSemAny c.src c.snk x) (hr : o.res = resCopy x.1) (hg : o.wgot = x.2.2.got) :
    Copied c o ∧ o.res ≠ .panic ∧ o.res ≠ .hang := by
  obtain ⟨⟨e, b⟩, s', w'⟩ := x
  obtain ⟨p, q, hpq, hgot⟩ := P.prefix_
  obtain rfl : b = false := P.noHang
  refine ⟨⟨?_, fun hl hok => ?_, fun ht hff => ?_, fun ht => ?_⟩, ?_⟩
  · rw [hg, hgot]
    exact (show c.rdata = p ++ q from hpq) ▸ List.prefix_append p q
  · have he : e = none := by
      cases e with
      | none => rfl
      | some e => cases e <;> exact nomatch hr.symm.trans hok
    exact ⟨hg.trans ((P.ok_all hl he).trans (List.nil_append _)), P.ok_eof he⟩
  · have he : e = copyEnd c.rterm := (P.faultFree hff).1
    rw [hr, he, ht]
    rfl
  · cases e with
    | none => exact absurd (P.ok_eof rfl) ht
    | some e =>
      cases e with
      | rd e' => exact .inl (hr.trans (congrArg Res.rd (P.rd_err e' rfl).1))
      | wr e' => exact .inr (by rw [hr]; rfl)
      | short => exact .inr (by rw [hr]; rfl)
  · rw [hr]
    cases e with
    | none => exact ⟨nofun, nofun⟩
    | some e => cases e <;> exact ⟨nofun, nofun⟩

theorem Core.copied {c : Case} {x : Res × St} (h1 : x.1 = resCopy (copyAll c.src c.snk).1)
    (h2 : x.2.r = (copyAll c.src c.snk).2.1) (h3 : x.2.w = (copyAll c.src c.snk).2.2) :
    Core c x 0 (specDst c · .sink) := by
  have P := copyAll_post c.src c.snk (case_open c)
  have H := fun rk wk => copied_of_post (o := obsOf x rk wk) P h1 (congrArg Snk.got h3)
  refine ⟨(H 0 0).2, ?_, ?_, fun l hl => ?_, fun rk wk => specCopied_iff.mpr (H rk wk).1⟩
  · rw [h2]; exact P.frame.1
  · rw [h3]; exact P.frame.2.1
  · rw [h3]; exact P.within l hl (Nat.zero_le _)

theorem Core.ofRead {c : Case} {x : Res × St} {r : Res} {v : Bytes} {cl : Obs → Bool}
    (h : ReadsAll (st0 c) x r v) (hl : r ≠ .panic ∧ r ≠ .hang)
    (hcl : ∀ o : Obs, (c.rterm = .eof → o.res = r ∧ o.val = v) → (c.rterm ≠ .eof → o.res = .rd c.rterm) →
      cl o = true) : Core c x 0 cl := by
  refine ⟨?_, h.closes, ?_, fun l _ => ?_, fun _ _ => hcl _ h.eof h.err⟩
  · by_cases ht : c.rterm = .eof
    · rw [(h.eof ht).1]; exact hl
    · rw [h.err ht]; simp
  · rw [h.w]; rfl
  · rw [h.w]; exact Nat.zero_le _

theorem Core.stored {c : Case} {x : Res × St} {v : Bytes} (h : ReadsAll (st0 c) x .ok v) :
    Core c x 0 (specStored c · v) :=
  .ofRead h ⟨nofun, nofun⟩ fun _ h1 h2 => specStored_iff.mpr ⟨h1, h2⟩

theorem Core.notStored {c : Case} {x : Res × St} {r : Res} {v : Bytes} (h : ReadsAll (st0 c) x r v)
    (hr : r.isError = true) : Core c x 0 (·.res.isError) := by
  refine .ofRead h (isError_live hr) fun o h1 h2 => ?_
  by_cases ht : c.rterm = .eof
  · rw [(h1 ht).1]; exact hr
  · rw [h2 ht]; rfl

/-- A data value that gets past the nil checks of a body. -/
def Live (f : Feat) : Prop := f.ty ≠ .nil ∧ f.nilPtr = false

instance (f : Feat) : Decidable (Live f) := by unfold Live; infer_instance

/-- A live value that is neither a ReaderFrom nor a Writer: the byte-stream consumer buffers for it. -/
def Generic (f : Feat) : Prop := Live f ∧ f.readerFrom = false ∧ f.writer = false

/-- What each class of `bcDst` says of the kind's features and of `bcStore`. This table and the three
after it are stated as a `match` on the class: a user takes `T := bc_kinds k`, splits with
`cases hcls : bcDst k`, and gets the row by `rw [hcls] at T; simp only at T`. -/
theorem bc_kinds (k : K) :
    match bcDst k with
    | .replace => Generic (feat k) ∧ ∀ flag pre b, bcStore (feat k) flag pre b = (.ok, b)
    | .unmarshal => Generic (feat k) ∧ ∀ flag pre b,
        bcStore (feat k) flag pre b = (if flag = 0 then (.ok, b) else (.mar flag false, pre))
    | .append => Live (feat k) ∧ (feat k).readerFrom = true
    | .sink => Live (feat k) ∧ (feat k).readerFrom = false ∧ (feat k).writer = true
    | .unsupported => ¬Live (feat k) ∨
        (Generic (feat k) ∧ ∀ flag pre b, (bcStore (feat k) flag pre b).1.isError = true) := by
  cases k <;> simp [bcDst, Generic, Live, feat, bcStore, Res.isError]

theorem tc_kinds (k : K) :
    match tcDst k with
    | .replace => ∀ flag pre b, tcStore (feat k) flag pre b = (.ok, b)
    | .unmarshal => ∀ flag pre b, tcStore (feat k) flag pre b =
        (if b.isEmpty then (.ok, pre) else if flag = 0 then (.ok, b) else (.mar flag true, pre))
    | .unsupported => ∀ flag pre b, (tcStore (feat k) flag pre b).1.isError = true
    | _ => False := by
  cases k <;> simp [tcDst, feat, tcStore, Res.isError]

/-- What the producers do with a live value of class `cls` (the byte-stream producer: unless it
is an `io.WriterTo`); `txt`: the text codec, which wraps a marshalling error. -/
def srcForm (txt : Bool) (cls : SrcClass) (flag : Nat) (aux : Option Bytes) (st : St) : Res × St :=
  match cls with
  | .bytes => setW st (writeOnce st.w st.val)
  | .errText => setW st (writeOnce st.w (ePre ++ st.val))
  | .marshal => if flag = 0 then setW st (writeOnce st.w st.val) else (.mar flag txt, st)
  | .json => jsonWrite aux st
  | .stream => (resCopy (copyAll st.r st.w).1, { st with r := (copyAll st.r st.w).2.1, w := (copyAll st.r st.w).2.2 })
  | .unsupported => (.unsup, st)

theorem bp_kinds (k : K) :
    if Live (feat k) then
      ((feat k).writerTo = true → bpSrc k = .bytes) ∧ ∀ flag aux st, bpDispatch (feat k) flag aux st =
        if (feat k).writerTo = true then
          ((bufWriteTo st.val st.w).1, { st with val := (bufWriteTo st.val st.w).2.1, w := (bufWriteTo st.val st.w).2.2 })
        else srcForm false (bpSrc k) flag aux st
    else bpSrc k = .unsupported := by
  cases k <;> simp [bpSrc, Live, feat, bpDispatch, srcForm, Ty.base]

theorem tp_kinds (k : K) :
    match tpSrc k with
    | .unsupported => ∀ flag aux st,
        (tpInner (feat k) flag aux st).1.isError = true ∧ (tpInner (feat k) flag aux st).2 = st
    | cls => ∀ flag aux st, tpInner (feat k) flag aux st = srcForm true cls flag aux st := by
  cases k <;> simp [tpSrc, feat, tpInner, srcForm, Ty.base, Res.isError]

theorem closable_eq (k : K) :
    k.closable = (decide (Live (feat k)) && (feat k).reader && (feat k).closer) := by
  cases k <;> rfl

theorem bcInner_live {f : Feat} (flag : Nat) (st : St) (h : Live f) :
    bcInner f flag st = bcDispatch f flag st := by
  unfold bcInner
  rw [if_neg h.1, h.2]
  rfl

theorem bcInner_dead {f : Feat} (flag : Nat) (st : St) (h : ¬Live f) :
    (bcInner f flag st).1.isError = true ∧ (bcInner f flag st).2 = st := by
  unfold bcInner
  by_cases h1 : f.ty = .nil
  · rw [if_pos h1]; exact ⟨rfl, rfl⟩
  · rw [if_neg h1, if_pos (by cases h2 : f.nilPtr; exact absurd ⟨h1, h2⟩ h; rfl)]; exact ⟨rfl, rfl⟩

theorem bcInner_generic {f : Feat} (flag : Nat) (st : St) (h : Generic f) :
    bcInner f flag st = buffered (bcStore f flag) st := by
  rw [bcInner_live flag st h.1]
  unfold bcDispatch
  rw [h.2.1, h.2.2]
  exact bcBuffered_eq f flag st

theorem bc_core (c : Case) :
    Core c (bcInner (feat c.kind) c.flag (st0 c)) 0 (specDst c · (bcDst c.kind)) := by
  have T := bc_kinds c.kind
  have ho : Open (st0 c).r := case_open c
  have hb := buffered_reads (bcStore (feat c.kind) c.flag) (st0 c) ho
  cases hcls : bcDst c.kind <;> rw [hcls] at T <;> simp only at T
  case unsupported =>
    rcases T with hd | ⟨hg, hs⟩
    · have := bcInner_dead c.flag (st0 c) hd
      exact .refused this.1 this.2 fun o h _ => (congrArg Res.isError h).trans this.1
    · rw [bcInner_generic _ _ hg]
      exact .notStored hb (hs _ _ _)
  case replace =>
    rw [bcInner_generic _ _ T.1]
    rw [T.2] at hb
    exact .stored hb
  case append =>
    rw [bcInner_live _ _ T.1]
    unfold bcDispatch
    rw [if_pos T.2]
    exact .stored (readFrom_reads _ ho)
  case sink =>
    rw [bcInner_live _ _ T.1]
    unfold bcDispatch
    rw [T.2.1, if_pos T.2.2]
    exact .copied rfl rfl rfl
  case unmarshal =>
    rw [bcInner_generic _ _ T.1]
    rw [T.2] at hb
    refine .ofRead hb (by split <;> exact ⟨nofun, nofun⟩) fun o h1 h2 => ?_
    by_cases ht : c.rterm = .eof
    · obtain ⟨hr, hv⟩ := h1 ht
      by_cases hf : c.flag = 0 <;> simp [specDst, ht, hf, hr, hv, st0, Case.src]
    · simp [specDst, ht, h2 ht]

theorem tc_core (c : Case) (hc : c.codec = .text) :
    Core c (tcInner (feat c.kind) c.flag (st0 c)) 0 (specDst c · (tcDst c.kind)) := by
  have T := tc_kinds c.kind
  have hb := buffered_reads (tcStore (feat c.kind) c.flag) (st0 c) (case_open c)
  rw [tcInner_eq]
  cases hcls : tcDst c.kind <;> rw [hcls] at T <;> simp only at T
  case unsupported =>
    exact .notStored hb (T _ _ _)
  case replace =>
    rw [T] at hb
    exact .stored hb
  case unmarshal =>
    rw [T] at hb
    refine .ofRead hb (by split; exact ⟨nofun, nofun⟩; split <;> exact ⟨nofun, nofun⟩) fun o h1 h2 => ?_
    by_cases ht : c.rterm = .eof
    · obtain ⟨hr, hv⟩ := h1 ht
      by_cases he : c.rdata = [] <;> by_cases hf : c.flag = 0 <;>
        simp [specDst, ht, hf, he, hr, hv, hc, st0, Case.src]
    · simp [specDst, ht, h2 ht]

theorem bpInner_dead {f : Feat} (flag : Nat) (aux : Option Bytes) (st : St) (h : ¬Live f) :
    (bpInner f flag aux st).1.isError = true ∧ (bpInner f flag aux st).2 = st := by
  unfold bpInner
  by_cases h1 : f.ty = .nil
  · rw [if_pos h1]; exact ⟨rfl, rfl⟩
  · rw [if_neg h1, if_pos (by cases h2 : f.nilPtr; exact absurd ⟨h1, h2⟩ h; rfl)]; exact ⟨rfl, rfl⟩

/-- Past its nil checks the byte-stream producer is its dispatch, followed by the deferred `Close`
of an `io.ReadCloser` payload. -/
theorem bpInner_core {c : Case} {f : Feat} {flag : Nat} {aux : Option Bytes} {cl : Obs → Bool} (hl : Live f)
    (h : Core c (bpDispatch f flag aux (st0 c)) 0 cl) :
    Core c (bpInner f flag aux (st0 c)) (if (decide (Live f) && f.reader && f.closer) = true then 1 else 0) cl := by
  unfold bpInner
  rw [if_neg hl.1, hl.2, decide_eq_true hl, Bool.true_and]
  cases f.reader && f.closer
  · exact h
  · refine ⟨h.live, congrArg (· + 1) h.rcloses, h.wcloses, h.within, fun rk wk => ?_⟩
    show cl ⟨_, _, _ + 1 + rk, _, _, _, _⟩ = true
    rw [Nat.add_assoc]
    exact h.clause (1 + rk) wk

theorem srcForm_core (c : Case) (txt : Bool) (cls : SrcClass) :
    Core c (srcForm txt cls c.flag c.aux (st0 c)) 0 (specSrc c · cls) := by
  cases cls with
  | bytes => exact .wrote (writeOnce_wrote _ _) rfl
  | errText => exact .wrote (writeOnce_wrote _ _) rfl
  | stream => exact .copied rfl rfl rfl
  | unsupported => exact .refused rfl rfl fun o h _ => (congrArg Res.isError h).trans rfl
  | marshal =>
    unfold srcForm
    by_cases hf : c.flag = 0
    · rw [if_pos hf]
      exact (Core.wrote (writeOnce_wrote _ _) rfl).mono fun o h => by simpa [specSrc, hf, st0] using h
    · rw [if_neg hf]
      exact .refused rfl rfl fun o h1 h2 => by simp [specSrc, hf, h1, h2, Res.isError]
  | json =>
    unfold srcForm jsonWrite
    cases haux : c.aux with
    | none => exact .refused rfl rfl fun o h1 h2 => by simp [specSrc, haux, h1, h2, Res.isError]
    | some j => exact (Core.wrote (writeOnce_wrote _ _) rfl).mono fun o h => by simpa [specSrc, haux] using h

theorem bp_core (c : Case) :
    Core c (bpInner (feat c.kind) c.flag c.aux (st0 c)) (if c.kind.closable = true then 1 else 0)
      (specSrc c · (bpSrc c.kind)) := by
  have T := bp_kinds c.kind
  rw [closable_eq]
  split at T
  · rename_i hl
    refine bpInner_core hl ?_
    rw [T.2]
    split
    · rename_i hwt
      rw [T.1 hwt]
      exact .wrote (bufWriteTo_wrote _ _) rfl
    · exact srcForm_core c false _
  · rename_i hl
    have := bpInner_dead c.flag c.aux (st0 c) hl
    rw [T, decide_eq_false hl]
    exact .refused this.1 this.2 fun o h _ => (congrArg Res.isError h).trans this.1

theorem tp_core (c : Case) :
    Core c (tpInner (feat c.kind) c.flag c.aux (st0 c)) 0 (specSrc c · (tpSrc c.kind)) := by
  have T := tp_kinds c.kind
  split at T
  · rename_i hu
    have := T c.flag c.aux (st0 c)
    rw [hu]
    exact .refused this.1 this.2 fun o h _ => (congrArg Res.isError h).trans this.1
  · rw [T]
    exact srcForm_core c true _

theorem closeR_fields (c : Case) (st : St) :
    (closeR c st).val = st.val ∧ (closeR c st).w = st.w ∧ (closeR c st).r.data = st.r.data ∧
    (closeR c st).r.closes = st.r.closes + (if (c.close && c.stream == .closer) = true then 1 else 0) := by
  unfold closeR
  split <;> exact ⟨rfl, rfl, rfl, rfl⟩

theorem closeW_fields (c : Case) (st : St) :
    (closeW c st).val = st.val ∧ (closeW c st).r = st.r ∧ (closeW c st).w.got = st.w.got ∧
    (closeW c st).w.closes = st.w.closes + (if (c.close && c.stream == .closer) = true then 1 else 0) := by
  unfold closeW
  split <;> exact ⟨rfl, rfl, rfl, rfl⟩

theorem closeAsked_eq (c : Case) :
    c.closeAsked = true ↔ c.codec = .bytestream ∧ c.close = true ∧ c.stream = .closer := by
  unfold Case.closeAsked
  simp [Bool.and_eq_true, and_assoc]

theorem model_idle (c : Case) (h : c.codec = .discard ∨ c.stream = .nil) :
    model c = ⟨if c.codec = .discard then .ok else .noStream, st0 c⟩ := by
  unfold model consume produce
  cases c.dir <;> cases hcd : c.codec <;>
    first | rfl | exact if_pos (h.resolve_left fun e => nomatch hcd.symm.trans e)

/-- The body of a consume / produce call past the stream check. -/
def cBody (c : Case) : Res × St :=
  if c.codec = .bytestream then bcInner (feat c.kind) c.flag (st0 c) else tcInner (feat c.kind) c.flag (st0 c)

def pBody (c : Case) : Res × St :=
  if c.codec = .bytestream then bpInner (feat c.kind) c.flag c.aux (st0 c)
  else tpInner (feat c.kind) c.flag c.aux (st0 c)

/-- The deferred `Close` of the stream is all that comes after the body. -/
theorem consume_obs (c : Case) (hd : c.dir = .consume) (hc : c.codec ≠ .discard) (hs : c.stream ≠ .nil) :
    (model c).obs = obsOf (cBody c) (if c.closeAsked = true then 1 else 0) 0 := by
  unfold model consume cBody Case.closeAsked st0
  rw [hd]
  cases hcd : c.codec with
  | discard => exact absurd hcd hc
  | bytestream =>
    have := closeR_fields c (bcInner (feat c.kind) c.flag ⟨c.content, c.src, c.snk⟩).2
    simp only [if_neg hs, Out.obs, obsOf, this, beq_self_eq_true, Bool.true_and, if_true]
    rfl
  | text => simp [hs, Out.obs, obsOf]

theorem produce_obs (c : Case) (hd : c.dir = .produce) (hc : c.codec ≠ .discard) (hs : c.stream ≠ .nil) :
    (model c).obs = obsOf (pBody c) 0 (if c.closeAsked = true then 1 else 0) := by
  unfold model produce pBody Case.closeAsked st0
  rw [hd]
  cases hcd : c.codec with
  | discard => exact absurd hcd hc
  | bytestream =>
    have := closeW_fields c (bpInner (feat c.kind) c.flag c.aux ⟨c.content, c.src, c.snk⟩).2
    simp only [if_neg hs, Out.obs, obsOf, this, beq_self_eq_true, Bool.true_and, if_true]
    rfl
  | text => simp [hs, Out.obs, obsOf]

/-- The class tables, by codec. -/
def Case.dstClass (c : Case) : DstClass := if c.codec = .bytestream then bcDst c.kind else tcDst c.kind
def Case.srcClass (c : Case) : SrcClass := if c.codec = .bytestream then bpSrc c.kind else tpSrc c.kind

theorem c_core (c : Case) (hc : c.codec ≠ .discard) : Core c (cBody c) 0 (specDst c · c.dstClass) := by
  unfold cBody Case.dstClass
  cases hcd : c.codec with
  | discard => exact absurd hcd hc
  | bytestream => exact bc_core c
  | text => exact tc_core c hcd

theorem p_core (c : Case) (hc : c.codec ≠ .discard) :
    Core c (pBody c) (if c.codec = .bytestream ∧ c.kind.closable = true then 1 else 0) (specSrc c · c.srcClass) := by
  unfold pBody Case.srcClass
  cases hcd : c.codec with
  | discard => exact absurd hcd hc
  | bytestream => simpa using bp_core c
  | text => exact tp_core c

theorem specConsume_of {c : Case} {o : Obs} (hc : c.codec ≠ .discard) (hs : c.stream ≠ .nil)
    (hl : o.res ≠ .panic ∧ o.res ≠ .hang) (hi : o.intact = true)
    (hr : o.rcloses = if c.closeAsked = true then 1 else 0) (hw : o.wcloses = 0)
    (hcl : specDst c o c.dstClass = true) : specConsume c o = true := by
  unfold Case.dstClass at hcl
  unfold specConsume
  cases hcd : c.codec with
  | discard => exact absurd hcd hc
  | _ =>
    simp only [hcd, reduceCtorEq, ↓reduceIte] at hcl
    simp [hl, hi, hr, hw, hs, hcl]
    cases c.closeAsked <;> rfl

theorem specProduce_of {c : Case} {o : Obs} (hc : c.codec ≠ .discard) (hs : c.stream ≠ .nil)
    (hl : o.res ≠ .panic ∧ o.res ≠ .hang) (hi : o.intact = true)
    (hw : o.wcloses = if c.closeAsked = true then 1 else 0)
    (hr : c.codec = .bytestream → c.kind.closable = true → 0 < o.rcloses)
    (hcl : specSrc c o c.srcClass = true) : specProduce c o = true := by
  unfold Case.srcClass at hcl
  unfold specProduce
  cases hcd : c.codec with
  | discard => exact absurd hcd hc
  | text =>
    simp only [hcd, reduceCtorEq, ↓reduceIte] at hcl
    simp [hl, hi, hw, hs, hcl]
    cases c.closeAsked <;> rfl
  | bytestream =>
    have hr' : c.kind.closable = false ∨ 0 < o.rcloses := by
      cases hk : c.kind.closable
      · exact .inl rfl
      · exact .inr (hr hcd hk)
    simp only [hcd, ↓reduceIte] at hcl
    simp [hl, hi, hw, hs, hcl, hr']
    cases c.closeAsked <;> rfl

theorem model_spec (c : Case) : spec c (model c).obs = true := by
  by_cases hc : c.codec = .discard
  · rw [model_idle c (.inl hc), if_pos hc]
    unfold spec specConsume specProduce
    rw [hc]
    cases c.dir <;> simp [specDiscard, Out.obs, st0, Case.src, Case.snk]
  by_cases hs : c.stream = .nil
  · rw [model_idle c (.inr hs), if_neg hc]
    unfold spec specConsume specProduce Case.closeAsked
    cases c.dir <;> cases hcd : c.codec <;>
      first | exact absurd hcd hc | simp [hs, Out.obs, st0, Case.src, Case.snk, Res.isError]
  unfold spec
  cases hd : c.dir with
  | consume =>
    have C := c_core c hc
    rw [consume_obs c hd hc hs]
    exact specConsume_of hc hs C.live rfl ((congrArg (· + _) C.rcloses).trans (Nat.zero_add _)) C.wcloses
      (C.clause _ _)
  | produce =>
    have C := p_core c hc
    rw [produce_obs c hd hc hs]
    refine specProduce_of hc hs C.live rfl ((congrArg (· + _) C.wcloses).trans (Nat.zero_add _))
      (fun hb hk => ?_) (C.clause _ _)
    show 0 < (pBody c).2.r.closes
    rw [C.rcloses, if_pos ⟨hb, hk⟩]
    exact Nat.one_pos

theorem consume_clause (c : Case) (hd : c.dir = .consume) (hc : c.codec ≠ .discard) (hs : c.stream ≠ .nil)
    {cls : DstClass} (hk : c.dstClass = cls) : specDst c (model c).obs cls = true := by
  rw [consume_obs c hd hc hs, ← hk]
  exact (c_core c hc).clause _ _

theorem produce_clause (c : Case) (hd : c.dir = .produce) (hc : c.codec ≠ .discard) (hs : c.stream ≠ .nil)
    {cls : SrcClass} (hk : c.srcClass = cls) : specSrc c (model c).obs cls = true := by
  rw [produce_obs c hd hc hs, ← hk]
  exact (p_core c hc).clause _ _

/-- The byte-stream consumer touches the writer only when the destination is an `io.Writer` that
is reached: not a ReaderFrom, not a typed nil. -/
theorem bcInner_w (f : Feat) (flag : Nat) (st : St) (hw : f.writer = false ∨ f.readerFrom = true ∨ f.nilPtr = true) :
    (bcInner f flag st).2.w = st.w := by
  unfold bcInner
  split
  · rfl
  · split
    · rfl
    · rename_i hn
      unfold bcDispatch
      split
      · rfl
      · rename_i hrf
        split
        · rename_i hwr
          rcases hw with hw | hw | hw
          · rw [hw] at hwr; cases hwr
          · exact absurd hw hrf
          · exact absurd hw hn
        · exact buffered_w _ st

theorem isEmpty_nil_bytes : ([] : Bytes).isEmpty = true := rfl

end RtVerif.C15
