import RtVerif.Base.GoURLParse
import RtVerif.Lemmas.ByteFacts
import RtVerif.Base.GoQuery
/-
  What the hand model of `url.Parse` makes of a rooted string from which it reads no authority: one of
  valid path bytes (`parse_rooted`), and plain text with an optional `?query` (`parse_plain`), both as
  cases of `parse_rooted_query`.
-/
namespace RtVerif.GoURLParse
open RtVerif

theorem ofNat_toNat_lt (c : UInt8) : c.toNat < 256 := c.toNat_lt

/-- every byte `url.PathEscape` can write is accepted by `validEncoded(·, encodePath)` -/
theorem safe_valid (c : UInt8) : GoURL.isSafe false c = true → validEncodedByte c = true := by
  revert c; apply forall_byte; decide +kernel

/-- `?`, `#` and the control bytes are no valid path bytes (the table is consulted for these only) -/
theorem invalid_byte (c : UInt8) :
    (c == 63 || c == 35 || c < 32 || c == 127) = true → validEncodedByte c = false := by
  revert c; apply forall_byte; decide +kernel

theorem valid_plain (c : UInt8) (hv : validEncodedByte c = true) :
    c ≠ 63 ∧ c ≠ 35 ∧ (c < 32 || c == 127) = false := by
  simpa [and_assoc] using mt (invalid_byte c) (by simp [hv])

theorem plain_valid (c : UInt8) (h : shouldEscape .path c = false) : validEncodedByte c = true := by
  simp [validEncodedByte, h]

theorem before_of_not_mem (c : UInt8) (s : Bytes) (h : c ∉ s) : before c s = s :=
  congrArg Prod.fst (GoQuery.cut_of_not_mem c s h)

theorem after_of_not_mem (c : UInt8) (s : Bytes) (h : c ∉ s) : after c s = [] :=
  congrArg Prod.snd (GoQuery.cut_of_not_mem c s h)

theorem splitQuery_of_not_mem (s : Bytes) (h : qmark ∉ s) : splitQuery s = (s, [], false) := by
  simp [splitQuery, List.count_eq_zero.mpr h, before_of_not_mem _ _ h, after_of_not_mem _ _ h]

theorem getScheme_slash (t : Bytes) : getScheme (slash :: t) = some ([], slash :: t) := by
  simp [getScheme, getSchemeGo, isAlpha, isDigit, slash]

theorem unescape_path (s : Bytes) : unescape .path s = GoURL.unescape false s := by
  have h : (Mode.path == Mode.queryComponent) = false := by decide
  simp [unescape, h]

theorem hasCTL_false_of_valid (s : Bytes) (h : validEncoded s = true) : hasCTL s = false := by
  simp only [validEncoded, List.all_eq_true] at h
  simp only [hasCTL, List.any_eq_false]
  intro c hc
  simp [(valid_plain c (h c hc)).2.2]

theorem not_mem_of_valid (s : Bytes) (h : validEncoded s = true) : qmark ∉ s ∧ hash ∉ s := by
  simp only [validEncoded, List.all_eq_true] at h
  exact ⟨fun hc => (valid_plain _ (h _ hc)).1 rfl, fun hc => (valid_plain _ (h _ hc)).2.1 rfl⟩

/-- a byte of plain path text: not `%`, `?`, `#`, not a control byte -/
def PlainByte (c : UInt8) : Prop := c ≠ 37 ∧ c ≠ 63 ∧ c ≠ 35 ∧ (c < 32 || c == 127) = false

/-- `?q` when there is a query text, nothing otherwise -/
def withQuery (q : Bytes) : Bytes := if q.isEmpty then [] else qmark :: q

theorem splitQuery_cut (a q : Bytes) (ha : qmark ∉ a) (hq : q ≠ []) :
    splitQuery (a ++ qmark :: q) = (a, q, false) := by
  -- the text does not end in its only `?`: a second one in `q`, or the last byte of `q` is none
  have hcond : ((a ++ qmark :: q).getLast? == some qmark && (a ++ qmark :: q).count qmark == 1) = false := by
    rw [Bool.and_eq_false_iff]
    by_cases hm : qmark ∈ q
    · have := List.count_pos_iff.mpr hm
      right
      simp only [List.count_append, List.count_cons_self, List.count_eq_zero.mpr ha, beq_eq_false_iff_ne]
      omega
    · obtain ⟨x, hx⟩ := Option.isSome_iff_exists.mp (List.getLast?_isSome.mpr hq)
      have hne : x ≠ qmark := fun e => hm (e ▸ List.mem_of_getLast? hx)
      left
      simpa [List.getLast?_append, List.getLast?_cons, hx] using hne
  have hcut := GoQuery.cut_append qmark a q ha
  simp only [splitQuery, hcond, Bool.false_eq_true, ↓reduceIte]
  exact congrArg (fun p : Bytes × Bytes => (p.1, p.2, false)) hcut

theorem splitQuery_withQuery (a q : Bytes) (ha : qmark ∉ a) : splitQuery (a ++ withQuery q) = (a, q, false) := by
  cases q with
  | nil => simp [withQuery, splitQuery_of_not_mem a ha]
  | cons c r => exact splitQuery_cut a (c :: r) ha (by simp)

/-- `url.Parse` of a rooted string without control bytes and `#`, with no `?` before the optional
query and no authority: no scheme, user, host or fragment; `Path` is the percent-decoded text before
the query, `RawPath` is kept only when `Path` would be escaped differently. -/
theorem parse_rooted_query (t q P : Bytes) (hctl : hasCTL (slash :: t ++ withQuery q) = false)
    (hh : hash ∉ slash :: t ++ withQuery q) (hq : qmark ∉ slash :: t)
    (ha : takesAuthority [] (slash :: t) = false) (hu : GoURL.unescape false (slash :: t) = some P) :
    parse (slash :: t ++ withQuery q) =
      some { path := P, rawPath := if escapePath P == slash :: t then [] else slash :: t, rawQuery := q } := by
  have hstar : (slash :: t ++ withQuery q == [star]) = false := by simp [slash, star]
  have hpre : Bytes.hasPrefix (slash :: t) [slash] = true := by simp [Bytes.hasPrefix]
  have hgs : getScheme (slash :: t ++ withQuery q) = some ([], slash :: t ++ withQuery q) := getScheme_slash _
  have htl : Bytes.toLower ([] : Bytes) = [] := rfl
  have hnf : parseNoFrag (slash :: t ++ withQuery q) =
      some { path := P, rawPath := if escapePath P == slash :: t then [] else slash :: t, rawQuery := q } := by
    simp only [parseNoFrag, hctl, Bool.false_eq_true, ↓reduceIte, hstar, hgs, splitQuery_withQuery _ _ hq,
      parseRest, hpre, Bool.not_true, parseAuthPath, htl, ha, List.isEmpty_nil, Bool.false_and, setPath,
      unescape_path, hu]
  simp only [parse, before_of_not_mem _ _ hh, after_of_not_mem _ _ hh, hnf, List.isEmpty_nil, ↓reduceIte]

/-- `EscapedPath()` after `setPath(p)`: the string itself, when it is rooted and made of valid bytes -/
theorem escapedPath_setPath (t P : Bytes) (u : URL) (hv : validEncoded (slash :: t) = true)
    (hu : GoURL.unescape false (slash :: t) = some P) :
    escapedPath { u with path := P, rawPath := if escapePath P == slash :: t then [] else slash :: t } = slash :: t := by
  by_cases he : (escapePath P == slash :: t) = true
  · have heq : escapePath P = slash :: t := by simpa using he
    have hP : (P == [star]) = false := by
      refine beq_eq_false_iff_ne.mpr fun h => ?_
      rw [h, show escapePath [star] = [37, 50, 65] by decide] at heq
      cases heq
    simp [escapedPath, hP, heq]
  · have he' : (escapePath P == slash :: t) = false := by simpa using he
    simp [escapedPath, he', hv, unescape_path, hu]

/-- **`url.Parse` of a rooted string of valid path bytes that does not start with `//`** (or starts
with `///`): no error; no scheme, authority, query or fragment; `Path` is the percent-decoded string
and `EscapedPath()` gives the string back unchanged. -/
theorem parse_rooted (t P : Bytes) (hv : validEncoded (slash :: t) = true)
    (ha : takesAuthority [] (slash :: t) = false)
    (hu : GoURL.unescape false (slash :: t) = some P) :
    ∃ rp, parse (slash :: t) = some { path := P, rawPath := rp } ∧
      escapedPath { path := P, rawPath := rp } = slash :: t := by
  obtain ⟨hq, hh⟩ := not_mem_of_valid _ hv
  have h := parse_rooted_query t [] P (by simpa [withQuery] using hasCTL_false_of_valid _ hv)
    (by simpa [withQuery] using hh) hq ha hu
  exact ⟨_, by simpa [withQuery] using h, escapedPath_setPath t P {} hv hu⟩

/-- **`url.Parse` of plain rooted text with an optional query** (a base path, a path pattern): `Path`
is the text before `?` as written, `RawQuery` the text after it; no scheme, authority or fragment. -/
theorem parse_plain (t q : Bytes) (ht : ∀ c ∈ t, PlainByte c) (ha : takesAuthority [] (slash :: t) = false)
    (hq : ∀ c ∈ q, c ≠ 35 ∧ (c < 32 || c == 127) = false) :
    parse (slash :: t ++ withQuery q) =
      some { path := slash :: t, rawPath := if escapePath (slash :: t) == slash :: t then [] else slash :: t,
             rawQuery := q } := by
  have hst : PlainByte slash := by refine ⟨?_, ?_, ?_, ?_⟩ <;> decide
  have ht' : ∀ c ∈ slash :: t, PlainByte c := fun c hc => by
    rcases List.mem_cons.mp hc with rfl | hc
    · exact hst
    · exact ht c hc
  have hmem : ∀ c ∈ slash :: t ++ withQuery q, c ≠ 35 ∧ (c < 32 || c == 127) = false := by
    intro c hc
    rcases List.mem_append.mp hc with hc | hc
    · exact (ht' c hc).2.2
    · unfold withQuery at hc
      split at hc
      · cases hc
      · rcases List.mem_cons.mp hc with rfl | hc
        · decide
        · exact hq c hc
  exact parse_rooted_query t q _ (List.any_eq_false.mpr fun c hc => by simp [(hmem c hc).2])
    (fun hc => (hmem _ hc).1 rfl) (fun hc => (ht' _ hc).2.1 rfl) ha
    (GoURL.decodes_plain fun hc => (ht' _ hc).1 rfl).unescape

end RtVerif.GoURLParse
