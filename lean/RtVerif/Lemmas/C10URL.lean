import RtVerif.Model.C10
import RtVerif.Lemmas.C10
import RtVerif.Lemmas.GoPath
import RtVerif.Lemmas.GoURLParse
/-
  C10 end to end, segment by segment: base path and pattern are `joinRooted` of their segments
  (`/s₁/…/sₙ`), and `path.Clean`'s stack machine, the substitution, percent-unescaping, validity of
  the built path and `url.Parse`'s reading of base path and pattern are each stated on the segments.
-/
namespace RtVerif.C10
open RtVerif Bytes

theorem joinRooted_nil : joinRooted [] = [] := rfl

theorem joinRooted_cons (s : Bytes) (l : List Bytes) : joinRooted (s :: l) = 47 :: (s ++ joinRooted l) := rfl

theorem joinRooted_append (a b : List Bytes) : joinRooted (a ++ b) = joinRooted a ++ joinRooted b := by
  simp [joinRooted]

theorem mem_joinRooted {l : List Bytes} {c : UInt8} : c ∈ joinRooted l ↔ ∃ s ∈ l, c = 47 ∨ c ∈ s := by
  simp [joinRooted]

theorem slashIf_eq (t : Bool) : slashIf t = joinRooted (if t then [[]] else []) := by cases t <;> rfl

theorem render_true_eq (l : List Bytes) (hne : l ≠ []) : GoPath.render true l = joinRooted l :=
  GoPath.slash_joinSegs l hne

theorem segs_append_joinRooted (s : Bytes) (hs : GoPath.slash ∉ s) (l : List Bytes)
    (hl : ∀ x ∈ l, GoPath.slash ∉ x) : GoPath.segs (s ++ joinRooted l) = s :: l := by
  induction l generalizing s with
  | nil => simpa [joinRooted_nil] using GoPath.segs_noslash s hs
  | cons x l ih =>
    show GoPath.segs (s ++ GoPath.slash :: (x ++ joinRooted l)) = _
    rw [GoPath.segs_append_slash, GoPath.segs_noslash s hs,
      ih x (hl x List.mem_cons_self) fun y hy => hl y (List.mem_cons_of_mem _ hy)]
    rfl

theorem segs_joinRooted (l : List Bytes) (hl : ∀ x ∈ l, GoPath.slash ∉ x) (t : Bool) :
    GoPath.segs (joinRooted l ++ slashIf t) = [] :: (l ++ if t then [[]] else []) := by
  rw [slashIf_eq, ← joinRooted_append]
  refine segs_append_joinRooted [] (by simp) _ fun x hx => ?_
  rcases List.mem_append.mp hx with hx | hx
  · exact hl x hx
  · cases t
    · cases hx
    · simp [List.mem_singleton.mp hx]

theorem foldl_base (bs : List Bytes) (hbs : ∀ b ∈ bs, GoPath.Normal b) :
    (GoPath.segs (GoPath.render true bs)).foldl (GoPath.step true) [] = bs.reverse := by
  rw [GoPath.segs_render true bs ⟨0, bs, by simp, hbs, fun _ => rfl⟩]
  by_cases h : bs = []
  · subst h; simp [GoPath.step_skip_nil]
  · simp only [↓reduceIte, h, List.cons_append, List.nil_append, List.foldl_cons, GoPath.step_skip_nil]
    rw [GoPath.foldl_normals true bs hbs]; simp

theorem foldl_step_pattern (l : List Bytes) (hl : ∀ x ∈ l, GoPath.Normal x) (t : Bool) (acc : List Bytes) :
    ([] :: (l ++ if t then [[]] else [])).foldl (GoPath.step true) acc = l.reverse ++ acc := by
  simp only [List.foldl_cons, GoPath.step_skip_nil, List.foldl_append, GoPath.foldl_normals true l hl]
  cases t <;> simp [GoPath.step_skip_nil]

theorem joinRooted_ne_nil {l : List Bytes} (hne : l ≠ []) : joinRooted l ≠ [] := by
  obtain ⟨s, r, rfl⟩ := List.exists_cons_of_ne_nil hne
  simp [joinRooted_cons]

theorem normal_render {psegs : List (List Tok)} (hps : ∀ s ∈ psegs, GoPath.Normal (render s)) :
    ∀ x ∈ psegs.map render, GoPath.Normal x := by
  intro x hx
  obtain ⟨s, hs, rfl⟩ := List.mem_map.mp hx
  exact hps s hs

/-- a token as written in a pattern -/
def Tok.text : Tok → Bytes
  | .lit b => b
  | .ph n => placeholder n

theorem render_eq (s : List Tok) : render s = s.flatMap Tok.text := by
  induction s with
  | nil => rfl
  | cons t r ih => cases t <;> simp [render, Tok.text, ih]

theorem mem_render {s : List Tok} {c : UInt8} : c ∈ render s ↔ ∃ t ∈ s, c ∈ t.text := by
  simp [render_eq]

/-- the tokens of `/s₁/…/sₙ` -/
def toksOf (segs : List (List Tok)) : List Tok := segs.flatMap fun s => Tok.lit [47] :: s

theorem render_toksOf (segs : List (List Tok)) : render (toksOf segs) = joinRooted (segs.map render) := by
  simp [render_eq, toksOf, joinRooted, List.flatMap_assoc, List.flatMap_map, Tok.text]

theorem text_substTok (params : List (Bytes × Bytes)) (t : Tok) :
    (substTok params t).text = encodeTok params t := by
  cases t with
  | lit b => rfl
  | ph n => simp only [substTok, encodeTok]; cases lookupParam params n <;> rfl

theorem substAll_eq (params : List (Bytes × Bytes)) (s : List Tok) : substAll params s = encodeSeg params s := by
  simp [substAll, render_eq, encodeSeg, List.flatMap_map, text_substTok]

theorem substAll_toksOf (params : List (Bytes × Bytes)) (segs : List (List Tok)) :
    substAll params (toksOf segs) = joinRooted (segs.map (encodeSeg params)) := by
  simp [substAll_eq, encodeSeg, toksOf, joinRooted, List.flatMap_assoc, List.flatMap_map, encodeTok]

theorem wf_toksOf (segs : List (List Tok)) (h : ∀ s ∈ segs, ∀ t ∈ s, t.wf = true) : WFToks (toksOf segs) := by
  intro t ht
  simp only [toksOf, List.mem_flatMap, List.mem_cons] at ht
  obtain ⟨s, hs, rfl | ht⟩ := ht
  · decide
  · exact h s hs t ht

theorem allSegs_render (bs : List Bytes) (psegs : List (List Tok)) :
    (allSegs bs psegs).map render = bs ++ psegs.map render := by
  simp [allSegs, List.map_map, Function.comp_def, render]

theorem getLast_joinRooted (l : List Bytes) (hne : l ≠ []) (hl : ∀ x ∈ l, GoPath.Normal x) :
    (joinRooted l).getLast? ≠ some 47 := by
  obtain ⟨c, hc, hcs⟩ := GoPath.getLast?_joinSegs l hne (fun x hx => (hl x hx).ne_nil) fun x hx => (hl x hx).noslash
  rw [← render_true_eq _ hne]
  simpa [GoPath.render, GoPath.slash, List.getLast?_cons, hc] using hcs

/-- a token the theorems cover: static text without `%`, or a placeholder that has a value -/
def TokOk (params : List (Bytes × Bytes)) : Tok → Prop
  | .lit b => (37 : UInt8) ∉ b
  | .ph n => (lookupParam params n).isSome = true

instance (params : List (Bytes × Bytes)) (t : Tok) : Decidable (TokOk params t) := by
  cases t <;> unfold TokOk <;> infer_instance

theorem decodes_encodeTok (params : List (Bytes × Bytes)) (t : Tok) (ht : TokOk params t) :
    GoURL.Decodes false (encodeTok params t) (decodeTok params t) := by
  cases t with
  | lit b => exact GoURL.decodes_plain ht
  | ph n =>
    obtain ⟨v, hv⟩ := Option.isSome_iff_exists.mp ht
    simp only [encodeTok, decodeTok, hv]
    exact GoURL.decodes_escape false v

theorem decodes_encodeSeg (params : List (Bytes × Bytes)) (s : List Tok) (hs : ∀ t ∈ s, TokOk params t) :
    GoURL.Decodes false (encodeSeg params s) (decodeSeg params s) :=
  GoURL.Decodes.flatMap s fun t ht => decodes_encodeTok params t (hs t ht)

theorem unescape_built (params : List (Bytes × Bytes)) (segs : List (List Tok))
    (hs : ∀ s ∈ segs, ∀ t ∈ s, TokOk params t) (t : Bool) :
    GoURL.unescape false (joinRooted (segs.map (encodeSeg params)) ++ slashIf t) =
      some (joinRooted (segs.map (decodeSeg params)) ++ slashIf t) := by
  have hsegs := GoURL.Decodes.flatMap segs fun s hs' =>
    (GoURL.decodes_byte (c := 47) (by decide)).append (decodes_encodeSeg params s (hs s hs'))
  have hslash : GoURL.Decodes false (slashIf t) (slashIf t) := GoURL.decodes_plain (by cases t <;> decide)
  simpa [joinRooted, List.flatMap_map] using (hsegs.append hslash).unescape

theorem mem_encodeTok {params : List (Bytes × Bytes)} {t : Tok} {c : UInt8} (ht : TokOk params t)
    (hc : c ∈ encodeTok params t) : (∃ b, t = .lit b ∧ c ∈ b) ∨ GoURL.isSafe false c = true := by
  cases t with
  | lit b => exact Or.inl ⟨b, rfl, hc⟩
  | ph n =>
    obtain ⟨v, hv⟩ := Option.isSome_iff_exists.mp ht
    simp only [encodeTok, hv] at hc
    exact Or.inr (GoURL.escape_safe false v c hc)

theorem takesAuthority_cons_cons (c : UInt8) (y : Bytes) :
    GoURLParse.takesAuthority [] (47 :: c :: y) = true ↔ c = 47 ∧ y.head? ≠ some 47 := by
  by_cases hc : c = 47
  · subst hc
    cases y <;> simp [GoURLParse.takesAuthority, Bytes.hasPrefix, GoURLParse.slash, List.isPrefixOf,
      eq_comm (a := (47 : UInt8))]
  · simp [GoURLParse.takesAuthority, Bytes.hasPrefix, GoURLParse.slash, List.isPrefixOf, hc, Ne.symm hc]

theorem head?_seg_joinRooted {e : Bytes} (he : GoPath.slash ∉ e) (l : List Bytes) (t : Bool) :
    (e ++ (joinRooted l ++ slashIf t)).head? = some 47 ↔ e = [] ∧ (l ≠ [] ∨ t = true) := by
  cases e with
  | cons c e => simpa using fun hc : c = 47 => he (hc ▸ List.mem_cons_self)
  | nil => cases l <;> cases t <;> simp [joinRooted_cons, joinRooted_nil, slashIf]

/-- `net/url` reads an authority out of `/e₁/e₂/…` (+ `/`) exactly when `e₁` is empty and what
follows is a non-empty segment, or an empty LAST segment without a trailing slash, or nothing but
the trailing slash.  The segments are given as written (`enc`); `dec` is any reading of them that is
empty for the same segments. -/
theorem authority_iff {σ : Type} (enc dec : σ → Bytes) (hnil : ∀ s, enc s = [] ↔ dec s = []) (ss : List σ)
    (hs : ∀ s ∈ ss, GoPath.slash ∉ enc s) (t : Bool) :
    GoURLParse.takesAuthority [] (joinRooted (ss.map enc) ++ slashIf t) = true ↔
      ∃ s₁ rest, ss = s₁ :: rest ∧ dec s₁ = [] ∧
        (match rest with
         | [] => t = true
         | s₂ :: rest' => ¬ (dec s₂ = [] ∧ (rest' ≠ [] ∨ t = true))) := by
  cases ss with
  | nil => cases t <;> simp [joinRooted_nil, slashIf, GoURLParse.takesAuthority, Bytes.hasPrefix, GoURLParse.slash]
  | cons s₁ rest =>
    obtain ⟨h1, hrest⟩ := List.forall_mem_cons.mp hs
    simp only [List.map_cons, joinRooted_cons, List.cons_append, List.cons.injEq, and_assoc, exists_and_left,
      exists_eq_left', ← hnil]
    cases he : enc s₁ with
    | cons c e =>
      have hc : c ≠ 47 := fun hc => h1 (he ▸ hc ▸ List.mem_cons_self)
      simp [takesAuthority_cons_cons, hc]
    | nil =>
      cases rest with
      | nil => cases t <;> simp [joinRooted_nil, slashIf, GoURLParse.takesAuthority, Bytes.hasPrefix, GoURLParse.slash]
      | cons s₂ rest' =>
        obtain ⟨h2, _⟩ := List.forall_mem_cons.mp hrest
        simp [-List.head?_append, joinRooted_cons, takesAuthority_cons_cons, head?_seg_joinRooted h2]

theorem encodeSeg_eq_nil (params : List (Bytes × Bytes)) (s : List Tok) :
    encodeSeg params s = [] ↔ decodeSeg params s = [] := by
  have htok : ∀ t, encodeTok params t = [] ↔ decodeTok params t = [] := by
    intro t
    cases t with
    | lit b => rfl
    | ph n =>
      simp only [encodeTok, decodeTok]
      cases lookupParam params n with
      | none => rfl
      | some v => exact GoURL.escape_eq_nil false v
  simp only [encodeSeg, decodeSeg, List.flatMap_eq_nil_iff, htok]

def keys (vs : Values) : List Bytes := vs.map (·.1)

theorem keys_set_nodup (vs : Values) (hd : (keys vs).Nodup) (k : Bytes) (v : List Bytes) :
    (keys (vs.set k v)).Nodup := by
  unfold keys Values.set Values.del at *
  rw [List.map_append, List.nodup_append]
  refine ⟨List.Nodup.sublist (List.Sublist.map _ List.filter_sublist) hd, by simp, ?_⟩
  intro a ha b hb
  obtain rfl : b = k := by simpa using hb
  simp only [List.mem_map, List.mem_filter, bne_iff_ne, ne_eq] at ha
  obtain ⟨x, ⟨_, hx⟩, rfl⟩ := ha
  exact hx

theorem staticQuery_nodup (b p : Values) (hb : (keys b).Nodup) : (keys (staticQuery b p)).Nodup :=
  List.foldlRecOn (motive := fun acc => (keys acc).Nodup) p _ hb fun acc h kv _ => keys_set_nodup acc h kv.1 kv.2

theorem finalQuery_nodup (b p c : Values) (hc : (keys c).Nodup) : (keys (finalQuery b p c)).Nodup := by
  refine List.foldlRecOn (motive := fun acc => (keys acc).Nodup) _ _ hc fun acc h kv _ => ?_
  split
  · exact h
  · exact keys_set_nodup acc h kv.1 kv.2

theorem keys_add (m : Values) (k v : Bytes) :
    keys (GoQuery.add m k v) = if k ∈ keys m then keys m else keys m ++ [k] := by
  unfold keys
  induction m with
  | nil => simp [GoQuery.add]
  | cons x xs ih =>
    simp only [GoQuery.add]
    by_cases hx : x.1 = k
    · simp [hx]
    · simp only [beq_eq_false_iff_ne.mpr hx, Bool.false_eq_true, ↓reduceIte, List.map_cons, ih, List.mem_cons,
        Ne.symm hx, false_or]
      split <;> simp

/-- `url.ParseQuery` returns a map: one entry per key -/
theorem parseQuery_nodup (q : Bytes) : (keys (GoQuery.parseQuery q).values).Nodup := by
  refine List.foldlRecOn (motive := fun acc : GoQuery.Parsed => (keys acc.values).Nodup) _ _ List.nodup_nil
    fun acc h p _ => ?_
  unfold GoQuery.step
  split
  · exact h
  · exact h
  · rw [keys_add]
    split
    · exact h
    · rename_i hk
      exact List.nodup_append.mpr ⟨h, by simp, fun a ha b hb => by
        rintro rfl; exact hk (List.mem_singleton.mp hb ▸ ha)⟩

theorem get_eq (vs : Values) (k : Bytes) : Values.get vs k = GoQuery.Values.get vs k := rfl

/-- What the end-to-end theorems assume of base path, pattern and parameters. -/
structure PathOk (params : List (Bytes × Bytes)) (bs : List Bytes) (psegs : List (List Tok)) : Prop where
  /-- parameter names are brace-free -/
  names : NamesOk params
  /-- the base path is clean: its segments are ordinary ones (non-empty, not `.`/`..`, no `/`) … -/
  base_normal : ∀ b ∈ bs, GoPath.Normal b
  /-- … of static text without braces and without `%` -/
  base_static : ∀ b ∈ bs, braceFree b = true ∧ (37 : UInt8) ∉ b
  /-- every segment of the pattern, as written, is an ordinary one: in particular static text and
  placeholder names hold no `/` -/
  seg_normal : ∀ s ∈ psegs, GoPath.Normal (render s)
  /-- well-formed tokens: no brace inside static text or a name -/
  seg_wf : ∀ s ∈ psegs, ∀ t ∈ s, t.wf = true
  /-- static text of the pattern holds no `%` (a path template is not percent-encoded) -/
  seg_static : ∀ s ∈ psegs, ∀ b, Tok.lit b ∈ s → (37 : UInt8) ∉ b
  /-- every placeholder has a value -/
  all_subst : ∀ s ∈ psegs, ∀ n, Tok.ph n ∈ s → (lookupParam params n).isSome = true
  /-- the pattern has at least one segment -/
  nonempty : psegs ≠ []

/-- the same hypotheses token by token, in a form `decide` evaluates on concrete inputs -/
theorem PathOk.of_toks {params : List (Bytes × Bytes)} {bs : List Bytes} {psegs : List (List Tok)}
    (hn : ∀ kv ∈ params, braceFree kv.1 = true)
    (hb : ∀ b ∈ bs, GoPath.Normal b ∧ braceFree b = true ∧ (37 : UInt8) ∉ b)
    (hs : ∀ s ∈ psegs, GoPath.Normal (render s) ∧ ∀ t ∈ s, t.wf = true ∧ TokOk params t)
    (hne : psegs ≠ []) : PathOk params bs psegs where
  names := hn
  base_normal b hb' := (hb b hb').1
  base_static b hb' := (hb b hb').2
  seg_normal s hs' := (hs s hs').1
  seg_wf s hs' t ht := ((hs s hs').2 t ht).1
  seg_static s hs' _ hb' := ((hs s hs').2 _ hb').2
  all_subst s hs' _ hn' := ((hs s hs').2 _ hn').2
  nonempty := hne

variable {params : List (Bytes × Bytes)} {bs : List Bytes} {psegs : List (List Tok)}

theorem allSegs_ok (h : PathOk params bs psegs) :
    ∀ s ∈ allSegs bs psegs, GoPath.Normal (render s) ∧ ∀ t ∈ s, t.wf = true ∧ TokOk params t := by
  intro s hs
  simp only [allSegs, List.mem_append, List.mem_map] at hs
  rcases hs with ⟨b, hb, rfl⟩ | hs
  · exact ⟨by simpa [render] using h.base_normal b hb, fun t ht => List.mem_singleton.mp ht ▸ h.base_static b hb⟩
  · refine ⟨h.seg_normal s hs, fun t ht => ⟨h.seg_wf s hs t ht, ?_⟩⟩
    cases t with
    | lit b => exact h.seg_static s hs b ht
    | ph n => exact h.all_subst s hs n ht

theorem allSegs_tokOk (h : PathOk params bs psegs) : ∀ s ∈ allSegs bs psegs, ∀ t ∈ s, TokOk params t :=
  fun s hs t ht => ((allSegs_ok h s hs).2 t ht).2

theorem allSegs_enc_noslash (h : PathOk params bs psegs) :
    ∀ s ∈ allSegs bs psegs, GoPath.slash ∉ encodeSeg params s := by
  intro s hs hm
  obtain ⟨t, ht, hm⟩ := List.mem_flatMap.mp hm
  rcases mem_encodeTok (allSegs_tokOk h s hs t ht) hm with ⟨b, rfl, hb⟩ | hsafe
  · exact (allSegs_ok h s hs).1.noslash (mem_render.mpr ⟨_, ht, hb⟩)
  · revert hsafe; decide

theorem valid_built_iff (h : PathOk params bs psegs) (trailing : Bool) :
    GoURLParse.validEncoded (joinRooted ((allSegs bs psegs).map (encodeSeg params)) ++ slashIf trailing) = true ↔
      ∀ s ∈ allSegs bs psegs, ∀ b, Tok.lit b ∈ s → ∀ c ∈ b, GoURLParse.validEncodedByte c = true := by
  rw [GoURLParse.validEncoded, List.all_eq_true]
  constructor
  · intro hall s hs b hb c hc
    refine hall c (List.mem_append_left _ (mem_joinRooted.mpr ⟨_, List.mem_map_of_mem hs, Or.inr ?_⟩))
    exact List.mem_flatMap.mpr ⟨_, hb, hc⟩
  · intro hall c hc
    rcases List.mem_append.mp hc with hc | hc
    · obtain ⟨x, hx, rfl | hcx⟩ := mem_joinRooted.mp hc
      · decide
      · obtain ⟨s, hs, rfl⟩ := List.mem_map.mp hx
        obtain ⟨t, ht, hct⟩ := List.mem_flatMap.mp hcx
        rcases mem_encodeTok (allSegs_tokOk h s hs t ht) hct with ⟨b, rfl, hb⟩ | hsafe
        · exact hall s hs b ht c hb
        · exact GoURLParse.safe_valid c hsafe
    · cases trailing
      · cases hc
      · obtain rfl := List.mem_singleton.mp hc
        decide

instance (c : UInt8) : Decidable (GoURLParse.PlainByte c) := inferInstanceAs (Decidable (_ ∧ _ ∧ _ ∧ _))

theorem rooted_plain (e : Bytes) (l : List Bytes) (t : Bool) (hne : e ≠ [])
    (hp : ∀ s ∈ e :: l, GoPath.slash ∉ s ∧ ∀ c ∈ s, GoURLParse.PlainByte c) :
    ∃ x, joinRooted (e :: l) ++ slashIf t = GoURLParse.slash :: x ∧ (∀ c ∈ x, GoURLParse.PlainByte c) ∧
      GoURLParse.takesAuthority [] (GoURLParse.slash :: x) = false := by
  have hslash : GoURLParse.PlainByte 47 := by decide
  refine ⟨e ++ joinRooted l ++ slashIf t, by simp [joinRooted_cons, GoURLParse.slash], ?_, ?_⟩
  · intro c hc
    simp only [List.mem_append, mem_joinRooted] at hc
    rcases hc with (hc | ⟨s, hs, rfl | hc⟩) | hc
    · exact (hp e List.mem_cons_self).2 c hc
    · exact hslash
    · exact (hp s (List.mem_cons_of_mem _ hs)).2 c hc
    · cases t
      · cases hc
      · exact List.mem_singleton.mp hc ▸ hslash
  · obtain ⟨c, r, rfl⟩ := List.exists_cons_of_ne_nil hne
    have hc : c ≠ 47 := fun e => (hp _ List.mem_cons_self).1 (e ▸ List.mem_cons_self)
    simp [GoURLParse.slash, ← Bool.not_eq_true, takesAuthority_cons_cons, hc]

theorem plain_of_valid {c : UInt8} (hv : GoURLParse.validEncodedByte c = true) (h37 : c ≠ 37) :
    GoURLParse.PlainByte c :=
  ⟨h37, GoURLParse.valid_plain c hv⟩

theorem basePath_plain (h : PathOk params bs psegs)
    (hst : ∀ b ∈ bs, ∀ c ∈ b, GoURLParse.validEncodedByte c = true) :
    ∃ t, basePathOf bs = GoURLParse.slash :: t ∧ (∀ c ∈ t, GoURLParse.PlainByte c) ∧
      GoURLParse.takesAuthority [] (GoURLParse.slash :: t) = false := by
  cases bs with
  | nil => exact ⟨[], rfl, by simp, by decide⟩
  | cons b r =>
    have heq : basePathOf (b :: r) = joinRooted (b :: r) ++ slashIf false := by
      simp [basePathOf, render_true_eq (b :: r) (by simp), slashIf]
    rw [heq]
    exact rooted_plain b r false (h.base_normal b List.mem_cons_self).ne_nil fun s hs =>
      ⟨(h.base_normal s hs).noslash, fun c hc =>
        plain_of_valid (hst s hs c hc) fun e => (h.base_static s hs).2 (e ▸ hc)⟩

theorem pattern_plain (h : PathOk params bs psegs) (trailing : Bool)
    (hst : ∀ s ∈ psegs, ∀ b, Tok.lit b ∈ s → ∀ c ∈ b, GoURLParse.validEncodedByte c = true)
    (hnm : ∀ s ∈ psegs, ∀ n, Tok.ph n ∈ s → ∀ c ∈ n, GoURLParse.PlainByte c) :
    ∃ t, patternOf psegs trailing = GoURLParse.slash :: t ∧ (∀ c ∈ t, GoURLParse.PlainByte c) ∧
      GoURLParse.takesAuthority [] (GoURLParse.slash :: t) = false := by
  obtain ⟨s, r, rfl⟩ := List.exists_cons_of_ne_nil h.nonempty
  refine rooted_plain (render s) (r.map render) trailing (h.seg_normal s List.mem_cons_self).ne_nil fun x hx => ?_
  obtain ⟨s', hs', rfl⟩ := List.mem_map.mp (List.map_cons ▸ hx : x ∈ (s :: r).map render)
  refine ⟨(h.seg_normal s' hs').noslash, fun c hc => ?_⟩
  obtain ⟨t, ht, hct⟩ := mem_render.mp hc
  cases t with
  | lit b => exact plain_of_valid (hst s' hs' b ht c hct) fun e => h.seg_static s' hs' b ht (e ▸ hct)
  | ph n =>
    simp only [Tok.text, placeholder, List.mem_cons, List.mem_append, List.not_mem_nil, or_false] at hct
    rcases hct with (rfl | hcn) | rfl
    · decide
    · exact hnm s' hs' n ht c hcn
    · decide

end RtVerif.C10
