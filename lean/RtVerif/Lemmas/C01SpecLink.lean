import RtVerif.Model.C01
import RtVerif.Lemmas.C01Bridge
import RtVerif.Lemmas.C01Composite
import RtVerif.Lemmas.C01CompBridge
/-
  C01: the Spec's reading of a template text (`xsegs`, `instAll`) on the structured templates of
  the composite bridge: `instAll (renderX xs) (renderP qs)` lists exactly the `InstOf` instantiations.
-/
namespace RtVerif.C01
open RtVerif Bytes

def isWhole : XS → Bool
  | .par pre _ st0 r => pre.isEmpty && st0.isEmpty && r.isEmpty
  | .lit _ => false

def toXSeg : XS → XSeg
  | .lit b => .lit b
  | .par pre n0 st0 r =>
    if pre.isEmpty && st0.isEmpty && r.isEmpty then .ph n0 else .comp ⟨pre, (n0, st0) :: r⟩

theorem takeName_needle (n X : Bytes) (hn : n.all notBrace = true) (hne : n ≠ []) :
    takeName (lbrace :: (n ++ rbrace :: X)) = some (n, X) := by
  have hs := span_append notBrace n (rbrace :: X) hn (by simp [notBrace])
  simp [takeName, hs.1, hs.2, hne]

theorem parsePhs_segText (r : List (Bytes × Bytes)) (hw : PhsWF r) (hne : ∀ p ∈ r, p.1 ≠ []) :
    ∀ fuel, r.length < fuel → parsePhs fuel (segText r) = some r := by
  induction r with
  | nil =>
    intro fuel hf
    cases fuel with
    | zero => omega
    | succ f => simp [parsePhs, segText]
  | cons p r' ih =>
    obtain ⟨n, st⟩ := p
    intro fuel hf
    cases fuel with
    | zero => omega
    | succ f =>
      have hp := hw (n, st) List.mem_cons_self
      have hsp := span_append notBrace st (segText r') hp.2 fun x hx => by cases r' <;> cases hx; rfl
      simp only [segText, parsePhs, takeName_needle n _ hp.1 (hne _ List.mem_cons_self), hsp.1, hsp.2]
      rw [ih (fun x hx => hw x (List.mem_cons_of_mem _ hx)) (fun x hx => hne x (List.mem_cons_of_mem _ hx)) f
        (by simp only [List.length_cons] at hf; omega)]
      rfl

theorem parseCSeg_text (pre n0 st0 : Bytes) (r : List (Bytes × Bytes)) (hpre : pre.all notBrace = true)
    (hw : PhsWF ((n0, st0) :: r)) (hne : ∀ p ∈ (n0, st0) :: r, p.1 ≠ []) :
    parseCSeg (pre ++ needleOf n0 ++ patAfter st0 r) = some ⟨pre, (n0, st0) :: r⟩ := by
  have e : pre ++ needleOf n0 ++ patAfter st0 r = pre ++ segText ((n0, st0) :: r) := by
    simp [needleOf, patAfter, segText]
  have hsp := span_append notBrace pre (segText ((n0, st0) :: r)) hpre (by simp [segText, notBrace])
  unfold parseCSeg
  rw [e, hsp.1, hsp.2, parsePhs_segText _ hw hne]
  · rfl
  · have := segText_length ((n0, st0) :: r)
    simp only [List.length_append]; omega

theorem hasBrace_mem {l : Bytes} (h : lbrace ∈ l ∨ rbrace ∈ l) : hasBrace l = true := by
  simp only [hasBrace, List.any_eq_true, Bool.or_eq_true, beq_iff_eq]
  rcases h with h | h
  · exact ⟨_, h, Or.inl rfl⟩
  · exact ⟨_, h, Or.inr rfl⟩

theorem plain_no_brace {b : Bytes} (h : b.all plainByte = true) : hasBrace b = false := by
  simp only [hasBrace, List.any_eq_false, Bool.or_eq_true, beq_iff_eq, not_or]
  intro c hc
  obtain ⟨_, h2, h3, _⟩ := plainByte_iff.mp (List.all_eq_true.mp h c hc)
  exact ⟨h2, h3⟩

theorem classify_plain {b : Bytes} (h : b.all plainByte = true) : classify b = .lit b := by
  cases b with
  | nil => rfl
  | cons c rest =>
    have hc : c ≠ lbrace := (plainByte_iff.mp (List.all_eq_true.mp h c List.mem_cons_self)).2.1
    simp [classify, hc, plain_no_brace h]

theorem classify_needle {n : Bytes} (hn : n.all plainByte = true) (hne : n ≠ []) :
    classify (lbrace :: (n ++ [rbrace])) = .ph n := by
  simp [classify, plain_no_brace hn, hne]

/-- a text with a brace that is not one whole `{…}` is composite -/
theorem classify_composite {c : UInt8} {rest : Bytes} (hb : hasBrace (c :: rest) = true)
    (h : c ≠ lbrace ∨ hasBrace rest.dropLast = true) : classify (c :: rest) = .composite := by
  rcases h with h | h <;> simp [classify, h, hb]

theorem xclassify_text (s : XS) (hs : s.wf) : xclassify s.text = toXSeg s := by
  cases s with
  | lit b => simp only [XS.text, xclassify, classify_plain hs, toXSeg]
  | par pre n0 st0 r =>
    have hphs := par_phsWF hs
    obtain ⟨hpre, hn0, hne0, -, hr⟩ := hs
    by_cases hwhole : (pre.isEmpty && st0.isEmpty && r.isEmpty) = true
    · simp only [Bool.and_eq_true, List.isEmpty_iff] at hwhole
      obtain ⟨⟨rfl, rfl⟩, rfl⟩ := hwhole
      simp [XS.text, needleOf, patAfter, segText, xclassify, classify_needle hn0 hne0, toXSeg]
    · have hbr : hasBrace (pre ++ needleOf n0 ++ patAfter st0 r) = true :=
        hasBrace_mem (Or.inl (by simp [needleOf]))
      have hcl : classify (pre ++ needleOf n0 ++ patAfter st0 r) = .composite := by
        cases pre with
        | cons c pre' =>
          exact classify_composite hbr (Or.inl (plainByte_iff.mp (List.all_eq_true.mp hpre c List.mem_cons_self)).2.1)
        | nil =>
          -- `{n0}` followed by more text: the part before the last byte holds a `}`
          have htail : patAfter st0 r ≠ [] := fun h0 => hwhole (by simp [patAfter_eq_nil h0])
          refine classify_composite hbr (Or.inr ?_)
          show hasBrace (n0 ++ [rbrace] ++ patAfter st0 r).dropLast = true
          rw [List.dropLast_append_of_ne_nil htail]
          exact hasBrace_mem (Or.inr (by simp))
      simp only [xclassify, XS.text, hcl, toXSeg, hwhole, Bool.false_eq_true, ↓reduceIte, List.isEmpty_cons,
        parseCSeg_text pre n0 st0 r (plain_notBrace hpre) hphs
          (List.forall_mem_cons.mpr ⟨hne0, fun p hp => (hr p hp).2.2⟩)]

theorem segs_renderX (xs : List XS) (hw : WFX xs) :
    GoPath.segs (renderX xs) = [] :: xs.map XS.text := by
  rw [renderX_eq_renderP, segs_renderP]
  intro q hq
  obtain ⟨s, hs, rfl⟩ := List.mem_map.mp hq
  exact textX_noslash (hw s hs)

theorem xsegs_renderX (xs : List XS) (hw : WFX xs) :
    xsegs (renderX xs) = .lit [] :: xs.map toXSeg := by
  have hm : (xs.map XS.text).map xclassify = xs.map toXSeg := by
    rw [List.map_map]
    exact List.map_congr_left fun s hs => xclassify_text s (hw s hs)
  rw [xsegs, segs_renderX xs hw, List.map_cons, hm]
  rfl

theorem renderVals_single (n q : Bytes) (us : List Bytes) : renderVals [(n, [])] us = some q ↔ us = [q] := by
  cases us with
  | nil => simp [renderVals]
  | cons u us' => cases us' <;> simp [renderVals]

theorem mem_instSeg (c : CSeg) (q : Bytes) (a : List (Bytes × Bytes)) :
    a ∈ instSeg c q ↔ c.pre.isPrefixOf q = true ∧
      ∃ us, renderVals c.phs us = some (q.drop c.pre.length) ∧ a = (c.phs.map (·.1)).zip us := by
  unfold instSeg
  split
  · simp only [*, List.mem_map, mem_allInst, true_and]
    exact exists_congr fun us => and_congr_right fun _ => eq_comm
  · simp [*]

theorem mem_instAllSegs (xs : List XS) (qs : List Bytes) (raws : List (Bytes × Bytes)) :
    raws ∈ instAllSegs (xs.map toXSeg) qs ↔ InstOf xs qs raws := by
  induction xs generalizing qs raws with
  | nil => cases qs <;> simp [instAllSegs, InstOf]
  | cons s ts ih =>
    cases qs with
    | nil => cases s <;> simp [toXSeg, instAllSegs, InstOf] <;> split <;> simp [instAllSegs]
    | cons q qs' =>
      cases s with
      | lit b =>
        simp only [List.map_cons, toXSeg, instAllSegs, InstOf]
        by_cases hb : b = q
        · subst hb; simp [ih]
        · simp [hb, Ne.symm hb]
      | par pre n0 st0 r =>
        simp only [List.map_cons, toXSeg, InstOf]
        by_cases hwhole : (pre.isEmpty && st0.isEmpty && r.isEmpty) = true
        · simp only [hwhole, ↓reduceIte, instAllSegs, List.mem_map, ih]
          simp only [Bool.and_eq_true, List.isEmpty_iff] at hwhole
          obtain ⟨⟨rfl, rfl⟩, rfl⟩ := hwhole
          constructor
          · rintro ⟨rest, hrest, rfl⟩
            exact ⟨rfl, [q], rest, (renderVals_single n0 _ _).mpr rfl, rfl, hrest⟩
          · rintro ⟨_, us, rest, hus, rfl, hrest⟩
            obtain rfl : us = [q] := (renderVals_single n0 _ _).mp hus
            exact ⟨rest, hrest, rfl⟩
        · simp only [hwhole, Bool.false_eq_true, ↓reduceIte, instAllSegs, List.mem_flatMap, mem_instSeg,
            List.mem_map, ih]
          constructor
          · rintro ⟨_, ⟨hp, us, hus, rfl⟩, rest, hrest, rfl⟩
            exact ⟨hp, us, rest, hus, rfl, hrest⟩
          · rintro ⟨hp, us, rest, hus, rfl, hrest⟩
            exact ⟨_, ⟨hp, us, hus, rfl⟩, rest, hrest, rfl⟩

/-- **the Spec's enumerator on a structured template**: `instAll` lists exactly the instantiations
of the whole template by the path -/
theorem mem_instAll (xs : List XS) (hw : WFX xs) (hne : xs ≠ []) (qs : List Bytes)
    (hqs : ∀ q ∈ qs, slash ∉ q) (hqne : qs ≠ []) (raws : List (Bytes × Bytes)) :
    raws ∈ instAll (renderX xs) (renderP qs) ↔ InstOf xs qs raws := by
  unfold instAll
  rw [xsegs_renderX xs hw, segs_renderP qs hqs]
  simp only [instAllSegs, beq_self_eq_true, ↓reduceIte]
  exact mem_instAllSegs xs qs raws

end RtVerif.C01
