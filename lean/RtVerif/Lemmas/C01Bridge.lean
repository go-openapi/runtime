import RtVerif.Model.C01
import RtVerif.Lemmas.C05
import RtVerif.Lemmas.GoPath
import RtVerif.Lemmas.ByteFacts
/-
  C01: the structured form of *simple* templates (every segment is static text or one whole-segment
  placeholder) and of rendered paths, and what the bridge between trie keys and templates rests on:
  the byte classes, `convert` on plain text and on a placeholder, rendered paths and `path.Clean`,
  and how C05's specification reads a trie key made of literal bytes only.
-/
namespace RtVerif.C01
open RtVerif Bytes

/-- a segment of a simple template -/
inductive SSeg where
  | lit (b : Bytes)
  | ph (n : Bytes)
deriving Repr, DecidableEq

def SSeg.text : SSeg → Bytes
  | .lit b => b
  | .ph n => lbrace :: (n ++ [rbrace])

/-- the template "/s1/s2/…" -/
def renderT : List SSeg → Bytes
  | [] => []
  | s :: r => slash :: (s.text ++ renderT r)

/-- a path "/p1/p2/…" -/
def renderP : List Bytes → Bytes
  | [] => []
  | p :: r => slash :: (p ++ renderP r)

/-- the trie key of a simple template -/
def keyOf : List SSeg → Bytes
  | [] => []
  | .lit b :: r => slash :: (b ++ keyOf r)
  | .ph n :: r => slash :: colon :: (n ++ keyOf r)

def plainByte (c : UInt8) : Bool :=
  c != slash && c != lbrace && c != rbrace && c != colon && c != 42 && c != 35 && c != 0 && c != newline

/-- static text: no separator, brace, reserved router byte; placeholder names likewise and non-empty -/
def SSeg.wf : SSeg → Bool
  | .lit b => b.all plainByte
  | .ph n => n.all plainByte && !n.isEmpty

def WFT (segs : List SSeg) : Prop := ∀ s ∈ segs, s.wf = true

def needleOf (name : Bytes) : Bytes := lbrace :: name ++ [rbrace]

/-- the segments of a cleaned rooted path (the root path `/` is one empty segment) -/
def pathSegs (p : Bytes) : List Bytes := if GoPath.kept p = [] then [[]] else GoPath.kept p

theorem not_mem_of_all {α} {p : α → Bool} {l : List α} {c : α} (h : l.all p = true) (hc : p c = false) :
    c ∉ l := fun hm => by
  rw [List.all_eq_true.mp h c hm] at hc
  cases hc

theorem span_append {α} (p : α → Bool) (a X : List α) (ha : a.all p = true)
    (hX : ∀ x ∈ X.head?, p x = false) :
    (a ++ X).takeWhile p = a ∧ (a ++ X).dropWhile p = X := by
  have ha' := List.all_eq_true.mp ha
  cases X with
  | nil => rw [List.append_nil]; exact ⟨takeWhile_eq_self ha', dropWhile_eq_nil ha'⟩
  | cons x t => exact ⟨takeWhile_append_cons t ha' (hX x rfl), dropWhile_append_cons t ha' (hX x rfl)⟩

theorem cSep_eq : C05.cSep = slash := rfl
theorem cParam_eq : C05.cParam = colon := rfl
theorem cTerm_eq : C05.cTerm = 35 := rfl
theorem cWild_eq : C05.cWild = 42 := rfl
theorem slash_eq : GoPath.slash = slash := rfl

theorem plainByte_iff {c : UInt8} : plainByte c = true ↔
    c ≠ slash ∧ c ≠ lbrace ∧ c ≠ rbrace ∧ c ≠ colon ∧ c ≠ 42 ∧ c ≠ 35 ∧ c ≠ 0 ∧ c ≠ newline := by
  simp only [plainByte, Bool.and_eq_true, bne_iff_ne, ne_eq, and_assoc]

/-- a byte the trie router takes literally -/
def litKind (c : UInt8) : Prop :=
  (c == C05.cTerm) = false ∧ (c == C05.cParam) = false ∧ (c == C05.cWild) = false

theorem plain_litKind {c : UInt8} (h : plainByte c = true) : litKind c := by
  obtain ⟨_, _, _, h4, h5, h6, _⟩ := plainByte_iff.mp h
  simp [litKind, cTerm_eq, cParam_eq, cWild_eq, h4, h5, h6]

theorem slash_litKind : litKind slash := ⟨by decide, by decide, by decide⟩

theorem plain_notBrace {l : Bytes} (h : l.all plainByte = true) : l.all notBrace = true :=
  all_of_all h fun c hc => by
    obtain ⟨_, h2, h3, _⟩ := plainByte_iff.mp hc
    simp [notBrace, h2, h3]

theorem convert_nil : convert [] = [] := by rw [convert]

theorem convert_cons_ne (c : UInt8) (s : Bytes) (h : c ≠ lbrace) : convert (c :: s) = c :: convert s := by
  cases s with
  | nil => rw [convert_nil, convert]
  | cons d t => rw [convert]; simp [h]

theorem convert_append_plain (a X : Bytes) (ha : lbrace ∉ a) : convert (a ++ X) = a ++ convert X := by
  induction a with
  | nil => rfl
  | cons c a' ih =>
    rw [List.cons_append, convert_cons_ne _ _ (fun e => ha (e ▸ List.mem_cons_self)),
      ih fun hm => ha (List.mem_cons_of_mem _ hm)]
    rfl

theorem scanName_append (n X : Bytes) (h1 : rbrace ∉ n) (h2 : newline ∉ n) :
    scanName (n ++ rbrace :: X) = some (n, X) := by
  induction n with
  | nil => simp [scanName]
  | cons c n' ih =>
    simp only [List.mem_cons, not_or] at h1 h2
    simp [scanName, Ne.symm h1.1, Ne.symm h2.1, ih h1.2 h2.2]

/-- `{n}` and what follows it up to the next separator become `:n` -/
theorem convert_ph (n X : Bytes) (h1 : rbrace ∉ n) (h2 : newline ∉ n) (hne : n ≠ []) :
    convert (lbrace :: (n ++ rbrace :: X)) = colon :: (n ++ convert (X.dropWhile (· != slash))) := by
  cases n with
  | nil => exact absurd rfl hne
  | cons d n' =>
    simp only [List.mem_cons, not_or] at h1 h2
    have hd : (d != newline) = true := bne_iff_ne.mpr (Ne.symm h2.1)
    have hs := scanName_append n' X h1.2 h2.2
    rw [List.cons_append, convert]
    simp only [beq_self_eq_true, hd, Bool.and_self, ↓reduceIte]
    -- the scan ends at the `}` behind the name
    split
    next n r h => cases hs.symm.trans h; rfl
    next h => cases hs.symm.trans h

theorem renderP_cases (qs : List Bytes) : renderP qs = [] ∨ ∃ t, renderP qs = slash :: t := by
  cases qs with
  | nil => left; rfl
  | cons q t => right; exact ⟨_, rfl⟩

theorem renderP_eq_nil {qs : List Bytes} : renderP qs = [] ↔ qs = [] := by
  cases qs <;> simp [renderP]

theorem span_noslash (p : UInt8 → Bool) (hp : ∀ c, p c = true ↔ c ≠ slash) (a X : Bytes) (ha : slash ∉ a)
    (hX : X = [] ∨ ∃ t, X = slash :: t) :
    (a ++ X).takeWhile p = a ∧ (a ++ X).dropWhile p = X := by
  refine span_append p a X (List.all_eq_true.mpr fun c hc => (hp c).mpr fun e => ha (e ▸ hc)) ?_
  rcases hX with rfl | ⟨t, rfl⟩ <;> simp [Bool.eq_false_iff, hp]

theorem renderP_eq (l : List Bytes) : renderP l = l.flatMap (slash :: ·) := by
  induction l with
  | nil => rfl
  | cons p r ih => simp [renderP, ih]

theorem slash_joinSegs (l : List Bytes) (hne : l ≠ []) : slash :: GoPath.joinSegs l = renderP l :=
  (GoPath.slash_joinSegs l hne).trans (renderP_eq l).symm

theorem segs_renderP (ps : List Bytes) (hps : ∀ q ∈ ps, slash ∉ q) : GoPath.segs (renderP ps) = [] :: ps := by
  by_cases hne : ps = []
  · subst hne; rfl
  · rw [← slash_joinSegs ps hne]
    exact (GoPath.segs_cons_slash _).trans (congrArg _ (GoPath.segs_joinSegs ps hne hps))

theorem clean_rooted_renderP (p : Bytes) (h : GoPath.isRooted p = true) :
    GoPath.clean p = renderP (pathSegs p) ∧ ∀ q ∈ pathSegs p, slash ∉ q := by
  unfold GoPath.clean GoPath.render pathSegs
  simp only [h, ↓reduceIte]
  by_cases hk : GoPath.kept p = []
  · simp [hk, GoPath.joinSegs, renderP, slash_eq]
  · simp only [hk, ↓reduceIte]
    exact ⟨slash_joinSegs _ hk, GoPath.good_noslash (GoPath.kept_good p)⟩

theorem pathSegs_ne_nil (p : Bytes) : pathSegs p ≠ [] := by
  unfold pathSegs; split <;> simp_all

theorem matchKey_static (st : Bool) (K : Bytes) (hK : ∀ c ∈ K, litKind c) (P : Bytes) (vs : List Bytes) :
    C05.matchKey st (K ++ [C05.cTerm]) P = some vs ↔ P = K ∧ vs = [] := by
  induction K generalizing P with
  | nil => rw [List.nil_append, C05.matchKey_term_some]; simp
  | cons c K' ih =>
    obtain ⟨h1, h2, h3⟩ := hK c List.mem_cons_self
    rw [List.cons_append, C05.matchKey_lit_some h1 h2 h3]
    simp only [ih fun x hx => hK x (List.mem_cons_of_mem _ hx)]
    exact ⟨fun ⟨_, hp, hk, hv⟩ => ⟨hk ▸ hp, hv⟩, fun ⟨hp, hv⟩ => ⟨_, hp, rfl, hv⟩⟩

theorem namesOf_lit_append (b K : Bytes) (hb : ∀ c ∈ b, litKind c) : C05.namesOf (b ++ K) = C05.namesOf K := by
  induction b with
  | nil => rfl
  | cons c b' ih =>
    obtain ⟨_, h2, h3⟩ := hb c List.mem_cons_self
    rw [List.cons_append, C05.namesOf_lit _ _ h2 h3, ih fun x hx => hb x (List.mem_cons_of_mem _ hx)]

theorem namesOf_term : C05.namesOf [C05.cTerm] = [] := by
  rw [C05.namesOf_lit _ _ C05.cTerm_ne_cParam C05.cTerm_ne_cWild, C05.namesOf_nil]

/-- a reported match (`C05.foundOk`) of a record whose key is parameterised or made of literal bytes
only: the path instantiates the key with the reported values, named as in the key -/
theorem foundOk_sound {recs : List (Bytes × Nat)} {path k : Bytes} {names vals : List Bytes}
    (hlit : C05.isParamKey k = false → ∀ c ∈ k, litKind c)
    (h : C05.foundOk recs path names vals k = true) :
    C05.matchKey false (k ++ [C05.cTerm]) path = some vals ∧ names = C05.namesOf (k ++ [C05.cTerm]) := by
  unfold C05.foundOk at h
  cases hpk : C05.isParamKey k with
  | true =>
    simp only [hpk, Bool.not_true, Bool.false_eq_true, ↓reduceIte, Bool.and_eq_true, beq_iff_eq] at h
    exact ⟨h.1.1.1, h.1.1.2⟩
  | false =>
    simp only [hpk, Bool.not_false, ↓reduceIte, Bool.and_eq_true, beq_iff_eq, List.isEmpty_iff] at h
    obtain ⟨⟨rfl, rfl⟩, rfl⟩ := h
    exact ⟨(matchKey_static false k (hlit hpk) k []).mpr ⟨rfl, rfl⟩,
      by rw [namesOf_lit_append k _ (hlit hpk), namesOf_term]⟩

/-- a miss (C05's completeness): a filed key of that kind is not instantiated with non-empty texts -/
theorem notFound_sound {recs : List (Bytes × Nat)} {path k : Bytes} {i : Nat} {vs : List Bytes}
    (hlit : C05.isParamKey k = false → ∀ c ∈ k, litKind c) (hmem : (k, i) ∈ recs)
    (h : C05.specLookup recs path .notFound = true)
    (hm : C05.matchKey false (k ++ [C05.cTerm]) path = some vs) : vs.any (·.isEmpty) = true := by
  simp only [C05.specLookup, List.all_eq_true] at h
  have hk := h _ hmem
  cases hpk : C05.isParamKey k with
  | true => simpa [hpk, hm] using hk
  | false =>
    simp only [hpk, Bool.not_false, ↓reduceIte, bne_iff_ne, ne_eq] at hk
    exact absurd ((matchKey_static false k (hlit hpk) path vs).mp hm).1.symm hk

end RtVerif.C01
