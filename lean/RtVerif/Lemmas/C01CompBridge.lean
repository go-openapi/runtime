import RtVerif.Model.C01
import RtVerif.Lemmas.C01Bridge
import RtVerif.Lemmas.C01Composite
import RtVerif.Lemmas.C01Occ
/-
  C01 bridge for templates WITH composite segments.  A segment is static text or
  `pre {n0} st0 {n1} st1 … {nk} stk` (a whole-segment placeholder is the case `pre = st0 = ""`,
  `k = 0`).  `convert` keeps `pre:n0` of it; the trie matches `pre` literally and captures the rest
  of the path segment for `n0`; `collectParams` splits that text along `st0 {n1} st1 …`.
-/
namespace RtVerif.C01
open RtVerif Bytes

inductive XS where
  | lit (b : Bytes)
  | par (pre n0 st0 : Bytes) (r : List (Bytes × Bytes))
deriving Repr

def XS.text : XS → Bytes
  | .lit b => b
  | .par pre n0 st0 r => pre ++ needleOf n0 ++ patAfter st0 r

def renderX : List XS → Bytes
  | [] => []
  | s :: r => slash :: (s.text ++ renderX r)

def keyX : List XS → Bytes
  | [] => []
  | .lit b :: r => slash :: (b ++ keyX r)
  | .par pre n0 _ _ :: r => slash :: (pre ++ colon :: (n0 ++ keyX r))

/-- neither a separator nor a brace -/
def nsb (c : UInt8) : Bool := c != slash && notBrace c

def XS.wf : XS → Prop
  | .lit b => b.all plainByte = true
  | .par pre n0 st0 r =>
    pre.all plainByte = true ∧ n0.all plainByte = true ∧ n0 ≠ [] ∧ st0.all nsb = true ∧
      ∀ p ∈ r, p.1.all nsb = true ∧ p.2.all nsb = true ∧ p.1 ≠ []

def WFX (xs : List XS) : Prop := ∀ s ∈ xs, s.wf

theorem WFX.tail {s : XS} {r : List XS} (hw : WFX (s :: r)) : WFX r :=
  fun x hx => hw x (List.mem_cons_of_mem _ hx)

theorem nsb_notBrace {l : Bytes} (h : l.all nsb = true) : l.all notBrace = true :=
  all_of_all h fun c hc => by simp only [nsb, Bool.and_eq_true] at hc; exact hc.2

theorem nsb_noslash {l : Bytes} (h : l.all nsb = true) : slash ∉ l := not_mem_of_all h rfl

theorem plain_noslash {l : Bytes} (h : l.all plainByte = true) : slash ∉ l := not_mem_of_all h rfl

theorem patAfter_noslash (st0 : Bytes) (r : List (Bytes × Bytes)) (h0 : st0.all nsb = true)
    (h : ∀ p ∈ r, p.1.all nsb = true ∧ p.2.all nsb = true ∧ p.1 ≠ []) : slash ∉ patAfter st0 r := by
  have hseg : slash ∉ segText r := by
    induction r with
    | nil => simp [segText]
    | cons p r' ih =>
      have hp := h p List.mem_cons_self
      simp only [segText, List.mem_cons, List.mem_append, not_or]
      exact ⟨by decide, nsb_noslash hp.1, by decide, nsb_noslash hp.2.1,
        ih fun x hx => h x (List.mem_cons_of_mem _ hx)⟩
  simp only [patAfter, List.mem_append, not_or]
  exact ⟨nsb_noslash h0, hseg⟩

theorem par_phsWF {pre n0 st0 : Bytes} {r : List (Bytes × Bytes)} (h : (XS.par pre n0 st0 r).wf) :
    PhsWF ((n0, st0) :: r) := by
  obtain ⟨_, hn0, _, hst0, hr⟩ := h
  intro p hp
  rcases List.mem_cons.mp hp with rfl | hp
  · exact ⟨plain_notBrace hn0, nsb_notBrace hst0⟩
  · exact ⟨nsb_notBrace (hr p hp).1, nsb_notBrace (hr p hp).2.1⟩

theorem textX_noslash {s : XS} (h : s.wf) : slash ∉ s.text := by
  cases s with
  | lit b => exact plain_noslash h
  | par pre n0 st0 r =>
    obtain ⟨hpre, hn0, _, hst0, hr⟩ := h
    simp only [XS.text, needleOf, List.mem_append, List.mem_cons, List.not_mem_nil, or_false, not_or]
    exact ⟨⟨plain_noslash hpre, ⟨by decide, plain_noslash hn0⟩, by decide⟩, patAfter_noslash st0 r hst0 hr⟩

theorem renderX_eq_renderP (xs : List XS) : renderX xs = renderP (xs.map XS.text) := by
  induction xs with
  | nil => rfl
  | cons s r ih => simp [renderX, renderP, ih]

theorem renderX_cases (r : List XS) : renderX r = [] ∨ ∃ t, renderX r = slash :: t :=
  renderX_eq_renderP r ▸ renderP_cases _

theorem renderX_append (as bs : List XS) : renderX (as ++ bs) = renderX as ++ renderX bs := by
  induction as with
  | nil => rfl
  | cons s r ih => simp [renderX, ih]

theorem convert_renderX (xs : List XS) (hw : WFX xs) : convert (renderX xs) = keyX xs := by
  induction xs with
  | nil => exact convert_nil
  | cons s r ih =>
    have hs := hw s List.mem_cons_self
    cases s with
    | lit b =>
      simp only [renderX, XS.text, keyX]
      rw [convert_cons_ne _ _ (by decide), convert_append_plain b _ (not_mem_of_all hs rfl), ih hw.tail]
    | par pre n0 st0 r' =>
      obtain ⟨hpre, hn0, hne, hst0, hr'⟩ := hs
      have e : pre ++ needleOf n0 ++ patAfter st0 r' ++ renderX r =
          pre ++ (lbrace :: (n0 ++ rbrace :: (patAfter st0 r' ++ renderX r))) := by
        simp [needleOf]
      simp only [renderX, XS.text, keyX]
      rw [convert_cons_ne _ _ (by decide), e, convert_append_plain pre _ (not_mem_of_all hpre rfl),
        convert_ph n0 _ (not_mem_of_all hn0 rfl) (not_mem_of_all hn0 rfl) hne,
        (span_noslash _ (fun c => bne_iff_ne) _ _ (patAfter_noslash st0 r' hst0 hr') (renderX_cases r)).2,
        ih hw.tail]

/-- the rest of a key: the key of the remaining segments, then the termination character -/
def tailKeyX (r : List XS) : Bytes := keyX r ++ [C05.cTerm]

theorem tailKeyX_lit (b : Bytes) (r : List XS) : tailKeyX (.lit b :: r) = slash :: (b ++ tailKeyX r) := by
  simp [tailKeyX, keyX]

theorem tailKeyX_par (pre n0 st0 : Bytes) (r' : List (Bytes × Bytes)) (r : List XS) :
    tailKeyX (.par pre n0 st0 r' :: r) = slash :: (pre ++ colon :: (n0 ++ tailKeyX r)) := by
  simp [tailKeyX, keyX]

theorem tailKeyX_cons (s : XS) (r : List XS) : ∃ k, tailKeyX (s :: r) = slash :: k := by
  cases s with
  | lit b => exact ⟨_, tailKeyX_lit b r⟩
  | par pre n0 st0 r' => exact ⟨_, tailKeyX_par pre n0 st0 r' r⟩

theorem tailKeyX_cases (r : List XS) : tailKeyX r = [C05.cTerm] ∨ ∃ k, tailKeyX r = slash :: k := by
  cases r with
  | nil => left; rfl
  | cons s t => right; exact tailKeyX_cons s t

/-- what follows a segment in the key accepts no more of the path segment -/
theorem tailKeyX_rest (st : Bool) (r : List XS) (qs : List Bytes) (x : Bytes) (hx : slash ∉ x) :
    C05.matchKey st (tailKeyX r) (x ++ renderP qs) =
      if x = [] then C05.matchKey st (tailKeyX r) (renderP qs) else none := by
  cases x with
  | nil => rfl
  | cons c t =>
    have hc : c ≠ slash := fun e => hx (e ▸ List.mem_cons_self)
    rcases tailKeyX_cases r with h | ⟨k, h⟩
    · rw [h, C05.matchKey_term]; simp
    · rw [h, List.cons_append, C05.matchKey_lit_cons _ _ _ _ _ (by decide) (by decide) (by decide)]
      simp [hc]

theorem name_splitX (n : Bytes) (r : List XS) (hn : n.all plainByte = true) :
    (n ++ tailKeyX r).takeWhile C05.notKeySep = n ∧ (n ++ tailKeyX r).dropWhile C05.notKeySep = tailKeyX r := by
  apply span_append
  · refine all_of_all hn fun c hc => ?_
    obtain ⟨h1, _, _, _, _, h6, _⟩ := plainByte_iff.mp hc
    simp [C05.notKeySep, cSep_eq, cTerm_eq, h1, h6]
  · rcases tailKeyX_cases r with h | ⟨k, h⟩ <;> simp [h, C05.notKeySep, cSep_eq]

/-- the texts the trie captures: per parameterised segment, the path segment behind `pre` -/
def matchX : List XS → List Bytes → Option (List Bytes)
  | [], [] => some []
  | .lit b :: ts, q :: qs => if b == q then matchX ts qs else none
  | .par pre _ _ _ :: ts, q :: qs => if pre.isPrefixOf q then (matchX ts qs).map (q.drop pre.length :: ·) else none
  | _, _ => none

theorem matchKey_plain_seg (st : Bool) (b K q R : Bytes) (hb : b.all plainByte = true) (hq : slash ∉ q)
    (hR : R = [] ∨ ∃ t, R = slash :: t) :
    C05.matchKey st (b ++ K) (q ++ R) =
      if b.isPrefixOf q then C05.matchKey st K (q.drop b.length ++ R) else none := by
  induction b generalizing q with
  | nil => simp
  | cons x b' ih =>
    simp only [List.all_cons, Bool.and_eq_true] at hb
    obtain ⟨h1, h2, h3⟩ := plain_litKind hb.1
    cases q with
    | nil =>
      have : C05.matchKey st (x :: (b' ++ K)) R = none := by
        rcases hR with rfl | ⟨t, rfl⟩
        · exact C05.matchKey_lit_nil _ _ _ h1 h2 h3
        · rw [C05.matchKey_lit_cons _ _ _ _ _ h1 h2 h3, if_neg]
          simpa using (plainByte_iff.mp hb.1).1.symm
      simpa using this
    | cons c q' =>
      simp only [List.mem_cons, not_or] at hq
      rw [List.cons_append, List.cons_append, C05.matchKey_lit_cons _ _ _ _ _ h1 h2 h3, List.isPrefixOf_cons_cons,
        ih q' hb.2 hq.2]
      by_cases hcx : c = x
      · subst hcx; simp
      · simp [hcx, Ne.symm hcx]

theorem matchKey_slash (st : Bool) (K P : Bytes) :
    C05.matchKey st (slash :: K) (slash :: P) = C05.matchKey st K P := by
  rw [C05.matchKey_lit_cons _ _ _ _ _ (by decide) (by decide) (by decide), if_pos (by simp)]

theorem matchKey_lit_segX (st : Bool) (r : List XS) (qs : List Bytes) (b q : Bytes)
    (hb : b.all plainByte = true) (hq : slash ∉ q) :
    C05.matchKey st (tailKeyX (.lit b :: r)) (renderP (q :: qs)) =
      if b == q then C05.matchKey st (tailKeyX r) (renderP qs) else none := by
  rw [tailKeyX_lit, renderP, matchKey_slash, matchKey_plain_seg st b _ q _ hb hq (renderP_cases qs),
    tailKeyX_rest st r qs _ fun h => hq (List.mem_of_mem_drop h)]
  -- `b` is a prefix of `q` with nothing left behind it: `b = q`
  by_cases h : b = q
  · subst h; simp
  · have : b.isPrefixOf q = true → ¬ q.drop b.length = [] := fun hp hd =>
      h (by have := eq_append_of_isPrefixOf hp; rw [hd, List.append_nil] at this; exact this.symm)
    by_cases hp : b.isPrefixOf q = true <;> simp [h, hp, this]

theorem matchKey_par_seg (r : List XS) (qs : List Bytes) (pre n0 st0 q : Bytes) (r' : List (Bytes × Bytes))
    (hpre : pre.all plainByte = true) (hn0 : n0.all plainByte = true) (hq : slash ∉ q) :
    C05.matchKey false (tailKeyX (.par pre n0 st0 r' :: r)) (renderP (q :: qs)) =
      if pre.isPrefixOf q then (C05.matchKey false (tailKeyX r) (renderP qs)).map (q.drop pre.length :: ·)
      else none := by
  have hpath := span_noslash C05.notPathSep (fun c => by simp [C05.notPathSep, cSep_eq]) (q.drop pre.length) _
    (fun h => hq (List.mem_of_mem_drop h)) (renderP_cases qs)
  rw [tailKeyX_par, renderP, matchKey_slash, matchKey_plain_seg false pre _ q _ hpre hq (renderP_cases qs),
    ← cParam_eq, C05.matchKey_param]
  simp only [Bool.false_and, Bool.false_eq_true, ↓reduceIte, (name_splitX n0 r hn0).2, hpath]

/-- **the key of a template with composite segments matches a path exactly when every static
segment is equal, every `pre` is a prefix of its path segment — and captures what follows `pre`** -/
theorem matchKey_keyX (xs : List XS) (hw : WFX xs) (ps : List Bytes) (hps : ∀ q ∈ ps, slash ∉ q) :
    C05.matchKey false (tailKeyX xs) (renderP ps) = matchX xs ps := by
  induction xs generalizing ps with
  | nil =>
    show C05.matchKey false [C05.cTerm] (renderP ps) = _
    rw [C05.matchKey_term]
    cases ps <;> simp [renderP, matchX]
  | cons s r ih =>
    have hs := hw s List.mem_cons_self
    cases ps with
    | nil =>
      obtain ⟨k, hk⟩ := tailKeyX_cons s r
      rw [hk, renderP, C05.matchKey_lit_nil _ _ _ (by decide) (by decide) (by decide)]
      cases s <;> rfl
    | cons q qs =>
      have hq : slash ∉ q := hps q List.mem_cons_self
      have ih' := ih hw.tail qs fun x hx => hps x (List.mem_cons_of_mem _ hx)
      cases s with
      | lit b => rw [matchKey_lit_segX false r qs b q hs hq, ih']; rfl
      | par pre n0 st0 r' => rw [matchKey_par_seg r qs pre n0 st0 q r' hs.1 hs.2.1 hq, ih']; rfl

def firstNames : List XS → List Bytes
  | [] => []
  | .lit _ :: r => firstNames r
  | .par _ n0 _ _ :: r => n0 :: firstNames r

theorem namesOf_tailKeyX (xs : List XS) (hw : WFX xs) : C05.namesOf (tailKeyX xs) = firstNames xs := by
  induction xs with
  | nil => exact namesOf_term
  | cons s r ih =>
    have hs := hw s List.mem_cons_self
    have hpl : ∀ {b : Bytes}, b.all plainByte = true → ∀ c ∈ b, litKind c := fun h c hc =>
      plain_litKind (List.all_eq_true.mp h c hc)
    cases s with
    | lit b =>
      rw [tailKeyX_lit, C05.namesOf_lit _ _ (by decide) (by decide), namesOf_lit_append b _ (hpl hs), ih hw.tail]
      rfl
    | par pre n0 st0 r' =>
      obtain ⟨hpre, hn0, _, _, _⟩ := hs
      rw [tailKeyX_par, C05.namesOf_lit _ _ (by decide) (by decide), namesOf_lit_append pre _ (hpl hpre),
        ← cParam_eq, C05.namesOf_param, (name_splitX n0 r hn0).1, (name_splitX n0 r hn0).2, ih hw.tail]
      rfl

def chunksR : List (Bytes × Bytes) → List Chunk
  | [] => []
  | (n, st) :: r => .ph n :: .st st :: chunksR r

def chunksOf : List XS → List Chunk
  | [] => []
  | .lit b :: r => .st (slash :: b) :: chunksOf r
  | .par pre n0 st0 r' :: r => .st (slash :: pre) :: .ph n0 :: .st st0 :: (chunksR r' ++ chunksOf r)

/-- every placeholder name of the template, in order -/
def allNames (xs : List XS) : List Bytes := chunkNames (chunksOf xs)

theorem flatC_chunksR (r : List (Bytes × Bytes)) : flatC (chunksR r) = segText r := by
  induction r with
  | nil => rfl
  | cons p r' ih => simp [chunksR, flatC, Chunk.text, segText, needleOf, ih]

theorem flatC_chunksOf (xs : List XS) : flatC (chunksOf xs) = renderX xs := by
  induction xs with
  | nil => rfl
  | cons s r ih =>
    cases s <;> simp [chunksOf, flatC, Chunk.text, renderX, XS.text, flatC_append, flatC_chunksR, ih, patAfter]

theorem chunksOf_append (as bs : List XS) : chunksOf (as ++ bs) = chunksOf as ++ chunksOf bs := by
  induction as with
  | nil => rfl
  | cons s r ih => cases s <;> simp [chunksOf, ih]

theorem allNames_append (as bs : List XS) : allNames (as ++ bs) = allNames as ++ allNames bs := by
  rw [allNames, chunksOf_append, chunkNames_append]
  rfl

theorem slash_plain_wf {b : Bytes} (h : b.all plainByte = true) : (Chunk.st (slash :: b)).wf := by
  show (slash :: b).all notBrace = true
  simp only [List.all_cons, Bool.and_eq_true]
  exact ⟨by decide, plain_notBrace h⟩

theorem chunksR_wf (r : List (Bytes × Bytes)) (h : ∀ p ∈ r, p.1.all nsb = true ∧ p.2.all nsb = true ∧ p.1 ≠ []) :
    ∀ c ∈ chunksR r, c.wf := by
  induction r with
  | nil => intro c hc; cases hc
  | cons p r' ih =>
    simp only [List.forall_mem_cons] at h
    simp only [chunksR, List.forall_mem_cons]
    exact ⟨nsb_notBrace h.1.1, nsb_notBrace h.1.2.1, ih h.2⟩

theorem chunksOf_wf (xs : List XS) (hw : WFX xs) : ∀ c ∈ chunksOf xs, c.wf := by
  induction xs with
  | nil => intro c hc; cases hc
  | cons s r ih =>
    have hs := hw s List.mem_cons_self
    cases s with
    | lit b =>
      simp only [chunksOf, List.forall_mem_cons]
      exact ⟨slash_plain_wf hs, ih hw.tail⟩
    | par pre n0 st0 r' =>
      obtain ⟨hpre, hn0, _, hst0, hr'⟩ := hs
      simp only [chunksOf, List.forall_mem_cons, List.forall_mem_append]
      exact ⟨slash_plain_wf hpre, plain_notBrace hn0, nsb_notBrace hst0, chunksR_wf r' hr', ih hw.tail⟩

/-- the values `Lookup` hands on for one parameterised segment and the text captured for it -/
def segParams (n0 st0 : Bytes) (r : List (Bytes × Bytes)) (raw : Bytes) : List (Bytes × Bytes) :=
  (((n0, st0) :: r).map (·.1)).zip ((greedy ((n0, st0) :: r) raw).map decode)

/-- `paramsOf` for the first placeholder of a segment, inside the whole template: no placeholder in
front of it having its name, `strings.Index` finds `{n0}` at its own segment -/
theorem paramsOf_in_template (before after : List XS) (pre n0 st0 : Bytes) (r : List (Bytes × Bytes))
    (hw : WFX (before ++ .par pre n0 st0 r :: after)) (hnot : n0 ∉ allNames before) (raw : Bytes) :
    paramsOf (renderX (before ++ .par pre n0 st0 r :: after)) n0 raw = some (segParams n0 st0 r raw) := by
  have hs : (XS.par pre n0 st0 r).wf := hw _ (List.mem_append_right _ List.mem_cons_self)
  have ⟨hpre, hn0, _, hst0, hr⟩ := hs
  -- the template as  chunks ++ {n0} ++ pattern ++ B
  have hT : renderX (before ++ .par pre n0 st0 r :: after) =
      flatC (chunksOf before ++ [.st (slash :: pre)]) ++ needleOf n0 ++ patAfter st0 r ++ renderX after := by
    simp [renderX_append, renderX, XS.text, flatC_append, flatC_chunksOf, flatC, Chunk.text]
  rw [hT]
  refine paramsOf_at _ _ n0 st0 r raw (par_phsWF hs) ?_ (patAfter_noslash st0 r hst0 hr) (renderX_cases after)
  rw [List.append_assoc _ (patAfter st0 r)]
  apply indexOf_needle_at n0 _ _ (plain_notBrace hn0)
  · intro c hc
    rcases List.mem_append.mp hc with hc | hc
    · exact chunksOf_wf before (fun x hx => hw x (List.mem_append_left _ hx)) c hc
    · rw [List.mem_singleton.mp hc]
      exact slash_plain_wf hpre
  · rw [chunkNames_append]
    simpa [chunkNames, allNames] using hnot

/-- what the handler receives: per parameterised segment the split and decoded captured text -/
def flatParams : List XS → List Bytes → List (Bytes × Bytes)
  | .lit _ :: ts, vs => flatParams ts vs
  | .par _ n0 st0 r :: ts, v :: vs => segParams n0 st0 r v ++ flatParams ts vs
  | _, _ => []

theorem flatParams_lits_only (xs : List XS) (h : firstNames xs = []) (vs : List Bytes) : flatParams xs vs = [] := by
  induction xs with
  | nil => cases vs <;> rfl
  | cons s r ih =>
    cases s with
    | lit b => simp only [firstNames] at h; simp [flatParams, ih h]
    | par pre n0 st0 r' => simp [firstNames] at h

theorem collectParams_X (T : Bytes) (xs : List XS)
    (hp : ∀ pre n0 st0 r, .par pre n0 st0 r ∈ xs → ∀ raw, paramsOf T n0 raw = some (segParams n0 st0 r raw))
    (vals : List Bytes) : collectParams T (firstNames xs) vals = some (flatParams xs vals) := by
  induction xs generalizing vals with
  | nil => cases vals <;> rfl
  | cons s r ih =>
    have ih' := ih fun pre n0 st0 r' h => hp pre n0 st0 r' (List.mem_cons_of_mem _ h)
    cases s with
    | lit b => exact ih' vals
    | par pre n0 st0 r' =>
      cases vals with
      | nil => rfl
      | cons v vs =>
        simp only [firstNames, flatParams, collectParams, hp pre n0 st0 r' List.mem_cons_self v, ih' vs]
        rfl

theorem paramsOf_of_nodup (xs : List XS) (hw : WFX xs) (hnd : (allNames xs).Nodup)
    (pre n0 st0 : Bytes) (r : List (Bytes × Bytes)) (hm : .par pre n0 st0 r ∈ xs) (raw : Bytes) :
    paramsOf (renderX xs) n0 raw = some (segParams n0 st0 r raw) := by
  obtain ⟨before, after, rfl⟩ := List.append_of_mem hm
  refine paramsOf_in_template before after pre n0 st0 r hw (fun h => ?_) raw
  rw [allNames_append] at hnd
  exact (List.nodup_append.mp hnd).2.2 n0 h n0 (by simp [allNames, chunksOf, chunkNames]) rfl

/-- the raw texts, by name, that the captured texts split into (before decoding) -/
def rawParams : List XS → List Bytes → List (Bytes × Bytes)
  | .lit _ :: ts, vs => rawParams ts vs
  | .par _ n0 st0 r :: ts, v :: vs =>
    (((n0, st0) :: r).map (·.1)).zip (greedy ((n0, st0) :: r) v) ++ rawParams ts vs
  | _, _ => []

theorem flatParams_eq (xs : List XS) (vs : List Bytes) :
    flatParams xs vs = (rawParams xs vs).map (fun kv => (kv.1, decode kv.2)) := by
  fun_induction rawParams xs vs with
  | case1 b ts vs ih => simpa only [flatParams]
  | case2 pre n0 st0 r ts v vs ih => simp only [flatParams, segParams, List.map_append, ih, map_zip_decode]
  | case3 t x h1 h2 => rw [flatParams.eq_3 t x h1 h2]; rfl

/-- the path segments `qs` instantiate the template with the raw texts `raws`, by name: static
segments are equal, and a segment `pre {n0} st0 {n1} st1 …` is `pre ++ v0 ++ st0 ++ v1 ++ st1 ++ …` -/
def InstOf : List XS → List Bytes → List (Bytes × Bytes) → Prop
  | [], [], raws => raws = []
  | .lit b :: ts, q :: qs, raws => q = b ∧ InstOf ts qs raws
  | .par pre n0 st0 r :: ts, q :: qs, raws =>
    pre.isPrefixOf q = true ∧ ∃ us rest, renderVals ((n0, st0) :: r) us = some (q.drop pre.length) ∧
      raws = (((n0, st0) :: r).map (·.1)).zip us ++ rest ∧ InstOf ts qs rest
  | _, _, _ => False

/-- if the path instantiates the template at all, the leftmost splitting of the captured texts is
an instantiation -/
theorem instOf_greedy (xs : List XS) (qs vals : List Bytes) (hm : matchX xs qs = some vals)
    (hex : ∃ raws, InstOf xs qs raws) : InstOf xs qs (rawParams xs vals) := by
  obtain ⟨raws, hr⟩ := hex
  fun_induction matchX xs qs generalizing vals raws with
  | case1 => cases hm; rfl
  | case2 b ts q qs _ ih => exact ⟨hr.1, ih vals hm raws hr.2⟩
  | case4 pre n0 st0 r ts q qs hp ih =>
    obtain ⟨vals', hm', rfl⟩ := Option.map_eq_some_iff.mp hm
    obtain ⟨_, us, rest, hus, _, hrest⟩ := hr
    exact ⟨hp, _, _, greedy_complete _ _ ⟨us, hus⟩, rfl, ih vals' hm' rest hrest⟩
  | case3 | case5 | case6 => cases hm

end RtVerif.C01
