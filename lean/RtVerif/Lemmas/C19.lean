import RtVerif.Model.C19
import RtVerif.Lemmas.ByteFacts
namespace RtVerif.C19
open RtVerif Bytes

theorem ble_refl (a : Bytes) : ble a a = true := by
  induction a with
  | nil => rfl
  | cons x xs ih => simp [ble, ih]

theorem ble_iff_le {a b : Bytes} : ble a b = true ↔ a ≤ b := by
  induction a generalizing b with
  | nil => simp [ble]
  | cons x xs ih =>
    cases b with
    | nil => simp [ble]
    | cons y ys =>
      rw [List.cons_le_cons_iff, ← ih, ble, UInt8.lt_iff_toNat_lt, ← UInt8.toNat_inj]
      split
      · simp [*]
      · split
        · simp only [Bool.false_eq_true, false_iff]
          omega
        · rename_i h1 h2
          exact ⟨fun h => .inr ⟨by omega, h⟩, fun h => h.elim (absurd · h1) And.right⟩

theorem ble_total (a b : Bytes) : ble a b = true ∨ ble b a = true := by
  simpa only [ble_iff_le] using List.le_total a b

theorem ble_antisymm {a b : Bytes} (h1 : ble a b = true) (h2 : ble b a = true) : a = b :=
  List.le_antisymm (ble_iff_le.1 h1) (ble_iff_le.1 h2)

theorem ble_trans {a b c : Bytes} (h1 : ble a b = true) (h2 : ble b c = true) : ble a c = true :=
  ble_iff_le.2 (List.le_trans (ble_iff_le.1 h1) (ble_iff_le.1 h2))

def Sorted (l : List Bytes) : Prop := l.Pairwise (fun a b => ble a b = true)

theorem insertS_eq_merge (x : Bytes) (l : List Bytes) : insertS x l = List.merge [x] l ble := by
  induction l with
  | nil => exact (List.merge_right [x]).symm
  | cons y ys ih => rw [insertS, List.cons_merge_cons, ih, List.nil_merge]

theorem insertS_perm (x : Bytes) (l : List Bytes) : (insertS x l).Perm (x :: l) :=
  insertS_eq_merge x l ▸ List.merge_perm_append ble

theorem isort_perm (l : List Bytes) : (isort l).Perm l := by
  induction l with
  | nil => exact .refl _
  | cons x xs ih => exact (insertS_perm x (isort xs)).trans (ih.cons x)

theorem mem_isort {y : Bytes} {l : List Bytes} : y ∈ isort l ↔ y ∈ l := (isort_perm l).mem_iff

theorem nodup_isort {l : List Bytes} (h : l.Nodup) : (isort l).Nodup := (isort_perm l).nodup_iff.2 h

theorem sorted_insertS {x : Bytes} {l : List Bytes} (h : Sorted l) : Sorted (insertS x l) :=
  insertS_eq_merge x l ▸ List.pairwise_merge (le := ble) (fun _ _ _ => ble_trans) (fun a b => by simpa using ble_total a b)
    [x] l (List.pairwise_singleton _ _) h

theorem sorted_isort (l : List Bytes) : Sorted (isort l) := by
  induction l with
  | nil => exact List.Pairwise.nil
  | cons x xs ih => exact sorted_insertS ih

/-- sorted lists are determined by their multiset (the order is antisymmetric) -/
theorem isort_eq_of_perm {l l' : List Bytes} (h : l.Perm l') : isort l = isort l' :=
  List.Perm.eq_of_pairwise (fun _ _ _ _ h1 h2 => ble_antisymm h1 h2) (sorted_isort l) (sorted_isort l')
    ((isort_perm l).trans (h.trans (isort_perm l').symm))

theorem mem_dedup {x : Bytes} {l : List Bytes} : x ∈ dedup l ↔ x ∈ l := by
  induction l with
  | nil => exact Iff.rfl
  | cons a t ih =>
    unfold dedup
    split
    · rename_i hat
      rw [ih, List.mem_cons]
      exact ⟨.inr, fun h => h.elim (· ▸ hat) id⟩
    · simp [ih]

theorem nodup_dedup (l : List Bytes) : (dedup l).Nodup := by
  induction l with
  | nil => exact List.nodup_nil
  | cons a t ih =>
    unfold dedup
    split
    · exact ih
    · rename_i hat
      exact List.nodup_cons.2 ⟨fun h => hat (mem_dedup.1 h), ih⟩

theorem dedup_perm_of_mem_iff {l l' : List Bytes} (h : ∀ x, x ∈ l ↔ x ∈ l') : (dedup l).Perm (dedup l') :=
  (List.perm_ext_iff_of_nodup (nodup_dedup l) (nodup_dedup l')).2 (fun x => by simp [mem_dedup, h x])

theorem subset_iff {a b : List Bytes} : subset a b = true ↔ ∀ x, x ∈ a → x ∈ b := by
  simp [subset, List.all_eq_true]

theorem setEq_iff {a b : List Bytes} : setEq a b = true ↔ ∀ x, x ∈ a ↔ x ∈ b := by
  simp only [setEq, Bool.and_eq_true, subset_iff]
  exact ⟨fun h x => ⟨h.1 x, h.2 x⟩, fun h => ⟨fun x => (h x).1, fun x => (h x).2⟩⟩

theorem mem_diff {a b : List Bytes} {x : Bytes} : x ∈ diff a b ↔ x ∈ a ∧ x ∉ b := by
  simp [diff]

/-- `unspecified` of `(*API).verify` -/
def unspecified (regs exps : List Bytes) : List Bytes := (isort regs).filter (fun v => decide (v ∉ exps))

/-- `unregistered` of `(*API).verify` -/
def unregistered (regs exps : List Bytes) : List Bytes :=
  isort (dedup (exps.filter (fun v => decide (v ∉ regs))))

theorem verify_eq (s : String) (regs exps : List Bytes) :
    verify s regs exps =
      if unregistered regs exps = [] ∧ unspecified regs exps = [] then none
      else some ⟨s, unspecified regs exps, unregistered regs exps⟩ := by
  simp only [verify, unspecified, unregistered, Bool.and_eq_true, List.isEmpty_iff]
  congr

theorem mem_unspecified {regs exps : List Bytes} {x : Bytes} :
    x ∈ unspecified regs exps ↔ x ∈ regs ∧ x ∉ exps := by
  simp [unspecified, mem_isort]

theorem mem_unregistered {regs exps : List Bytes} {x : Bytes} :
    x ∈ unregistered regs exps ↔ x ∈ exps ∧ x ∉ regs := by
  simp [unregistered, mem_isort, mem_dedup]

theorem mem_addKey {α} [DecidableEq α] {m : List α} {k x : α} : x ∈ addKey m k ↔ x ∈ m ∨ x = k := by
  unfold addKey
  split
  · rename_i h
    exact ⟨.inl, fun h' => h'.elim id (· ▸ h)⟩
  · simp

theorem nodup_addKey {α} [DecidableEq α] {m : List α} {k : α} (h : m.Nodup) : (addKey m k).Nodup := by
  unfold addKey
  split
  · exact h
  · rename_i hk
    refine List.nodup_append.2 ⟨h, by simp, fun a ha b hb => ?_⟩
    rw [List.mem_singleton.1 hb]
    exact fun e => hk (e ▸ ha)

theorem mem_foldl_addKey {α} [DecidableEq α] (ks m : List α) (x : α) :
    x ∈ ks.foldl addKey m ↔ x ∈ m ∨ x ∈ ks := by
  induction ks generalizing m with
  | nil => simp
  | cons k t ih => rw [List.foldl_cons, ih, mem_addKey, List.mem_cons, or_assoc]

theorem nodup_foldl_addKey {α} [DecidableEq α] (ks m : List α) (h : m.Nodup) : (ks.foldl addKey m).Nodup := by
  induction ks generalizing m with
  | nil => exact h
  | cons k t ih => exact ih _ (nodup_addKey h)

theorem foldl_addKey_perm {α} [DecidableEq α] {l l' : List α} (m : List α) (hm : m.Nodup) (h : l.Perm l') :
    (l.foldl addKey m).Perm (l'.foldl addKey m) :=
  (List.perm_ext_iff_of_nodup (nodup_foldl_addKey l m hm) (nodup_foldl_addKey l' m hm)).2 fun x => by
    rw [mem_foldl_addKey, mem_foldl_addKey, h.mem_iff]

theorem foldl_registerConsumer (l : List Bytes) (a : Api) :
    l.foldl registerConsumer a =
      { a with consumers := (l.map toLower).foldl addKey a.consumers } := by
  induction l generalizing a with
  | nil => rfl
  | cons x t ih => simp [List.foldl_cons, ih, registerConsumer, applyNorm, Facts.registerConsumerNorm]

theorem foldl_registerProducer (l : List Bytes) (a : Api) :
    l.foldl registerProducer a =
      { a with producers := (l.map toLower).foldl addKey a.producers } := by
  induction l generalizing a with
  | nil => rfl
  | cons x t ih => simp [List.foldl_cons, ih, registerProducer, applyNorm, Facts.registerProducerNorm]

theorem foldl_registerAuth (l : List Bytes) (a : Api) :
    l.foldl registerAuth a = { a with auths := l.foldl addKey a.auths } := by
  induction l generalizing a with
  | nil => rfl
  | cons x t ih => simp [List.foldl_cons, ih, registerAuth, applyNorm, Facts.registerAuthNorm]

theorem foldl_registerOperation (l : List (Bytes × Bytes)) (a : Api) :
    l.foldl registerOperation a =
      { a with operations := (l.map fun mp => (toUpper mp.1, mp.2)).foldl addKey a.operations } := by
  induction l generalizing a with
  | nil => rfl
  | cons x t ih => simp [List.foldl_cons, ih, registerOperation, applyNorm, Facts.registerOperationNorm]

theorem newApi_nodup (j : Bool) :
    (newApi j).consumers.Nodup ∧ (newApi j).producers.Nodup ∧ (newApi j).auths.Nodup ∧
      (newApi j).operations.Nodup := by
  cases j <;> simp [newApi]

theorem toUpper_no_space {m : Bytes} (h : (32 : UInt8) ∉ m) : (32 : UInt8) ∉ toUpper m := by
  intro hm
  obtain ⟨b, hb, e⟩ := List.mem_map.1 hm
  exact h ((toUpperB_eq_iff (by decide) b).1 e ▸ hb)

/-- `m ++ " " ++ p` determines `m` and `p` when the method holds no space -/
theorem key_inj {m m' p p' : Bytes} (h : (32 : UInt8) ∉ m) (h' : (32 : UInt8) ∉ m')
    (e : m ++ 32 :: p = m' ++ 32 :: p') : m = m' ∧ p = p' := by
  -- both sides have the same span of non-spaces
  have e1 := congrArg (List.takeWhile (· != 32)) e
  rw [takeWhile_append_cons p (bne_of_not_mem h) (by simp),
    takeWhile_append_cons p' (bne_of_not_mem h') (by simp)] at e1
  subst e1
  exact ⟨rfl, by simpa using e⟩

theorem contains_false_iff {m : Bytes} {c : UInt8} : Bytes.contains m c = false ↔ c ∉ m := by
  simp only [Bytes.contains, List.any_eq_false, beq_iff_eq]
  exact ⟨fun h hc => h c hc rfl, fun h x hx e => h (e ▸ hx)⟩

theorem mem_tableFor {keys mts : List Bytes} {x : Bytes} : x ∈ tableFor keys mts ↔ x ∈ mts ∧ x ∈ keys := by
  simp [tableFor, mem_isort, mem_dedup]

theorem mem_withDefault {l : List Bytes} {dflt x : Bytes} :
    x ∈ withDefault l dflt ↔
      x ∈ l ∨ (x = dflt ∧ dflt.isEmpty = false ∧ containsCI l dflt = false) := by
  unfold withDefault
  split <;> simp_all

theorem normalizeOffer_of_no_semicolon {mt : Bytes} (h : (59 : UInt8) ∉ mt) : normalizeOffer mt = mt :=
  beforeByte_of_not_mem h

theorem mem_routeTable {keys l : List Bytes} {dflt x : Bytes} (hx : x ∈ withDefault l dflt)
    (hno : normalizeOffer x = x) (hk : x ∈ keys) :
    x ∈ tableFor keys ((withDefault l dflt).map normalizeOffer) :=
  mem_tableFor.2 ⟨List.mem_map.2 ⟨x, hx, hno⟩, hk⟩

theorem admitted_in_table {keys l : List Bytes} {dflt x : Bytes}
    (hl : ∀ mt ∈ l, mt ∈ tableFor keys ((withDefault l dflt).map normalizeOffer))
    (hd : dflt.isEmpty = true ∨ (dflt ∈ keys ∧ (59 : UInt8) ∉ dflt))
    (hx : x ∈ withDefault l dflt) : x ∈ tableFor keys ((withDefault l dflt).map normalizeOffer) := by
  rcases mem_withDefault.1 hx with h | ⟨rfl, hne, -⟩
  · exact hl x h
  · rcases hd with h0 | ⟨hreg, hno⟩
    · rw [h0] at hne
      cases hne
    · exact mem_routeTable hx (normalizeOffer_of_no_semicolon hno) hreg

theorem simple_no_semicolon {d : Desc} (hs : Simple d = true) :
    (∀ mt ∈ d.reqConsumes, (59 : UInt8) ∉ mt) ∧ (∀ mt ∈ d.reqProduces, (59 : UInt8) ∉ mt) := by
  simp only [Simple, Bool.and_eq_true, List.all_eq_true, simpleMT, Bool.not_eq_true',
    contains_false_iff] at hs
  exact ⟨fun mt h => ((hs.1 mt h).1.2), fun mt h => ((hs.2 mt h).1.2)⟩

theorem mem_takeWhile_prefix {α} (p : α → Bool) (l1 : List α) (x : α) (l2 : List α) (hx : p x = false) :
    ∀ y ∈ (l1 ++ x :: l2).takeWhile p, y ∈ l1 := by
  rw [List.takeWhile_append]
  split
  · simp [List.takeWhile_cons_of_neg, hx]
  · exact fun y hy => List.takeWhile_subset _ hy

/-- what is computed from the registrations `validate` reads depends on the API's key sets up to their
order, if it does not depend on the order of a list it is given -/
theorem regsOf_congr {β : Type} {a a' : Api} (F : Option (List Bytes) → β)
    (hF : ∀ {r r'}, r.Perm r' → F (some r) = F (some r')) (d : Desc) (src : String)
    (h1 : a.consumers.Perm a'.consumers) (h2 : a.producers.Perm a'.producers)
    (h3 : a.auths.Perm a'.auths) (h4 : a.operations.Perm a'.operations) :
    F (regsOf a d src) = F (regsOf a' d src) := by
  simp only [regsOf, apply_ite F, hF h1, hF h2, hF h3, hF (h4.map opKey)]

end RtVerif.C19
