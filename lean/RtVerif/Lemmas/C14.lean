import RtVerif.Model.C14
import RtVerif.Lemmas.ByteFacts
namespace RtVerif.C14
open RtVerif Bytes

-- facts the two sides agree on

theorem authKey_eq : authKey = sAuthorization := by decide
theorem accessToken_eq : accessToken = sAccessToken := rfl
theorem clientBasicPrefix_eq : Facts.c14ClientBasicPrefix = basicPrefix := rfl
theorem clientBasicSep_eq : Facts.c14ClientBasicSep = [colon] := rfl
theorem bearerPrefix_eq (ctx : Bool) : srvBearerPrefix ctx = Facts.c14ClientBearerPrefix := by
  cases ctx <;> rfl
theorem clientBearerPrefix_eq : Facts.c14ClientBearerPrefix = [66, 101, 97, 114, 101, 114, 32] := rfl
theorem formMode_eq (ctx : Bool) : srvFormMode ctx = 0 := by cases ctx <;> rfl
theorem inHeader_eq : Facts.c14ServerInHeader = sHeader := rfl
theorem inQuery_eq : Facts.c14ServerInQuery = sQuery := rfl
theorem urlencoded_eq : Facts.c14UrlencodedMime = sUrlencoded := rfl
theorem multipart_eq : Facts.c14MultipartMime = sMultipart := rfl

theorem values_setKey (m : Pairs) (k k' v : Bytes) :
    values (setKey m k v) k' = if k = k' then [v] else values m k' := by
  simp only [values, setKey, List.filter_append, List.filter_filter, List.map_append]
  by_cases h : k = k'
  · subst h; simp [List.filter]
  · have : ∀ a : Bytes × Bytes, (a.1 == k' && !(a.1 == k)) = (a.1 == k') := fun a => by
      by_cases ha : a.1 = k' <;> simp [ha, Ne.symm h]
    simp [this, List.filter, h, beq_eq_false_iff_ne.mpr h]

theorem stripOWS_eq : stripOWS = trimOWS := rfl

theorem trimRight_concat (s : Bytes) (z : UInt8) (hz : isOWS z = false) :
    trimRight (s ++ [z]) = s ++ [z] := by
  simp [trimRight, List.reverse_append, hz]

theorem trimRight_of_last (s : Bytes) (hs : s ≠ []) (hz : isOWS (s.getLast hs) = false) :
    trimRight s = s := by
  have e := List.dropLast_concat_getLast hs
  have := trimRight_concat s.dropLast (s.getLast hs) hz
  rw [e] at this; exact this

theorem fieldValue_iff (v : Bytes) :
    fieldValue v = true ↔
      v = [] ∨ ∃ hs : v ≠ [], isOWS (v.head hs) = false ∧ isOWS (v.getLast hs) = false := by
  cases v with
  | nil => simp [fieldValue]
  | cons c r =>
    simp only [fieldValue, isOWS, reduceCtorEq, false_or, List.head_cons, ne_eq, not_false_eq_true,
      exists_true_left]
    rw [List.getLast?_eq_some_getLast (l := c :: r) (by simp)]
    simp

theorem trimOWS_id (v : Bytes) (hs : v ≠ []) (h1 : isOWS (v.head hs) = false)
    (h2 : isOWS (v.getLast hs) = false) : trimOWS v = v := by
  cases v with
  | nil => exact absurd rfl hs
  | cons c r =>
    have h1 : isOWS c = false := h1
    rw [trimOWS, List.dropWhile_cons_of_neg (by simp [h1])]
    exact trimRight_of_last _ hs h2

theorem trimOWS_of_fieldValue (v : Bytes) (h : fieldValue v = true) : trimOWS v = v := by
  rcases (fieldValue_iff v).mp h with rfl | ⟨hs, h1, h2⟩
  · rfl
  · exact trimOWS_id v hs h1 h2

theorem trimOWS_prefix_append (c : UInt8) (pre t : Bytes) (hc : isOWS c = false) (ht : t ≠ [])
    (hl : isOWS (t.getLast ht) = false) : trimOWS (c :: pre ++ t) = c :: pre ++ t :=
  trimOWS_id _ (List.cons_ne_nil _ _) hc (by rwa [List.getLast_append_right ht])

theorem encode_noOWS (url : Bool) (b : Bytes) : ∀ c ∈ Base64.encode url b, isOWS c = false := by
  intro c hc
  simp only [isOWS, Bool.or_eq_false_iff, beq_eq_false_iff_ne]
  constructor <;> rintro rfl
  · exact Base64.not_mem_encode url (by cases url <;> rfl) (by decide) b hc
  · exact Base64.not_mem_encode url (by cases url <;> rfl) (by decide) b hc

theorem encode_ne_nil (url : Bool) (b : Bytes) (hb : b ≠ []) : Base64.encode url b ≠ [] := by
  match b, hb with
  | [_], _ => simp [Base64.encode]
  | [_, _], _ => simp [Base64.encode]
  | _ :: _ :: _ :: _, _ => simp [Base64.encode, Base64.enc3]

theorem cut_split (cs : Bytes) (c : UInt8) (h : Bytes.contains cs c = true) :
    cs = cs.takeWhile (· != c) ++ c :: (cs.dropWhile (· != c)).drop 1 ∧
      Bytes.contains (cs.takeWhile (· != c)) c = false := by
  induction cs with
  | nil => simp [Bytes.contains] at h
  | cons x r ih =>
    by_cases hx : x = c
    · subst hx; simp [List.takeWhile, List.dropWhile, Bytes.contains]
    · have hne : (x != c) = true := by simpa using hx
      obtain ⟨e1, e2⟩ := ih (by simpa [Bytes.contains, hx] using h)
      simp only [List.takeWhile, hne, List.dropWhile, List.cons_append]
      exact ⟨by rw [← e1], by simpa [Bytes.contains, hx] using e2⟩

/-- `strings.Cut`: the split is at the first separator -/
theorem cut_eq_some (cs : Bytes) (c : UInt8) (u p : Bytes) :
    cut cs c = some (u, p) ↔ cs = u ++ c :: p ∧ u.contains c = false := by
  constructor
  · intro h
    unfold cut at h
    split at h
    · cases h; exact cut_split cs c ‹_›
    · cases h
  · rintro ⟨rfl, hu⟩
    have hne : ∀ x ∈ u, (x != c) = true := fun x hx => by
      simpa [Bytes.contains] using (List.any_eq_false.mp hu x hx)
    simp [cut, Bytes.contains, takeWhile_append_cons p hne, dropWhile_append_cons p hne]

theorem equalFold_length {a b : Bytes} (h : equalFold a b = true) : a.length = b.length := by
  simpa [equalFold, toLower] using congrArg List.length (beq_iff_eq.mp h)

theorem carriedBasic_iff (a u p : Bytes) :
    carriedBasic a = some (u, p) ↔
      ∃ scheme enc, a = scheme ++ enc ∧ equalFold scheme [66, 97, 115, 105, 99, 32] = true ∧
        Base64.decode false enc = some (u ++ 58 :: p) ∧ u.contains 58 = false := by
  unfold carriedBasic
  constructor
  · intro h
    split at h
    · obtain ⟨cs, hd, hc⟩ := Option.bind_eq_some_iff.mp h
      obtain ⟨rfl, hu⟩ := (cut_eq_some cs 58 u p).mp hc
      exact ⟨a.take 6, a.drop 6, (List.take_append_drop 6 a).symm, ‹_›, hd, hu⟩
    · cases h
  · rintro ⟨scheme, enc, rfl, hf, hd, hu⟩
    have hl : scheme.length = 6 := equalFold_length hf
    rw [← hl, List.take_left, List.drop_left, if_pos hf, hd]
    exact (cut_eq_some _ 58 u p).mpr ⟨rfl, hu⟩

/-- the decidable Spec reading and the transcription of `parseBasicAuth` are the same function -/
theorem parseBasicAuth_eq_carried (a : Bytes) : parseBasicAuth a = carriedBasic a := by
  unfold parseBasicAuth carriedBasic
  have hl : basicPrefix.length = 6 := rfl
  have hp : basicPrefix = [66, 97, 115, 105, 99, 32] := rfl
  rw [hl, hp]
  by_cases h : equalFold (a.take 6) [66, 97, 115, 105, 99, 32] = true
  · have hlen : ¬ a.length < 6 := by
      have := equalFold_length h
      simp only [List.length_take, List.length_cons, List.length_nil] at this
      omega
    rw [if_neg (by simp [hlen, h]), if_pos h]
    cases Base64.decode false (a.drop 6) <;> rfl
  · rw [if_pos (by simp [h]), if_neg h]

theorem basicValue_eq (u p : Bytes) :
    basicValue u p = basicPrefix ++ Base64.encode false (u ++ colon :: p) := by
  simp [basicValue, clientBasicPrefix_eq, clientBasicSep_eq]

theorem carriedBasic_basicValue (u p : Bytes) (hu : u.contains colon = false) :
    carriedBasic (basicValue u p) = some (u, p) :=
  (carriedBasic_iff _ u p).mpr ⟨_, _, basicValue_eq u p, by decide, Base64.decode_encode _ _, hu⟩

theorem basicValue_trim (u p : Bytes) : trimOWS (basicValue u p) = basicValue u p := by
  rw [basicValue_eq]
  have hne : Base64.encode false (u ++ colon :: p) ≠ [] := encode_ne_nil _ _ (by simp)
  have := trimOWS_prefix_append 66 [97, 115, 105, 99, 32] _ (by decide) hne
    (encode_noOWS false _ _ (List.getLast_mem hne))
  exact this

theorem bearerValue_eq (t : Bytes) : bearerValue t = [66, 101, 97, 114, 101, 114, 32] ++ t := rfl

theorem carriedBearer_bearerValue (t : Bytes) (ht : t ≠ []) : carriedBearer (bearerValue t) = some t := by
  cases t with
  | nil => exact absurd rfl ht
  | cons c r => simp [carriedBearer, bearerValue_eq]

theorem bearerValue_trim (t : Bytes) (ht : t ≠ []) (hf : fieldValue t = true) :
    trimOWS (bearerValue t) = bearerValue t := by
  rw [bearerValue_eq]
  rcases (fieldValue_iff t).mp hf with rfl | ⟨hs, _, h2⟩
  · exact absurd rfl ht
  · exact trimOWS_prefix_append 66 [101, 97, 114, 101, 114, 32] t (by decide) hs h2

/-- what `BearerAuth` extracts from the header is the RFC 6750 credential, if there is one -/
theorem bearerFromHeader_spec (ctx : Bool) (h : Bytes) :
    (if (bearerFromHeader ctx h).isEmpty then none else some (bearerFromHeader ctx h)) = carriedBearer h := by
  unfold bearerFromHeader carriedBearer
  rw [bearerPrefix_eq, clientBearerPrefix_eq]
  simp only [hasPrefix, List.length_cons, List.length_nil]
  by_cases hp : ([66, 101, 97, 114, 101, 114, 32] : Bytes).isPrefixOf h = true
  · simp only [hp, ↓reduceIte, true_and, List.isEmpty_iff, List.drop_eq_nil_iff]
    by_cases hl : h.length ≤ 7 <;> simp [hl, Nat.not_lt.mpr, Nat.lt_of_not_le]
  · simp [hp]

theorem nonEmptyFirst_eq (l : List Bytes) :
    nonEmptyFirst l = if (get1 l).isEmpty then none else some (get1 l) := by
  cases l with
  | nil => rfl
  | cons x r => simp [nonEmptyFirst, get1]

def stored (r : CReq) : Place → List Bytes
  | .hdr k => values r.header k
  | .qry k => values r.query k

/-- the value a writer stores at its place -/
def wire : Atom → Bytes
  | .basic u p => basicValue u p
  | .bearer t => bearerValue t
  | .apiKey _ _ v => v
  | _ => []

theorem lastAt_place {p : Place} {l : List Atom} {a : Atom} (h : lastAt p l = some a) : a.place = some p := by
  induction l with
  | nil => simp [lastAt] at h
  | cons b l ih =>
    simp only [lastAt] at h
    split at h
    · rename_i c hc; cases h; exact ih hc
    · split at h
      · rename_i hp; cases h; exact hp
      · cases h

theorem applyAtom_stored {r r' : CReq} {a : Atom} (h : applyAtom r a = some r') (p : Place) :
    stored r' p = if a.place = some p then [wire a] else stored r p := by
  unfold applyAtom at h
  split at h <;> cases h <;> cases p <;> simp [stored, Atom.place, wire, values_setKey, authKey_eq]

theorem applyAtoms_stored {l : List (Option Atom)} {r r' : CReq} (h : applyAtoms r l = some r') (p : Place) :
    stored r' p =
      match lastAt p (l.filterMap id) with
      | none => stored r p
      | some a => [wire a] := by
  induction l generalizing r with
  | nil => simp only [applyAtoms, Option.some.injEq] at h; subst h; simp [lastAt]
  | cons x l ih =>
    cases x with
    | none => simp only [applyAtoms] at h; simpa using ih h
    | some a =>
      simp only [applyAtoms] at h
      split at h
      · cases h
      · rename_i r1 h1
        simp only [List.filterMap_cons, id_eq, lastAt]
        rw [ih h]
        cases lastAt p (l.filterMap id) with
        | some b => rfl
        | none =>
          simp only
          rw [applyAtom_stored h1 p]
          split <;> rfl

theorem applyAtom_none (r : CReq) (a : Atom) : applyAtom r a = none ↔ a.isFail = true := by
  cases a with
  | apiKey n q v => cases q <;> simp [applyAtom, Atom.isFail]
  | _ => simp [applyAtom, Atom.isFail]

theorem applyAtoms_none (l : List (Option Atom)) (r : CReq) :
    applyAtoms r l = none ↔ (l.filterMap id).any Atom.isFail = true := by
  induction l generalizing r with
  | nil => simp [applyAtoms]
  | cons x l ih =>
    cases x with
    | none => simpa [applyAtoms] using ih r
    | some a =>
      simp only [applyAtoms, List.filterMap_cons, id_eq, List.any_cons, Bool.or_eq_true]
      cases h1 : applyAtom r a with
      | none => simp [(applyAtom_none r a).mp h1]
      | some r1 =>
        have hf : ¬a.isFail = true := fun hh => by rw [(applyAtom_none r a).mpr hh] at h1; cases h1
        simp [hf, ih r1]

/-- the writers in effect, `nil` entries included -/
def optAtoms : Writer → List (Option Atom)
  | .atom a => [some a]
  | .compose l => l

theorem applyWriter_eq (r : CReq) (w : Writer) : applyWriter r w = applyAtoms r (optAtoms w) := by
  cases w with
  | atom a => simp only [applyWriter, optAtoms, applyAtoms]; cases applyAtom r a <;> rfl
  | compose l => rfl

theorem atoms_eq (w : Writer) : w.atoms = (optAtoms w).filterMap id := by
  cases w <;> simp [Writer.atoms, optAtoms]

def effList (i : Input) : List (Option Atom) :=
  match i.op with
  | some w => optAtoms w
  | none =>
    match i.dflt with
    | none => []
    | some d => if get1 (values i.pre.header authKey) != [] then [] else optAtoms d

theorem authenticate_eq (i : Input) : authenticate i.op i.dflt i.pre = applyAtoms i.pre (effList i) := by
  unfold authenticate effList
  cases i.op with
  | some w => exact applyWriter_eq _ _
  | none =>
    cases i.dflt with
    | none => rfl
    | some d =>
      simp only
      split
      · rfl
      · exact applyWriter_eq _ _

theorem specEffective_eq (i : Input) : specEffective i = (effList i).filterMap id := by
  unfold specEffective effList
  cases i.op with
  | some w => exact atoms_eq w
  | none =>
    cases i.dflt with
    | none => rfl
    | some d =>
      simp only [authKey_eq, nonEmptyFirst_eq]
      cases get1 (values i.pre.header sAuthorization) <;> simp [atoms_eq]

theorem isFormCT_of_wf (v : View) (hwf : v.wf = true) (hb : (get1 v.tokBody).isEmpty = false) :
    isFormCT (serverCT v) = true := by
  cases hB : v.tokBody with
  | nil => simp [hB, get1] at hb
  | cons _ _ =>
    simp only [View.wf, hB, List.isEmpty_cons, Bool.false_or, Bool.or_eq_true, beq_iff_eq] at hwf
    rcases hwf with h | h <;> rw [serverCT, h] <;> decide

/-- the token `BearerAuth` settles on is the one the property's precedence rule names -/
theorem bearerToken_spec (ctx : Bool) (v : View) (hwf : v.wf = true) :
    (if (bearerToken ctx v).isEmpty then none else some (bearerToken ctx v)) = specBearer v := by
  simp only [specBearer, ← bearerFromHeader_spec ctx (get1 v.auth), nonEmptyFirst_eq, bearerToken,
    tokenAfterQuery, formMode_eq, formLookup, beq_self_eq_true, ↓reduceIte]
  have hform := isFormCT_of_wf v hwf
  cases bearerFromHeader ctx (get1 v.auth) <;> cases get1 v.tokQuery <;> cases hB : get1 v.tokBody <;>
    simp [firstSome, hB ▸ hform]

/-! `serve` on a parameter kind the authenticators accept (`simp` reduces the `match` on `pk` by `hpk`) -/

theorem serve_basic {realm : Option Bytes} {c : Bool} {pk : ParamKind} {cb : Callback} {v : View}
    (hpk : pk ≠ .other) : serve (.basic realm c) pk cb v = .out (serveBasic (realmOf realm) cb v) := by
  simp only [serve]

theorem serve_apiKey {name inn : Bytes} {c : Bool} {pk : ParamKind} {cb : Callback} {v : View} (hdr : Bool)
    (hpk : pk ≠ .other) (hin : (toLower inn == sHeader) = hdr)
    (hq : hdr = false → (toLower inn == sQuery) = true) :
    serve (.apiKey name inn c) pk cb v = .out (serveApiKey hdr cb v) := by
  cases hdr with
  | true => simp only [serve, inHeader_eq, hin, ↓reduceIte]
  | false => simp only [serve, inHeader_eq, inQuery_eq, hin, hq rfl, Bool.false_eq_true, ↓reduceIte]

theorem serveBasic_spec {realm : Bytes} {pk : ParamKind} {cb : Callback} {v : View} {r : Option Bytes}
    {c : Bool}
    (hpk : pk ≠ .other) : specServer (.basic r c) pk cb v (serveBasic realm cb v) = true := by
  have hs : specScopes (.basic r c) pk = some [] := by
    cases pk with
    | other => exact absurd rfl hpk
    | _ => rfl
  simp only [specServer, hs, specCred, serveBasic, parseBasicAuth_eq_carried]
  cases carriedBasic (get1 v.auth) with
  | none => simp [notApplicable]
  | some up => simp

theorem serveApiKey_spec {name inn : Bytes} {c : Bool} {pk : ParamKind} {cb : Callback} {v : View}
    (hdr : Bool) (hpk : pk ≠ .other) (hin : (toLower inn == sHeader) = hdr)
    (hq : hdr = false → (toLower inn == sQuery) = true) :
    specServer (.apiKey name inn c) pk cb v (serveApiKey hdr cb v) = true := by
  have hs : specScopes (.apiKey name inn c) pk = some [] := by
    cases pk with
    | other => exact absurd rfl hpk
    | _ => cases hdr <;> simp [specScopes, hin, hq]
  simp only [specServer, hs, specCred, serveApiKey, hin, nonEmptyFirst_eq, ← apply_ite get1]
  cases (get1 (if hdr = true then v.keyHdr else v.keyQuery)) <;> simp [notApplicable]

theorem serveBearer_spec {name : Bytes} {c : Bool} {scopes : List Bytes} {cb : Callback} {v : View}
    (hwf : v.wf = true) :
    specServer (.bearer name c) (.scopedReq scopes) cb v (serveBearer name c scopes cb v) = true := by
  simp only [specServer, specScopes, specCred, serveBearer, ← bearerToken_spec c v hwf]
  cases bearerToken c v <;> simp [notApplicable]

theorem notApplicable_spec {srv : Server} {pk : ParamKind} {cb : Callback} {v : View}
    (h : specScopes srv pk = none) :
    specServer srv pk cb v notApplicable = true := by
  simp [specServer, h, notApplicable]

theorem serve_spec (srv : Server) (pk : ParamKind) (cb : Callback) (v : View) (hwf : v.wf = true) :
    match serve srv pk cb v with
    | .out o => specServer srv pk cb v o = true
    | .panic => specScopes srv pk = none := by
  cases srv with
  | basic r c =>
    cases pk with
    | other => exact notApplicable_spec rfl
    | _ => exact serveBasic_spec (by simp)
  | apiKey name inn c =>
    cases hH : toLower inn == sHeader with
    | true =>
      cases pk with
      | other => simp only [serve, inHeader_eq, hH, ↓reduceIte]; exact notApplicable_spec rfl
      | _ =>
        rw [serve_apiKey true (by simp) hH (by simp)]
        exact serveApiKey_spec true (by simp) hH (by simp)
    | false =>
      cases hQ : toLower inn == sQuery with
      | true =>
        cases pk with
        | other =>
          simp only [serve, inHeader_eq, inQuery_eq, hH, hQ, ↓reduceIte, Bool.false_eq_true]
          exact notApplicable_spec rfl
        | _ =>
          rw [serve_apiKey false (by simp) hH fun _ => hQ]
          exact serveApiKey_spec false (by simp) hH fun _ => hQ
      | false => cases pk <;> simp [serve, inHeader_eq, inQuery_eq, specScopes, hH, hQ]
  | bearer name c =>
    cases pk with
    | scopedReq s => exact serveBearer_spec hwf
    | _ => exact notApplicable_spec rfl

theorem serve_out {srv : Server} {pk : ParamKind} {cb : Callback} {v : View} {o : SOut}
    (h : serve srv pk cb v = .out o) :
    o = notApplicable ∨ (∃ realm, o = serveBasic realm cb v) ∨ (∃ b, o = serveApiKey b cb v) ∨
      ∃ n c s, o = serveBearer n c s cb v := by
  unfold serve at h
  split at h
  · split at h <;> cases h
    · exact .inl rfl
    · exact .inr (.inl ⟨_, rfl⟩)
  · split at h
    · split at h <;> cases h
      · exact .inl rfl
      · exact .inr (.inr (.inl ⟨_, rfl⟩))
    · split at h
      · split at h <;> cases h
        · exact .inl rfl
        · exact .inr (.inr (.inl ⟨_, rfl⟩))
      · cases h
  · split at h <;> cases h
    · exact .inr (.inr (.inr ⟨_, _, _, rfl⟩))
    · exact .inl rfl

theorem transport_wf (r : CReq) (k : Bytes) : (transport r k).wf = true := by
  simp only [View.wf, transport, bodyForm, clientCType, urlencoded_eq, multipart_eq]
  cases r.form.isEmpty <;> cases r.mtype == 2 <;> cases r.mtype == 1 <;> cases isPostLike r.method <;> simp

theorem observe_wf (srv : Server) (r : CReq) : (observe srv r).wf = true := by
  cases srv with
  | apiKey n _ _ => exact transport_wf r n
  | _ => exact transport_wf r []

/-- the values the server sees at a place: header values arrive without their optional whitespace -/
def seen (r : CReq) : Place → List Bytes
  | .hdr k => (stored r (.hdr k)).map trimOWS
  | .qry k => stored r (.qry k)

/-- the client half of the Spec at one place: what the writers in effect leave there, as the server
sees it, is what the last writer aiming at the place carries — or what was there before -/
theorem specPlace_seen (i : Input) (r' : CReq) (h : applyAtoms i.pre (effList i) = some r') (p : Place) :
    specPlace (specEffective i) p (seen i.pre p) (seen r' p) = true := by
  rw [specEffective_eq]
  have hv := applyAtoms_stored h p
  unfold specPlace
  cases hl : lastAt p ((effList i).filterMap id) with
  | none => rw [hl] at hv; cases p <;> simp [seen, hv]
  | some a =>
    rw [hl] at hv
    have hp := lastAt_place hl
    cases a with
    | pass => cases hp
    | fail => cases hp
    | basic u pw =>
      cases hp
      simp only [seen, hv, wire, List.map_cons, List.map_nil, basicValue_trim, get1, List.headD_cons]
      cases hu : u.contains 58 with
      | true => rfl
      | false => simp [carriedBasic_basicValue u pw hu]
    | bearer t =>
      cases hp
      simp only [seen, hv, wire, List.map_cons, List.map_nil, get1, List.headD_cons]
      cases t with
      | nil => rfl
      | cons c t =>
        cases hf : fieldValue (c :: t) with
        | false => rfl
        | true =>
          simp [bearerValue_trim _ (List.cons_ne_nil c t) hf,
            carriedBearer_bearerValue _ (List.cons_ne_nil c t)]
    | apiKey n q v => cases q <;> cases hp <;> simp [seen, hv, wire, stripOWS_eq]

theorem specClient_observe (i : Input) (r' : CReq) (h : applyAtoms i.pre (effList i) = some r') :
    specClient i (observe i.srv r') = true := by
  have hh := fun k => specPlace_seen i r' h (.hdr k)
  have hq := fun k => specPlace_seen i r' h (.qry k)
  simp only [seen, stored] at hh hq
  cases hs : i.srv <;>
    simp [specClient, hs, observe, transport, Server.keyName, authKey_eq, accessToken_eq, stripOWS_eq, hh, hq]

theorem pipeline_spec (i : Input) (cb : Callback) : specOk i cb (pipeline i cb) = true := by
  unfold pipeline
  rw [authenticate_eq]
  have hfail := applyAtoms_none (effList i) i.pre
  cases h : applyAtoms i.pre (effList i) with
  | none =>
    simp only [specOk, specFails, specEffective_eq]
    exact hfail.mp h
  | some r =>
    have hf : specFails i = false := by
      simp only [specFails, specEffective_eq]
      exact Bool.eq_false_iff.mpr fun hh => by rw [hfail.mpr hh] at h; cases h
    have hc := specClient_observe i r h
    have hs := serve_spec i.srv i.pk cb (observe i.srv r) (observe_wf _ _)
    simp only
    cases hsv : serve i.srv i.pk cb (observe i.srv r) <;> rw [hsv] at hs <;> simp [specOk, hf, hc, hs]

theorem isToken_letter (c : UInt8) (h : Letter c) : isTokenByte c = true := by
  rcases h with ⟨h1, h2⟩ | ⟨h1, h2⟩ <;> simp [isTokenByte, UInt8.le_iff_toNat_le, h1, h2]

theorem canonGo_toLower (up : Bool) (s : Bytes) : canonGo up (toLower s) = canonGo up s := by
  induction s generalizing up with
  | nil => rfl
  | cons c r ih =>
    simp only [toLower, List.map_cons, canonGo, toUpperB_toLowerB, toLowerB_idem,
      toLowerB_beq dash_not_letter]
    exact congrArg _ (ih _)

/-- `CanonicalHeaderKey` of a valid field name depends only on the name up to ASCII case -/
theorem canon_equalFold (a b : Bytes) (ha : a.all isTokenByte = true) (h : equalFold a b = true) :
    canon a = canon b := by
  have e : toLower a = toLower b := by simpa [equalFold] using h
  have hb : b.all isTokenByte = true := by
    rw [← all_toLower isToken_letter, ← e, all_toLower isToken_letter]; exact ha
  simp only [canon, ha, hb, ↓reduceIte]
  rw [← canonGo_toLower true a, ← canonGo_toLower true b, e]

end RtVerif.C14
