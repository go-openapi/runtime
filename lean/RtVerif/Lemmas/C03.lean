import RtVerif.Model.C03
import RtVerif.Lemmas.ByteFacts
namespace RtVerif.C03
open RtVerif Bytes

theorem isTokenChar_letter (c : UInt8) (h : Letter c) : isTokenChar c = true := by
  rcases h with ⟨h1, h2⟩ | ⟨h1, h2⟩ <;> simp [isTokenChar, UInt8.le_iff_toNat_le, h1, h2]

theorem canonLoop_lower (up : Bool) (s : Bytes) : canonLoop up (s.map toLowerB) = canonLoop up s := by
  induction s generalizing up with
  | nil => rfl
  | cons c r ih =>
    simp only [List.map_cons, canonLoop, toLowerB_beq dash_not_letter, ih, toUpperB_toLowerB, toLowerB_idem]

theorem lower_canonLoop (up : Bool) (s : Bytes) : (canonLoop up s).map toLowerB = s.map toLowerB := by
  induction s generalizing up with
  | nil => rfl
  | cons c r ih => cases up <;> simp [canonLoop, ih, toLowerB_toUpperB, toLowerB_idem]

theorem all_token_lower (s : Bytes) : (s.map toLowerB).all isTokenChar = s.all isTokenChar :=
  all_toLower isTokenChar_letter s

theorem canonHeader_eq_iff (a b : Bytes) (ha : a.all isTokenChar = true) (hb : b.all isTokenChar = true) :
    canonHeader a = canonHeader b ↔ equalFold a b = true := by
  simp only [canonHeader, ha, hb, if_true, equalFold, toLower, beq_iff_eq]
  constructor
  · intro h
    have := congrArg (List.map toLowerB) h
    rwa [lower_canonLoop, lower_canonLoop] at this
  · intro h
    rw [← canonLoop_lower true a, ← canonLoop_lower true b, h]

theorem fitsInt_mono {w w' : Nat} {v : Int} (hw : w ≤ w') (h : Num.fitsInt w v) : Num.fitsInt w' v := by
  unfold Num.fitsInt at *
  have : 2 ^ (w - 1) ≤ 2 ^ (w' - 1) := Nat.pow_le_pow_right (by decide) (by omega)
  omega

theorem widths_le {w : Nat} (hw : w = 8 ∨ w = 16 ∨ w = 32 ∨ w = 64) : 1 ≤ w ∧ w ≤ 64 := by
  omega

theorem digits?_some (ds : Bytes) (n : Nat) :
    digits? ds = some n ↔ (ds ≠ [] ∧ ∀ b ∈ ds, Num.isDigit b = true) ∧ Num.natOfDigits ds = n := by
  simp only [digits?, Bool.and_eq_true, Bool.not_eq_eq_eq_not, Bool.not_true, List.isEmpty_eq_false_iff,
    List.all_eq_true]
  split
  · rename_i h
    rw [and_iff_right h, Option.some.injEq]
  · rename_i h
    simp only [h, false_and, reduceCtorEq]

theorem digits?_self {ds : Bytes} (h1 : ds ≠ []) (h2 : ∀ b ∈ ds, Num.isDigit b = true) :
    digits? ds = some (Num.natOfDigits ds) := (digits?_some ds _).2 ⟨⟨h1, h2⟩, rfl⟩

theorem intLit?_iff (t : Bytes) (v : Int) : intLit? t = some v ↔ Num.IntLit t v := by
  constructor
  · intro h
    unfold intLit? at h
    split at h <;> split at h <;> cases h
    all_goals
      rename_i hd
      obtain ⟨⟨h1, h2⟩, rfl⟩ := (digits?_some _ _).1 hd
    · exact .plus _ h1 h2
    · exact .minus _ h1 h2
    · exact .plain _ h1 h2
  · intro h
    cases h with
    | plus ds h1 h2 => simp only [intLit?, digits?_self h1 h2]
    | minus ds h1 h2 => simp only [intLit?, digits?_self h1 h2]
    | plain _ h1 h2 =>
      cases t with
      | nil => exact (h1 rfl).elim
      | cons b r =>
        have hb := Num.isDigit_ne_sign (h2 b (List.mem_cons_self ..))
        unfold intLit?
        split
        · rename_i e; cases e; exact (hb.1 rfl).elim
        · rename_i e; cases e; exact (hb.2 rfl).elim
        · rw [digits?_self h1 h2]

/-- `convertText` on an integer kind is `strconv.ParseInt(s, 10, 64)` + `OverflowInt`: the Spec's reading of
the text as a literal, within the declared width. -/
theorem convertInt_eq (w : Nat) (hw : w ≤ 64) (t : Bytes) :
    convertInt w t = match intLit? t with
      | some v => if Num.fitsInt w v then .ok (.int w v) else .err 601
      | none => .err 601 := by
  unfold convertInt
  cases hp : Num.parseInt10 64 t with
  | ok v =>
    obtain ⟨hl, _⟩ := (Num.parseInt10_ok_iff 64 (by decide) t v).1 hp
    rw [(intLit?_iff t v).2 hl]
  | error e =>
    cases hl : intLit? t with
    | none => rfl
    | some v =>
      have : ¬ Num.fitsInt w v := fun hf => by
        have := (Num.parseInt10_ok_iff 64 (by decide) t v).2 ⟨(intLit?_iff t v).1 hl, fitsInt_mono hw hf⟩
        rw [hp] at this
        cases this
      simp [this]

theorem convertInt_iff (w : Nat) (hw : 1 ≤ w ∧ w ≤ 64) (t : Bytes) :
    (∀ v, convertInt w t = .ok (.int w v) ↔ Num.IntLit t v ∧ Num.fitsInt w v) ∧
    ((¬ ∃ v, Num.IntLit t v ∧ Num.fitsInt w v) → convertInt w t = .err 601) := by
  simp only [convertInt_eq w hw.2 t, ← intLit?_iff]
  cases intLit? t with
  | none => simp
  | some v0 =>
    by_cases hf : Num.fitsInt w v0
    · simp [hf]
    · simp [hf]

theorem convertInt_formatInt_err (w : Nat) (hw : 1 ≤ w ∧ w ≤ 64) (v : Int) (hf : ¬ Num.fitsInt w v) :
    convertInt w (Num.formatInt v) = .err 601 :=
  (convertInt_iff w hw _).2 fun ⟨_, hl, hf'⟩ => hf (Num.IntLit.unique hl (Num.formatInt_lit v) ▸ hf')

theorem convertInt_shape {w : Nat} {t : Bytes} {x : Scalar} (h : convertInt w t = .ok x) :
    ∃ v, x = .int w v := by
  unfold convertInt at h
  repeat' split at h
  all_goals cases h
  exact ⟨_, rfl⟩

theorem splitLoop_eq (l : List Bytes) :
    splitLoop l = (l.map trimSpace).filter (fun x => !x.isEmpty) := by
  induction l with
  | nil => rfl
  | cons s r ih =>
    simp only [splitLoop, List.map_cons, List.filter_cons, ih]
    split <;> simp [*]

theorem collect_ok_iff (l : List ItemOut) (vs : List Scalar) :
    collect l = .ok vs ↔ l = vs.map .ok := by
  induction l generalizing vs with
  | nil => cases vs <;> simp [collect]
  | cons x r ih =>
    cases x with
    | err c => cases vs <;> simp [collect]
    | ok v =>
      simp only [collect]
      cases vs with
      | nil => split <;> simp
      | cons v' vs' =>
        simp only [List.map_cons, List.cons.injEq, ItemOut.ok.injEq, ← ih]
        split <;> simp [*]

theorem collect_error (l : List ItemOut) (c : Nat) (h : collect l = .error c) :
    ∃ (pre : List Scalar) (post : List ItemOut), l = pre.map .ok ++ .err c :: post := by
  induction l with
  | nil => cases h
  | cons x r ih =>
    cases x with
    | err c' =>
      cases h
      exact ⟨[], r, rfl⟩
    | ok v =>
      simp only [collect] at h
      split at h <;> cases h
      rename_i hr
      obtain ⟨pre, post, e⟩ := ih hr
      exact ⟨v :: pre, post, by simp [e]⟩

theorem listOut_value_iff (k : SKind) (l : List ItemOut) (vs : List Scalar) :
    listOut k l = .value (.list (tagOf k) vs) ↔ l = vs.map .ok := by
  rw [← collect_ok_iff, listOut]
  split <;> simp [*]

/-- the width the property text gives an integer format (`int8..int64`, anything else: 64) -/
def widthOf (fmt : String) : Nat :=
  if fmt = "int8" then 8 else if fmt = "int16" then 16 else if fmt = "int32" then 32 else 64

theorem widthOf_mem (fmt : String) : widthOf fmt = 8 ∨ widthOf fmt = 16 ∨ widthOf fmt = 32 ∨ widthOf fmt = 64 := by
  unfold widthOf
  repeat' split
  all_goals decide

theorem widthOf_beq (fmt : String) :
    (if fmt == "int8" then 8 else if fmt == "int16" then 16 else if fmt == "int32" then 32 else 64) = widthOf fmt := by
  simp only [widthOf, beq_iff_eq]

theorem widthOf_32 (fmt : String) : (fmt == "int32") = (widthOf fmt == 32) := by
  unfold widthOf
  repeat' split
  all_goals simp_all

theorem int_handled (fmt : String) : (SKind.int (widthOf fmt)).handled = true := by
  rcases widthOf_mem fmt with h | h | h | h <;> rw [h] <;> decide

theorem beq_lit_ne {fmt s : String} (h : ¬ fmt = s) : (s == fmt) = false :=
  beq_eq_false_iff_ne.2 fun e => h e.symm

/-- item texts and the integers of width `w` they denote, position by position -/
inductive ItemsDenote (w : Nat) : List Bytes → List Scalar → Prop where
  | nil : ItemsDenote w [] []
  | cons {t : Bytes} {v : Int} {ts : List Bytes} {ss : List Scalar} :
      Num.IntLit t v → Num.fitsInt w v → ItemsDenote w ts ss → ItemsDenote w (t :: ts) (.int w v :: ss)

end RtVerif.C03
