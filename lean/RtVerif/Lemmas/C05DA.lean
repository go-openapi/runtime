import RtVerif.Model.C05DA
import RtVerif.Lemmas.C05
import RtVerif.Lemmas.C05Order
namespace RtVerif.C05DA
open RtVerif Bytes
open RtVerif.C05 (Rec cParam cWild cTerm cSep isReserved notKeySep notPathSep sortRecs advLit advSingle
  advWild leafOf hasSingle weight look first Found)

theorem el_of_ge {bc : BC} {i : Nat} (h : bc.size ≤ i) : el bc i = {} := by
  unfold el
  rw [Array.getD_eq_getD_getElem?, Array.getElem?_eq_none h]; rfl

theorem el_upd (bc : BC) (i j : Nat) (f : Elem → Elem) :
    el (upd bc i f) j = if i = j ∧ j < bc.size then f (el bc j) else el bc j := by
  unfold el upd
  rw [Array.getD_eq_getD_getElem?, Array.getD_eq_getD_getElem?, Array.getElem?_modify]
  by_cases hij : i = j
  · subst hij
    by_cases hlt : i < bc.size
    · simp [hlt]
    · simp [hlt]
  · simp [hij]

theorem size_upd (bc : BC) (i : Nat) (f : Elem → Elem) : (upd bc i f).size = bc.size := by
  unfold upd; exact Array.size_modify

theorem el_grow (bc : BC) (n j : Nat) : el (grow bc n) j = el bc j := by
  unfold grow
  split
  · rename_i h
    unfold el
    rw [Array.getD_eq_getD_getElem?, Array.getD_eq_getD_getElem?, Array.getElem?_append]
    split
    · rfl
    · rename_i hj
      rw [Array.getElem?_replicate, Array.getElem?_eq_none (by omega)]
      split <;> rfl
  · rfl

theorem size_le_grow (bc : BC) (n : Nat) : bc.size ≤ (grow bc n).size := by
  unfold grow
  split
  · simp
  · exact Nat.le_refl _

theorem lt_size_grow (bc : BC) (n : Nat) : n < (grow bc n).size := by
  unfold grow
  split
  · simp; omega
  · omega

theorem isFree_congr {bc bc' : BC} (h : ∀ s, el bc' s = el bc s) (s : Nat) : isFree bc' s = isFree bc s := by
  unfold isFree; rw [h]

theorem check_lt_size {bc : BC} {n : Nat} {c : UInt8} (h : (el bc n).check = c) (hc : c ≠ 0) : n < bc.size := by
  apply Classical.byContradiction
  intro hn
  rw [el_of_ge (by omega)] at h
  exact hc h.symm

theorem nextIndex_cancel (b : Nat) (c : UInt8) : nextIndex (nextIndex b c) c = b := by
  unfold nextIndex
  rw [Nat.xor_assoc, Nat.xor_self, Nat.xor_zero]

theorem nextIndex_inj {b : Nat} {c d : UInt8} (h : nextIndex b c = nextIndex b d) : c = d := by
  unfold nextIndex at h
  have : b ^^^ (b ^^^ c.toNat) = b ^^^ (b ^^^ d.toNat) := by rw [h]
  rw [← Nat.xor_assoc, ← Nat.xor_assoc, Nat.xor_self, Nat.zero_xor, Nat.zero_xor] at this
  exact UInt8.toNat_inj.mp this

theorem nextIndex_div (idx : Nat) (c : UInt8) : nextIndex idx c / 256 = idx / 256 := by
  unfold nextIndex
  have h := @Nat.shiftRight_xor_distrib 8 idx c.toNat
  rw [Nat.shiftRight_eq_div_pow, Nat.shiftRight_eq_div_pow, Nat.shiftRight_eq_div_pow] at h
  have hc : c.toNat / 2 ^ 8 = 0 := Nat.div_eq_of_lt (by have := UInt8.toNat_lt c; omega)
  rw [hc, Nat.xor_zero] at h
  simpa using h

theorem nextIndex_ge (idx : Nat) (c : UInt8) : 256 * (idx / 256) ≤ nextIndex idx c := by
  have := Nat.mul_div_le (nextIndex idx c) 256
  rw [nextIndex_div] at this
  exact this

/-- Keys as `Router.Build` hands them to `build`: terminated, the terminator nowhere else. -/
def TermOK (k : Bytes) : Prop := ∃ body, k = body ++ [cTerm] ∧ cTerm ∉ body

def TermAll (rs : List Rec) : Prop := ∀ r ∈ rs, TermOK r.key

theorem TermOK.ne_nil {k : Bytes} (h : TermOK k) : k ≠ [] := by
  obtain ⟨body, rfl, _⟩ := h; simp

theorem TermOK.tail {c : UInt8} {k : Bytes} (h : TermOK (c :: k)) (hc : c ≠ cTerm) : TermOK k := by
  obtain ⟨body, hk, hb⟩ := h
  cases body with
  | nil => simp at hk; exact absurd hk.1 hc
  | cons b body' =>
    simp only [List.cons_append, List.cons.injEq] at hk
    refine ⟨body', hk.2, ?_⟩
    intro hm; exact hb (List.mem_cons_of_mem _ hm)

theorem TermOK.term_tail {k : Bytes} (h : TermOK (cTerm :: k)) : k = [] := by
  obtain ⟨body, hk, hb⟩ := h
  cases body with
  | nil => simp at hk; exact hk
  | cons b body' =>
    simp only [List.cons_append, List.cons.injEq] at hk
    exact absurd (by rw [← hk.1]; exact List.mem_cons_self) hb

theorem TermOK.dropWhile {k : Bytes} (h : TermOK k) : TermOK (k.dropWhile notKeySep) := by
  obtain ⟨body, rfl, hb⟩ := h
  induction body with
  | nil =>
    have : notKeySep cTerm = false := by decide
    simp only [List.nil_append, List.dropWhile, this]
    exact ⟨[], rfl, by simp⟩
  | cons b body' ih =>
    simp only [List.cons_append, List.dropWhile]
    split
    · exact ih (fun hm => hb (List.mem_cons_of_mem _ hm))
    · exact ⟨b :: body', rfl, hb⟩

theorem termAll_advLit {c : UInt8} {rs : List Rec} (h : TermAll rs) (hc : c ≠ cTerm) :
    TermAll (advLit c rs) := by
  intro r' hr'
  obtain ⟨r, hr, hk, _, _⟩ := C05.mem_advLit.mp hr'
  have := h r hr
  rw [hk] at this
  exact this.tail hc

theorem advLit_term_keys {rs : List Rec} (h : TermAll rs) : ∀ r ∈ advLit cTerm rs, r.key = [] := by
  intro r' hr'
  obtain ⟨r, hr, hk, _, _⟩ := C05.mem_advLit.mp hr'
  have := h r hr
  rw [hk] at this
  exact this.term_tail

theorem termAll_advSingle {rs : List Rec} (h : TermAll rs) : TermAll (advSingle rs) := by
  intro r' hr'
  obtain ⟨r, hr, hs⟩ := C05.mem_advSingle.mp hr'
  obtain ⟨k, hk, hk', _, _⟩ := C05.stepSingle_eq.mp hs
  have := h r hr
  rw [hk] at this
  rw [hk']
  exact (this.tail (by decide)).dropWhile

theorem advWild_keys (rs : List Rec) : ∀ r ∈ advWild rs, r.key = [] := by
  intro r' hr'
  obtain ⟨r, _, hs⟩ := C05.mem_advWild.mp hr'
  obtain ⟨_, _, hk, _⟩ := C05.stepWild_eq.mp hs
  exact hk

theorem hasSingle_advSingle_ne_nil {rs : List Rec} (h : hasSingle rs = true) : advSingle rs ≠ [] := by
  obtain ⟨r', hr'⟩ := C05.exists_mem_advSingle.mpr h
  exact List.ne_nil_of_mem hr'

theorem hasSingle_eq (rs : List Rec) : hasSingle rs = !(advSingle rs).isEmpty := by
  rw [Bool.eq_iff_iff, ← C05.exists_mem_advSingle]
  cases advSingle rs <;> simp

theorem look_nil (path : Bytes) : ∀ vals, look [] path vals = none := by
  induction path with
  | nil => intro vals; rw [C05.look.eq_1]; rfl
  | cons c rest ih =>
    intro vals
    rw [C05.look.eq_2]
    have h1 : advLit c [] = [] := rfl
    have h2 : hasSingle [] = false := rfl
    have h3 : advWild [] = [] := rfl
    simp only [h1, ih, ite_self, first, h2, Bool.false_eq_true, ↓reduceDIte, h3]
    rfl

theorem childOf_param (rs : List Rec) : childOf cParam rs = advSingle rs := by
  unfold childOf; simp

theorem childOf_wild (rs : List Rec) : childOf cWild rs = advWild rs := by
  unfold childOf
  have : (cWild == cParam) = false := by decide
  simp [this]

theorem childOf_lit {c : UInt8} (rs : List Rec) (h1 : c ≠ cParam) (h2 : c ≠ cWild) :
    childOf c rs = advLit c rs := by
  unfold childOf
  simp [h1, h2]

def headOf (r : Rec) : UInt8 := r.key.headD 0
def headIs (c : UInt8) (r : Rec) : Bool := headOf r == c

theorem headOf_cons {r : Rec} {c : UInt8} {k : Bytes} (h : r.key = c :: k) : headOf r = c := by
  rw [headOf, h]; rfl

theorem key_of_headOf {r : Rec} {c : UInt8} (h : headOf r = c) (hc : c ≠ 0) : ∃ k, r.key = c :: k := by
  cases hk : r.key with
  | nil => rw [headOf, hk] at h; exact absurd h.symm hc
  | cons b k => rw [headOf, hk] at h; exact ⟨k, by rw [show b = c from h]⟩

/-- what `build` makes of a record of the sibling `c` -/
def strip (c : UInt8) (r : Rec) : Rec :=
  if c == cParam then stripSingle r else if c == cWild then stripWild r else dropHead r

/-- the records `build` hands to the child on `c`: those that start with `c`, stripped -/
def group (c : UInt8) (rs : List Rec) : List Rec := (rs.filter (headIs c)).map (strip c)

theorem filterMap_eq_group {step : Rec → Option Rec} {strip : Rec → Rec} {p : Rec → Bool}
    (h : ∀ r, step r = if p r then some (strip r) else none) (rs : List Rec) :
    rs.filterMap step = (rs.filter p).map strip := by
  induction rs with
  | nil => rfl
  | cons r t ih =>
    rw [List.filterMap_cons, List.filter_cons, h, ih]
    cases p r <;> rfl

theorem childOf_eq {c : UInt8} (hc : c ≠ 0) (rs : List Rec) :
    childOf c rs = if c == cParam then sortRecs (group c rs) else group c rs := by
  unfold childOf group strip
  by_cases h1 : c = cParam
  · subst h1
    simp only [beq_self_eq_true, ↓reduceIte]
    refine congrArg sortRecs (filterMap_eq_group (fun r => ?_) rs)
    unfold C05.stepSingle
    cases hk : r.key with
    | nil => simp [headIs, headOf, hk]; decide
    | cons b k => by_cases hb : b = cParam <;> simp [headIs, headOf, hk, hb, stripSingle]
  · by_cases h2 : c = cWild
    · subst h2
      simp only [h1, beq_iff_eq, ↓reduceIte, beq_self_eq_true]
      refine filterMap_eq_group (fun r => ?_) rs
      unfold C05.stepWild
      cases hk : r.key with
      | nil => simp [headIs, headOf, hk]; decide
      | cons b k => by_cases hb : b = cWild <;> simp [headIs, headOf, hk, hb, stripWild]
    · simp only [beq_iff_eq, h1, ↓reduceIte, h2]
      refine filterMap_eq_group (fun r => ?_) rs
      cases hk : r.key with
      | nil => simp [headIs, headOf, hk, hc.symm]
      | cons b k => by_cases hb : b = c <;> simp [headIs, headOf, hk, hb, dropHead]

theorem perm_childOf {c : UInt8} (hc : c ≠ 0) (rs : List Rec) : (childOf c rs).Perm (group c rs) := by
  rw [childOf_eq hc]
  split
  · exact C05.perm_sortRecs _
  · exact List.Perm.refl _

theorem childOf_ne_nil_iff {c : UInt8} (hc : c ≠ 0) {rs : List Rec} :
    childOf c rs ≠ [] ↔ ∃ r ∈ rs, headOf r = c := by
  rw [Ne, ← List.isEmpty_iff, (perm_childOf hc rs).isEmpty_eq]
  simp [group, headIs]

theorem strip_key_lt (c : UInt8) {r : Rec} (h : r.key ≠ []) : (strip c r).key.length < r.key.length := by
  have h1 := C05.length_dropWhile_le notKeySep (r.key.drop 1)
  have h2 := List.length_pos_iff.mpr h
  unfold strip
  split
  · simp only [stripSingle]; rw [List.length_drop] at h1; omega
  · split
    · exact h2
    · simp only [dropHead, List.length_drop]; omega

theorem weight_childOf_lt {c : UInt8} (hc : c ≠ 0) {rs : List Rec} (hne : childOf c rs ≠ []) :
    weight (childOf c rs) < weight rs := by
  obtain ⟨r', hr'⟩ := List.exists_mem_of_ne_nil _ hne
  rw [(perm_childOf hc rs).mem_iff, group, ← filterMap_eq_group fun _ => rfl] at hr'
  rw [C05.weight_perm (perm_childOf hc rs), group, ← filterMap_eq_group fun _ => rfl]
  refine C05.weight_filterMap_lt (fun r r' h => ?_) hr'
  split at h
  · rename_i hh
    cases h
    obtain ⟨k, hk⟩ := key_of_headOf (by simpa [headIs] using hh) hc
    exact strip_key_lt c (by rw [hk]; exact List.cons_ne_nil _ _)
  · cases h

theorem sortRecs_of_sorted {l : List Rec} (h : l.Pairwise C05.KeyLe) : sortRecs l = l := by
  induction l with
  | nil => rfl
  | cons x xs ih =>
    rw [List.pairwise_cons] at h
    show C05.insertRec x (sortRecs xs) = _
    rw [ih h.2]
    cases xs with
    | nil => rfl
    | cons y ys =>
      have hle : C05.bytesLe x.key y.key = true := h.1 y List.mem_cons_self
      simp [C05.insertRec, hle]

/-- dropping the common first byte, or the whole key, keeps a group sorted -/
theorem sorted_group {c : UInt8} (hc : c ≠ 0) (h1 : c ≠ cParam) {rs : List Rec} (h : rs.Pairwise C05.KeyLe) :
    (group c rs).Pairwise C05.KeyLe := by
  rw [group, List.pairwise_map]
  refine (h.filter (headIs c)).imp_of_mem fun {a b} ha hb hab => ?_
  obtain ⟨ka, hka⟩ := key_of_headOf (by simpa [headIs] using (List.mem_filter.mp ha).2) hc
  obtain ⟨kb, hkb⟩ := key_of_headOf (by simpa [headIs] using (List.mem_filter.mp hb).2) hc
  rw [C05.KeyLe, hka, hkb, C05.bytesLe_cons] at hab
  unfold C05.KeyLe strip
  by_cases h2 : c = cWild
  · simp only [beq_iff_eq, h2, ↓reduceIte, stripWild]
    rfl
  · simp only [beq_iff_eq, h1, h2, ↓reduceIte, dropHead, hka, hkb, List.drop_succ_cons, List.drop_zero]
    exact hab.resolve_left (UInt8.lt_irrefl _) |>.2

/-- the child `build` makes for the sibling `c` (sorted again at the start of the child's `build`) is the
child `C05.look` follows -/
theorem child_eq {c : UInt8} (hc : c ≠ 0) {rs : List Rec} (h : rs.Pairwise C05.KeyLe) :
    childOf c rs = sortRecs (group c rs) := by
  rw [childOf_eq hc]
  split
  · rfl
  · rename_i h1
    exact (sortRecs_of_sorted (sorted_group hc (by simpa using h1) h)).symm

/-- the duplicate-name scan of `C05.build`, one level down: the leaf kept at this node, and the scan of
every child the node has -/
theorem mem_leaves_succ {f : Nat} {rs : List Rec} {x : Rec} :
    x ∈ C05.leaves (f + 1) rs ↔
      leafOf rs = some x ∨ ∃ c : UInt8, (∃ r ∈ rs, r.key.head? = some c) ∧ x ∈ C05.leaves f (childOf c rs) := by
  rw [C05.leaves]
  simp only [List.mem_append, Option.mem_toList, List.mem_flatMap, List.mem_range]
  refine or_congr Iff.rfl ⟨?_, ?_⟩
  · rintro ⟨n, _, h⟩
    refine ⟨UInt8.ofNat n, ?_⟩
    split at h
    · rename_i hany
      refine ⟨by simpa using hany, ?_⟩
      unfold childOf
      rw [apply_ite (C05.leaves f), apply_ite (C05.leaves f)]
      exact h
    · cases h
  · rintro ⟨c, hex, h⟩
    refine ⟨c.toNat, UInt8.toNat_lt c, ?_⟩
    simp only [UInt8.ofNat_toNat]
    rw [if_pos (by simpa using hex)]
    unfold childOf at h
    rw [apply_ite (C05.leaves f), apply_ite (C05.leaves f)] at h
    exact h

/-- The element `idx` of the double array represents the trie node with the candidate list `rs`
(the Prop form of `reprB`). -/
inductive Repr (bc : BC) (node : Array (Option Node)) : Nat → List Rec → Prop
  | leaf (idx : Nat) (rs : List Rec) (r : Rec) :
      idx < bc.size → (∀ x ∈ rs, x.key = []) → leafOf rs = some r →
      node[(el bc idx).base]? = some (some ⟨r.names, r.val⟩) → Repr bc node idx rs
  | inner (idx : Nat) (rs : List Rec) :
      idx < bc.size → rs ≠ [] → (∀ x ∈ rs, x.key ≠ []) →
      (el bc idx).single = hasSingle rs →
      (el bc idx).wild = !(advWild rs).isEmpty →
      (∀ c : UInt8, c ≠ 0 → childOf c rs = [] → (el bc (nextIndex (el bc idx).base c)).check ≠ c) →
      (∀ c : UInt8, c ≠ 0 → childOf c rs ≠ [] → (el bc (nextIndex (el bc idx).base c)).check = c) →
      (∀ c : UInt8, c ≠ 0 → childOf c rs ≠ [] →
        Repr bc node (nextIndex (el bc idx).base c) (childOf c rs)) →
      Repr bc node idx rs

theorem Repr.lt_size {bc : BC} {node : Array (Option Node)} {idx : Nat} {rs : List Rec}
    (h : Repr bc node idx rs) : idx < bc.size := by
  cases h <;> assumption

theorem Repr.leaf_inv {bc : BC} {node : Array (Option Node)} {idx : Nat} {rs : List Rec}
    (h : Repr bc node idx rs) (hk : ∀ x ∈ rs, x.key = []) :
    ∃ r, leafOf rs = some r ∧ node[(el bc idx).base]? = some (some ⟨r.names, r.val⟩) := by
  cases h with
  | leaf _ _ r _ _ hl hn => exact ⟨r, hl, hn⟩
  | inner _ _ _ hne hk' =>
    exfalso
    cases rs with
    | nil => exact hne rfl
    | cons x xs => exact hk' x List.mem_cons_self (hk x List.mem_cons_self)

theorem Repr.inner_inv {bc : BC} {node : Array (Option Node)} {idx : Nat} {rs : List Rec}
    (h : Repr bc node idx rs) (hT : TermAll rs) :
    (el bc idx).single = hasSingle rs ∧ (el bc idx).wild = !(advWild rs).isEmpty ∧
    (∀ c : UInt8, c ≠ 0 → childOf c rs = [] → (el bc (nextIndex (el bc idx).base c)).check ≠ c) ∧
    (∀ c : UInt8, c ≠ 0 → childOf c rs ≠ [] → (el bc (nextIndex (el bc idx).base c)).check = c ∧
      nextIndex (el bc idx).base c < bc.size ∧ Repr bc node (nextIndex (el bc idx).base c) (childOf c rs)) := by
  cases h with
  | leaf _ _ r _ hk hl _ =>
    have hm := (C05.leafOf_some hl).1
    exact absurd (hk r hm) (hT r hm).ne_nil
  | inner _ _ _ _ _ hsingle hwild hno hyes hrepr =>
    exact ⟨hsingle, hwild, hno, fun c hc hnn =>
      ⟨hyes c hc hnn, check_lt_size (hyes c hc hnn) hc, hrepr c hc hnn⟩⟩

end RtVerif.C05DA
