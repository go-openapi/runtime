import RtVerif.Model.C09
import RtVerif.Lemmas.ByteFacts
/-
  Everything on reuse rests on one fact about the memo machine (`stepCore_keeps`: a stored result is
  never overwritten, except the principal by `ResetAuth`). With it the simulation invariant `Agree`
  is kept: what the Spec promises to the holder of a request value is memoised in that value's
  context. Its converse `Sound` (what is memoised is derived from the request or promised), with
  the validity of the shared state `StOk`, gives "derived from the request alone".
  The suffix `_model` (`keeps_model`, `derived_model`, `routeAlone_model`) says that what the model's
  step returns satisfies the Spec predicate of that name (`keeps`, `derivedAlone`, `routeAlone`); in
  every other name `keeps` means that a stored value is preserved.
-/
namespace RtVerif.C09
open RtVerif Bytes

theorem ne_CT_Scopes : kCT ≠ kScopes := by decide
theorem ne_Fmt_Scopes : kFmt ≠ kScopes := by decide
theorem ne_Route_Scopes : kRoute ≠ kScopes := by decide
theorem ne_Bound_Scopes : kBound ≠ kScopes := by decide
theorem ne_Princ_Scopes : kPrinc ≠ kScopes := by decide

theorem value_push_eq (k : Nat) (v : Val) (c : Ctx) : value ((k, v) :: c) k = v := by
  simp [value]

theorem value_push_ne {k k' : Nat} (v : Val) (c : Ctx) (h : k' ≠ k) : value ((k', v) :: c) k = value c k := by
  simp [value, h]

theorem memoRoute_push {k : Nat} (v : Val) (c : Ctx) (h : k ≠ kRoute) : memoRoute ((k, v) :: c) = memoRoute c := by
  simp [memoRoute, value_push_ne v c h]

theorem memoCT_push {k : Nat} (v : Val) (c : Ctx) (h : k ≠ kCT) : memoCT ((k, v) :: c) = memoCT c := by
  simp [memoCT, value_push_ne v c h]

theorem memoFmt_push {k : Nat} (v : Val) (c : Ctx) (h : k ≠ kFmt) : memoFmt ((k, v) :: c) = memoFmt c := by
  simp [memoFmt, value_push_ne v c h]

theorem memoBound_push {k : Nat} (v : Val) (c : Ctx) (h : k ≠ kBound) : memoBound ((k, v) :: c) = memoBound c := by
  simp [memoBound, value_push_ne v c h]

theorem memoPrinc_push {k : Nat} (v : Val) (c : Ctx) (h : k ≠ kPrinc) : memoPrinc ((k, v) :: c) = memoPrinc c := by
  simp [memoPrinc, value_push_ne v c h]

theorem memoRoute_set (i : Nat) (rc : RouteCfg) (c : Ctx) : memoRoute ((kRoute, .route i rc) :: c) = some (i, rc) := by
  simp [memoRoute, value_push_eq]

theorem memoCT_set (m s : Bytes) (c : Ctx) : memoCT ((kCT, .ct m s) :: c) = some (m, s) := by
  simp [memoCT, value_push_eq]

theorem memoFmt_set (f : Bytes) (c : Ctx) : memoFmt ((kFmt, .fmt f) :: c) = some f := by
  simp [memoFmt, value_push_eq]

theorem memoBound_set (cs : List Nat) (b : Bytes) (c : Ctx) : memoBound ((kBound, .bound cs b) :: c) = some ⟨cs, b⟩ := by
  simp [memoBound, value_push_eq]

/-- `v` is of the kind the accessors store, and look for, under key `k` -/
def isMemo (k : Nat) : Val → Bool
  | .route _ _ => k == kRoute
  | .ct _ _ => k == kCT
  | .fmt _ => k == kFmt
  | .bound _ _ => k == kBound
  | .princ _ => k == kPrinc
  | _ => false

theorem push_keeps {c : Ctx} {k0 : Nat} (v : Val) (h0 : isMemo k0 (value c k0) = false) (k : Nat)
    (hk : isMemo k (value c k) = true) : value ((k0, v) :: c) k = value c k := by
  apply value_push_ne
  intro e; subst e; rw [h0] at hk; cases hk

theorem isMemo_route (c : Ctx) : isMemo kRoute (value c kRoute) = (memoRoute c).isSome := by
  unfold memoRoute; cases value c kRoute <;> rfl

theorem isMemo_ct (c : Ctx) : isMemo kCT (value c kCT) = (memoCT c).isSome := by
  unfold memoCT; cases value c kCT <;> rfl

theorem isMemo_fmt (c : Ctx) : isMemo kFmt (value c kFmt) = (memoFmt c).isSome := by
  unfold memoFmt; cases value c kFmt <;> rfl

theorem isMemo_bound (c : Ctx) : isMemo kBound (value c kBound) = (memoBound c).isSome := by
  unfold memoBound; cases value c kBound <;> rfl

theorem isMemo_scopes (v : Val) : isMemo kScopes v = false := by cases v <;> rfl

theorem memoPrinc_nil (c : Ctx) (h : value c kPrinc = .nil) : memoPrinc c = none := by simp [memoPrinc, h]

theorem value_of_memoPrinc (c : Ctx) (v : Val) (h : memoPrinc c = some v) : value c kPrinc = v := by
  unfold memoPrinc at h
  split at h
  · cases h
  · cases h; rfl

theorem nil_of_memoPrinc_none {c : Ctx} (h : memoPrinc c = none) : value c kPrinc = .nil := by
  unfold memoPrinc at h
  split at h
  · assumption
  · cases h

theorem routeInfo_cases (env : Env) (st : State) (c : Ctx) :
    (∃ x, memoRoute c = some x ∧ routeInfo env st c = ⟨st, .same, some x, []⟩) ∨
    (memoRoute c = none ∧ ∃ rc, env.lookup = some rc ∧ routeInfo env st c =
        ⟨{ st with routes := st.routes ++ [{}] }, .new ((kRoute, .route st.routes.length rc) :: c),
          some (st.routes.length, rc), [.lookup]⟩) ∨
    (memoRoute c = none ∧ env.lookup = none ∧ routeInfo env st c = ⟨st, .nil, none, [.lookup]⟩) := by
  unfold routeInfo
  cases hm : memoRoute c with
  | some x => exact .inl ⟨x, rfl, rfl⟩
  | none =>
    cases hl : env.lookup with
    | some rc => exact .inr (.inl ⟨rfl, rc, rfl, rfl⟩)
    | none => exact .inr (.inr ⟨rfl, rfl, rfl⟩)

theorem contentType_cases (env : Env) (c : Ctx) :
    (∃ x, memoCT c = some x ∧ contentType env c = (.same, .ok x)) ∨
    (memoCT c = none ∧ ∃ x, env.parseCT = .ok x ∧ contentType env c = (.new ((kCT, .ct x.1 x.2) :: c), .ok x)) ∨
    (memoCT c = none ∧ ∃ e, env.parseCT = .error e ∧ contentType env c = (.nil, .error e)) := by
  unfold contentType
  cases hm : memoCT c with
  | some x => exact .inl ⟨x, rfl, rfl⟩
  | none =>
    cases hp : env.parseCT with
    | ok x => exact .inr (.inl ⟨rfl, x, rfl, rfl⟩)
    | error e => exact .inr (.inr ⟨rfl, e, rfl, rfl⟩)

theorem responseFormat_cases (env : Env) (c : Ctx) (offers : List Bytes) :
    (∃ f, memoFmt c = some f ∧ responseFormat env c offers = (.same, f)) ∨
    (memoFmt c = none ∧ (env.neg offers).isEmpty = true ∧ responseFormat env c offers = (.same, env.neg offers)) ∨
    (memoFmt c = none ∧ (env.neg offers).isEmpty = false ∧
      responseFormat env c offers = (.new ((kFmt, .fmt (env.neg offers)) :: c), env.neg offers)) := by
  unfold responseFormat
  cases hm : memoFmt c with
  | some f => exact .inl ⟨f, rfl, rfl⟩
  | none =>
    cases he : (env.neg offers).isEmpty with
    | true => exact .inr (.inl ⟨rfl, rfl, by simp⟩)
    | false => exact .inr (.inr ⟨rfl, rfl, by simp⟩)

theorem isLookup_excl {e : Eff} (h : isLookup e = true) : isAuthEff e = false ∧ isConsume e = false := by
  cases e <;> first | exact ⟨rfl, rfl⟩ | cases h

theorem isAuthEff_excl {e : Eff} (h : isAuthEff e = true) : isLookup e = false ∧ isConsume e = false := by
  cases e <;> first | exact ⟨rfl, rfl⟩ | cases h

theorem isConsume_excl {e : Eff} (h : isConsume e = true) : isLookup e = false ∧ isAuthEff e = false := by
  cases e <;> first | exact ⟨rfl, rfl⟩ | cases h

theorem filter_consume_of_lookup (l : List Eff) (h : l.all isLookup = true) : l.filter isConsume = [] :=
  List.filter_eq_nil_iff.mpr fun e he => by simp [(isLookup_excl (List.all_eq_true.mp h e he)).2]

theorem filter_consume_of_auth (l : List Eff) (h : l.all isAuthEff = true) : l.filter isConsume = [] :=
  List.filter_eq_nil_iff.mpr fun e he => by simp [(isAuthEff_excl (List.all_eq_true.mp h e he)).2]

theorem any_consume_of_filter (l : List Eff) (h : l.filter isConsume = []) : l.any isConsume = false := by
  simpa using h

theorem raAuth_effs (env : Env) (schemes : List Bytes) (last : Option Bytes) (effs : List Eff)
    (h : effs.all isAuthEff = true) : (raAuth env schemes last effs).effs.all isAuthEff = true := by
  induction schemes generalizing last effs with
  | nil => exact h
  | cons s rest ih =>
    have h' : (effs ++ [Eff.authn s]).all isAuthEff = true := by rw [List.all_append, h]; rfl
    unfold raAuth
    split
    · exact h'
    · split
      · exact h'
      · exact ih _ _ h'

theorem rasAuth_effs (env : Env) (alts : List AuthAlt) (le : Option Nat) (anon cur : Option AuthAlt) (al : Bool)
    (effs : List Eff) (h : effs.all isAuthEff = true) :
    (rasAuth env alts le anon cur al effs).effs.all isAuthEff = true := by
  induction alts generalizing le anon cur al effs with
  | nil =>
    unfold rasAuth
    split <;> exact h
  | cons ra rest ih =>
    have h' : (effs ++ (raAuth env ra.schemes none []).effs).all isAuthEff = true := by
      rw [List.all_append, h, raAuth_effs env ra.schemes none [] rfl]; rfl
    unfold rasAuth
    simp only
    split
    · exact ih _ _ _ _ _ h
    · split
      · exact ih _ _ _ _ _ h'
      · exact h'

/-- an outcome of `Authorize` when nothing is memoised: `route.Authenticator` is assigned; the effects are
calls of authenticators and of the authorizer; it returns no request (failure, panic), or stores principal
and scopes on top of the context it was given -/
abbrev AuthEvaluated (st : State) (c : Ctx) (rid : Nat) (o : AuthOut) : Prop :=
  ∃ cur effs, effs.all isAuthEff = true ∧
    ((∃ res, (res = .panic ∨ ∃ code, res = .fail code) ∧ o = ⟨setAuthn st rid cur, .nil, res, effs⟩) ∨
     ∃ sc pr, o = ⟨setAuthn st rid cur, .new ((kScopes, .scopes sc) :: (kPrinc, princVal pr) :: c), .ok (princVal pr), effs⟩)

theorem authStore_cases (st : State) (c : Ctx) (rid : Nat) (cur : Option AuthAlt) (a : RasOut) (effs : List Eff)
    (he : effs.all isAuthEff = true) : AuthEvaluated st c rid (authStore (setAuthn st rid cur) c a effs) := by
  unfold authStore
  split
  · exact ⟨_, _, he, .inl ⟨_, .inl rfl, rfl⟩⟩
  · exact ⟨_, _, he, .inr ⟨_, _, rfl⟩⟩

theorem authorizeMiss_cases (env : Env) (st : State) (c : Ctx) (rid : Nat) (rc : RouteCfg) :
    AuthEvaluated st c rid (authorizeMiss env st c rid rc) := by
  have h := rasAuth_effs env rc.alts none none ((st.routes[rid]?).bind (·.authn)) false [] rfl
  have hz : ((rasAuth env rc.alts none none ((st.routes[rid]?).bind (·.authn)) false []).effs ++ [Eff.authz]).all
      isAuthEff = true := by rw [List.all_append, h]; rfl
  unfold authorizeMiss
  simp only
  split
  · exact ⟨_, _, h, .inl ⟨_, .inr ⟨_, rfl⟩, rfl⟩⟩
  · split
    · split
      · exact ⟨_, _, hz, .inl ⟨_, .inr ⟨_, rfl⟩, rfl⟩⟩
      · exact authStore_cases _ _ _ _ _ _ hz
    · exact authStore_cases _ _ _ _ _ _ h

theorem authorize_cases (env : Env) (st : State) (c : Ctx) (route : Option (Nat × RouteCfg)) :
    authorize env st c route = ⟨st, .nil, .unsecured, []⟩ ∨
    ∃ i rc, route = some (i, rc) ∧ rc.alts.isEmpty = false ∧
      ((∃ v, memoPrinc c = some v ∧ authorize env st c route = ⟨st, .same, .ok v, []⟩) ∨
       (memoPrinc c = none ∧ AuthEvaluated st c i (authorize env st c route))) := by
  unfold authorize
  cases route with
  | none => exact .inl rfl
  | some x =>
    obtain ⟨i, rc⟩ := x
    simp only
    cases ha : rc.alts.isEmpty with
    | true => exact .inl rfl
    | false =>
      cases hm : memoPrinc c with
      | some v => exact .inr ⟨i, rc, rfl, ha, .inl ⟨v, rfl, rfl⟩⟩
      | none => exact .inr ⟨i, rc, rfl, ha, .inr ⟨rfl, authorizeMiss_cases env st c i rc⟩⟩

theorem authorize_miss_eq (env : Env) (st : State) (c : Ctx) (i : Nat) (rc : RouteCfg)
    (hsec : rc.alts.isEmpty = false) (hm : memoPrinc c = none) :
    authorize env st c (some (i, rc)) = authorizeMiss env st c i rc := by
  simp [authorize, hsec, hm]

theorem authorize_effs (env : Env) (st : State) (c : Ctx) (route : Option (Nat × RouteCfg)) :
    (authorize env st c route).effs.all isAuthEff = true := by
  rcases authorize_cases env st c route with
    e | ⟨_, _, _, _, ⟨_, _, e⟩ | ⟨_, _, _, he, ⟨_, _, e⟩ | ⟨_, _, e⟩⟩⟩ <;> rw [e] <;> first | rfl | exact he

theorem routeInfo_effs (env : Env) (st : State) (c : Ctx) : (routeInfo env st c).effs.all isLookup = true := by
  rcases routeInfo_cases env st c with ⟨_, _, e⟩ | ⟨_, _, _, e⟩ | ⟨_, _, e⟩ <;> rw [e] <;> rfl

theorem vParameters_effs (env : Env) (st : State) (rid : Nat) :
    (vParameters env st rid).effs.all isConsume = true ∧ (vParameters env st rid).effs.length ≤ 1 ∧
    ((vParameters env st rid).res = .panic → (vParameters env st rid).effs = []) := by
  unfold vParameters
  split
  · split <;> simp [isConsume]
  · simp

theorem validateRequest_effs (env : Env) (st : State) (c : Ctx) (rid : Nat) (rc : RouteCfg) :
    (validateRequest env st c rid rc).effs.all isConsume = true ∧ (validateRequest env st c rid rc).effs.length ≤ 1 ∧
    ((validateRequest env st c rid rc).res = .panic → (validateRequest env st c rid rc).effs = []) := by
  unfold validateRequest
  simp only
  split
  · simp
  · split
    · simp
    · exact vParameters_effs env _ rid

theorem bindAndValidate_cases (env : Env) (st : State) (c : Ctx) (rid : Nat) (rc : RouteCfg) :
    (∃ r, memoBound c = some r ∧ bindAndValidate env st c (some (rid, rc)) = ⟨st, .same, .done r, []⟩) ∨
    (memoBound c = none ∧
      (bindAndValidate env st c (some (rid, rc)) =
          ⟨(validateRequest env st c rid rc).st, .nil, .panic, []⟩ ∧ (validateRequest env st c rid rc).res = .panic ∨
       ∃ r, (validateRequest env st c rid rc).res = .done r ∧ bindAndValidate env st c (some (rid, rc)) =
          ⟨(validateRequest env st c rid rc).st, .new ((kBound, .bound r.codes r.bound) :: c), .done r,
            (validateRequest env st c rid rc).effs⟩)) := by
  unfold bindAndValidate
  simp only
  cases hm : memoBound c with
  | some r => exact .inl ⟨r, rfl, rfl⟩
  | none =>
    obtain ⟨_, _, hp⟩ := validateRequest_effs env st c rid rc
    cases hv : validateRequest env st c rid rc with
    | mk st' res effs =>
      rw [hv] at hp
      cases res with
      | panic => cases hp rfl; exact .inr ⟨rfl, .inl ⟨rfl, rfl⟩⟩
      | done r => exact .inr ⟨rfl, .inr ⟨r, rfl, rfl⟩⟩

theorem bindAndValidate_effs (env : Env) (st : State) (c : Ctx) (rid : Nat) (rc : RouteCfg) :
    (bindAndValidate env st c (some (rid, rc))).effs.all isConsume = true ∧
    (bindAndValidate env st c (some (rid, rc))).effs.length ≤ 1 := by
  rcases bindAndValidate_cases env st c rid rc with ⟨_, _, e⟩ | ⟨_, ⟨e, _⟩ | ⟨_, _, e⟩⟩ <;> rw [e]
  · exact ⟨rfl, Nat.zero_le _⟩
  · exact ⟨rfl, Nat.zero_le _⟩
  · obtain ⟨hall, hlen, _⟩ := validateRequest_effs env st c rid rc
    exact ⟨hall, hlen⟩

/-- `RouteInfo` stores under its own key only, and only on a value that shows no route -/
theorem routeInfo_value (env : Env) (st : State) (c : Ctx) {k : Nat} (hk : kRoute ≠ k ∨ isMemo k (value c k) = true) :
    value ((routeInfo env st c).ret.held c) k = value c k := by
  rcases routeInfo_cases env st c with ⟨_, _, e⟩ | ⟨hm, _, _, e⟩ | ⟨_, _, e⟩ <;> rw [e]
  · rfl
  · rcases hk with hk | hk
    · exact value_push_ne _ _ hk
    · exact push_keeps _ (by rw [isMemo_route, hm]; rfl) k hk
  · rfl

theorem contentType_keeps (env : Env) (c : Ctx) (k : Nat) (hk : isMemo k (value c k) = true) :
    value ((contentType env c).1.held c) k = value c k := by
  rcases contentType_cases env c with ⟨_, _, e⟩ | ⟨hm, _, _, e⟩ | ⟨_, _, _, e⟩ <;> rw [e]
  · rfl
  · exact push_keeps _ (by rw [isMemo_ct, hm]; rfl) k hk
  · rfl

theorem responseFormat_keeps (env : Env) (c : Ctx) (o : List Bytes) (k : Nat) (hk : isMemo k (value c k) = true) :
    value ((responseFormat env c o).1.held c) k = value c k := by
  rcases responseFormat_cases env c o with ⟨_, _, e⟩ | ⟨_, _, e⟩ | ⟨hm, _, e⟩ <;> rw [e]
  · rfl
  · rfl
  · exact push_keeps _ (by rw [isMemo_fmt, hm]; rfl) k hk

theorem authorize_keeps (env : Env) (st : State) (c : Ctx) (route : Option (Nat × RouteCfg)) (k : Nat)
    (hk : isMemo k (value c k) = true) : value ((authorize env st c route).ret.held c) k = value c k := by
  rcases authorize_cases env st c route with
    e | ⟨_, _, _, _, ⟨_, _, e⟩ | ⟨hm, _, _, _, ⟨_, _, e⟩ | ⟨_, pr, e⟩⟩⟩ <;> rw [e]
  · rfl
  · rfl
  · rfl
  · have h0 : isMemo kPrinc (value c kPrinc) = false := by rw [nil_of_memoPrinc_none hm]; rfl
    have h1 := push_keeps (princVal pr) h0 k hk
    exact (push_keeps _ (isMemo_scopes _) k (by rw [h1]; exact hk)).trans h1

theorem bindAndValidate_keeps (env : Env) (st : State) (c : Ctx) (rid : Nat) (rc : RouteCfg) (k : Nat)
    (hk : isMemo k (value c k) = true) :
    value ((bindAndValidate env st c (some (rid, rc))).ret.held c) k = value c k := by
  rcases bindAndValidate_cases env st c rid rc with ⟨_, _, e⟩ | ⟨hm, ⟨e, _⟩ | ⟨_, _, e⟩⟩ <;> rw [e]
  · rfl
  · rfl
  · exact push_keeps _ (by rw [isMemo_bound, hm]; rfl) k hk

theorem stepCore_keeps (env : Env) (st : State) (c : Ctx) (op : Op) (k : Nat) (hr : op = .resetAuth → k ≠ kPrinc)
    (hk : isMemo k (value c k) = true) : value (stepCore env st c op).held k = value c k := by
  have hroute := routeInfo_value env st c (.inr hk)
  cases op with
  | routeInfo => exact hroute
  | contentType => exact contentType_keeps env c k hk
  | responseFormat o => exact responseFormat_keeps env c o k hk
  | resetAuth =>
    have hs : kScopes ≠ k := by intro e; subst e; rw [isMemo_scopes] at hk; cases hk
    exact (value_push_ne _ _ hs).trans (value_push_ne _ _ (hr rfl).symm)
  | authorize => exact (authorize_keeps env _ _ _ k (by rw [hroute]; exact hk)).trans hroute
  | bindAndValidate =>
    simp only [stepCore]
    split
    · exact hroute
    · exact (bindAndValidate_keeps env _ _ _ _ k (by rw [hroute]; exact hk)).trans hroute

theorem memoRoute_keeps {c c' : Ctx} (h : isMemo kRoute (value c kRoute) = true → value c' kRoute = value c kRoute)
    {x : Nat × RouteCfg} (hm : memoRoute c = some x) : memoRoute c' = some x := by
  have := h (by rw [isMemo_route, hm]; rfl)
  unfold memoRoute at hm ⊢
  rw [this]; exact hm

theorem memoCT_keeps {c c' : Ctx} (h : isMemo kCT (value c kCT) = true → value c' kCT = value c kCT)
    {x : Bytes × Bytes} (hm : memoCT c = some x) : memoCT c' = some x := by
  have := h (by rw [isMemo_ct, hm]; rfl)
  unfold memoCT at hm ⊢
  rw [this]; exact hm

theorem memoFmt_keeps {c c' : Ctx} (h : isMemo kFmt (value c kFmt) = true → value c' kFmt = value c kFmt)
    {x : Bytes} (hm : memoFmt c = some x) : memoFmt c' = some x := by
  have := h (by rw [isMemo_fmt, hm]; rfl)
  unfold memoFmt at hm ⊢
  rw [this]; exact hm

theorem memoBound_keeps {c c' : Ctx} (h : isMemo kBound (value c kBound) = true → value c' kBound = value c kBound)
    {x : BindRes} (hm : memoBound c = some x) : memoBound c' = some x := by
  have := h (by rw [isMemo_bound, hm]; rfl)
  unfold memoBound at hm ⊢
  rw [this]; exact hm

/-- what a stage finds memoised in a request value: its result, and (for the two stages that
ask `RouteInfo` first) the route it needs to get there -/
def Memoised (c : Ctx) : Op → Res2 → Prop
  | .contentType, r => ∃ m s, memoCT c = some (m, s) ∧ r = .ct m s
  | .responseFormat _, r => ∃ f, memoFmt c = some f ∧ r = .fmt f
  | .bindAndValidate, r => ∃ b, memoBound c = some b ∧ r = .bound b.codes b.bound ∧ (memoRoute c).isSome = true
  | .authorize, r => ∃ u i rc, value c kPrinc = .princ u ∧ r = .princ u ∧ memoRoute c = some (i, rc) ∧
      rc.alts.isEmpty = false
  | _, _ => False

theorem Memoised.sameStage {c : Ctx} {op op' : Op} {r : Res2} (h : Memoised c op r) (hs : sameStage op op' = true) :
    Memoised c op' r := by
  cases op <;> cases op' <;> first | exact h | cases hs

theorem Memoised.keeps {c c' : Ctx} {op : Op} {r : Res2} (h : Memoised c op r)
    (hk : ∀ k, op = .authorize ∨ k ≠ kPrinc → isMemo k (value c k) = true → value c' k = value c k) :
    Memoised c' op r := by
  have hroute : ∀ x, memoRoute c = some x → memoRoute c' = some x :=
    fun x => memoRoute_keeps (hk kRoute (.inr (by decide)))
  cases op with
  | routeInfo => exact h
  | resetAuth => exact h
  | contentType =>
    obtain ⟨m, s, hm, e⟩ := h
    exact ⟨m, s, memoCT_keeps (hk kCT (.inr (by decide))) hm, e⟩
  | responseFormat o =>
    obtain ⟨f, hm, e⟩ := h
    exact ⟨f, memoFmt_keeps (hk kFmt (.inr (by decide))) hm, e⟩
  | bindAndValidate =>
    obtain ⟨b, hm, e, hs⟩ := h
    obtain ⟨x, hx⟩ := Option.isSome_iff_exists.mp hs
    exact ⟨b, memoBound_keeps (hk kBound (.inr (by decide))) hm, e, by rw [hroute x hx]; rfl⟩
  | authorize =>
    obtain ⟨u, i, rc, hv, e, hm, ha⟩ := h
    exact ⟨u, i, rc, by rw [hk kPrinc (.inl rfl) (by rw [hv]; rfl)]; exact hv, e, hroute _ hm, ha⟩

theorem endThread_keeps (env : Env) (k : Nat) (ops : List Op) (st : State) (c : Ctx)
    (hr : Op.resetAuth ∈ ops → k ≠ kPrinc) (hk : isMemo k (value c k) = true) :
    value (endThread env ops st c).2 k = value c k := by
  induction ops generalizing st c with
  | nil => rfl
  | cons op ops ih =>
    have h1 := stepCore_keeps env st c op k (fun e => hr (e ▸ List.mem_cons_self)) hk
    exact (ih (stepCore env st c op).st _ (fun hm => hr (List.mem_cons_of_mem _ hm)) (h1.symm ▸ hk)).trans h1

theorem Memoised.thread {c : Ctx} {op' : Op} {r : Res2} (h : Memoised c op' r) (env : Env) (ops : List Op) (st : State)
    (hr : op' = .authorize → Op.resetAuth ∉ ops) : Memoised (endThread env ops st c).2 op' r :=
  h.keeps fun k hor => endThread_keeps env k ops st c fun hm => hor.elim (fun e => absurd hm (hr e)) id

theorem Memoised.step {c : Ctx} {op' : Op} {r : Res2} (h : Memoised c op' r) (env : Env) (st : State) (op : Op)
    (hr : op' = .authorize → op ≠ .resetAuth) : Memoised (stepCore env st c op).held op' r :=
  h.thread env [op] st fun e hm => hr e (List.mem_singleton.mp hm).symm

theorem routeInfo_route_eq (env : Env) (st : State) (c : Ctx) :
    memoRoute ((routeInfo env st c).ret.held c) = (routeInfo env st c).route := by
  rcases routeInfo_cases env st c with ⟨x, hm, e⟩ | ⟨_, rc, _, e⟩ | ⟨hm, _, e⟩ <;> rw [e]
  · exact hm
  · exact memoRoute_set _ _ _
  · exact hm

theorem held_route_memoBound (env : Env) (st : State) (c : Ctx) :
    memoBound ((routeInfo env st c).ret.held c) = memoBound c := by
  unfold memoBound; rw [routeInfo_value env st c (.inl (by decide))]

theorem held_route_memoFmt (env : Env) (st : State) (c : Ctx) :
    memoFmt ((routeInfo env st c).ret.held c) = memoFmt c := by
  unfold memoFmt; rw [routeInfo_value env st c (.inl (by decide))]

theorem stepCore_store (env : Env) (st : State) (c : Ctx) (op : Op)
    (h : memoisable2 (stepCore env st c op).res2 = true) :
    Memoised (stepCore env st c op).held op (stepCore env st c op).res2 := by
  have hre := routeInfo_route_eq env st c
  cases op with
  | routeInfo => cases h
  | resetAuth => cases h
  | contentType =>
    simp only [stepCore] at h ⊢
    rcases contentType_cases env c with ⟨x, hm, e⟩ | ⟨_, x, _, e⟩ | ⟨_, _, _, e⟩ <;> rw [e] at h ⊢
    · exact ⟨x.1, x.2, hm, rfl⟩
    · exact ⟨x.1, x.2, memoCT_set _ _ _, rfl⟩
    · cases h
  | responseFormat o =>
    simp only [stepCore] at h ⊢
    rcases responseFormat_cases env c o with ⟨f, hm, e⟩ | ⟨_, hz, e⟩ | ⟨_, _, e⟩ <;> rw [e] at h ⊢
    · exact ⟨f, hm, rfl⟩
    · simp [memoisable2, hz] at h
    · exact ⟨_, memoFmt_set _ _, rfl⟩
  | authorize =>
    simp only [stepCore] at h ⊢
    rcases authorize_cases env (routeInfo env st c).st ((routeInfo env st c).ret.held c) (routeInfo env st c).route with
      e | ⟨i, rc, hrt, ha, ⟨v, hm, e⟩ | ⟨_, _, _, _, ⟨_, hres, e⟩ | ⟨sc, pr, e⟩⟩⟩ <;> rw [e] at h ⊢
    · cases h
    · have hv := value_of_memoPrinc _ v hm
      cases v with
      | princ u => exact ⟨u, i, rc, hv, rfl, hre.trans hrt, ha⟩
      | _ => cases h
    · rcases hres with rfl | ⟨_, rfl⟩ <;> cases h
    · cases pr with
      | none => cases h
      | some u =>
        refine ⟨u, i, rc, (value_push_ne _ _ ne_Princ_Scopes.symm).trans (value_push_eq _ _ _), rfl, ?_, ha⟩
        rw [← hrt, ← hre]
        exact (memoRoute_push _ _ ne_Route_Scopes.symm).trans (memoRoute_push _ _ (by decide))
  | bindAndValidate =>
    simp only [stepCore] at h ⊢
    cases hrt : (routeInfo env st c).route with
    | none => rw [hrt] at h; cases h
    | some rt =>
      rw [hrt] at h hre
      simp only at h ⊢
      rcases bindAndValidate_cases env (routeInfo env st c).st ((routeInfo env st c).ret.held c) rt.1 rt.2 with
        ⟨r, hm, e⟩ | ⟨_, ⟨e, _⟩ | ⟨r, _, e⟩⟩ <;> rw [e] at h ⊢
      · exact ⟨r, hm, rfl, Option.isSome_iff_exists.mpr ⟨rt, hre⟩⟩
      · cases h
      · exact ⟨r, memoBound_set _ _ _, rfl, by rw [Ret.held, memoRoute_push _ _ (by decide), hre]; rfl⟩

theorem stepCore_store_route (env : Env) (st : State) (c : Ctx) (op : Op)
    (h : memoisable1 (stepCore env st c op).res1 = true) :
    ∃ x, memoRoute (stepCore env st c op).held = some x ∧ (stepCore env st c op).res1 = res1Of (some x) := by
  have hre := routeInfo_route_eq env st c
  cases hrt : (routeInfo env st c).route with
  | none => cases op <;> simp [stepCore, hrt, res1Of, memoisable1] at h
  | some x =>
    rw [hrt] at hre
    cases op with
    | routeInfo => exact ⟨x, hre, by simp [stepCore, hrt]⟩
    | authorize => exact ⟨x, memoRoute_keeps (authorize_keeps env _ _ _ kRoute) hre, by simp [stepCore, hrt]⟩
    | bindAndValidate =>
      simp only [stepCore, hrt]
      exact ⟨x, memoRoute_keeps (bindAndValidate_keeps env _ _ _ _ kRoute) hre, rfl⟩
    | _ => cases h

theorem stepCore_route_hit (env : Env) (st : State) (c : Ctx) (op : Op) (x : Nat × RouteCfg)
    (hm : memoRoute c = some x) (hp : hasRoutePart op = true) :
    (stepCore env st c op).res1 = res1Of (some x) ∧ (stepCore env st c op).ret1 = .same ∧
      (stepCore env st c op).effs.all (fun e => !isLookup e) = true := by
  have hr : routeInfo env st c = ⟨st, .same, some x, []⟩ := by simp [routeInfo, hm]
  cases op with
  | routeInfo => simp [stepCore, hr, Ret.kind]
  | contentType => cases hp
  | responseFormat o => cases hp
  | resetAuth => cases hp
  | authorize =>
    simp only [stepCore, hr, List.nil_append, true_and, Ret.kind]
    exact all_of_all (authorize_effs env _ _ _) fun e h => by simp [(isAuthEff_excl h).1]
  | bindAndValidate =>
    simp only [stepCore, hr, List.nil_append, true_and, Ret.kind]
    exact all_of_all (bindAndValidate_effs env _ _ _ _).1 fun e h => by simp [(isConsume_excl h).1]

theorem stepCore_stage_hit (env : Env) (st : State) (c : Ctx) (op : Op) (r : Res2) (h : Memoised c op r) :
    (stepCore env st c op).res2 = r ∧ (stepCore env st c op).ret2 = .same ∧
      (stepCore env st c op).effs.all isLookup = true := by
  cases op with
  | routeInfo => cases h
  | resetAuth => cases h
  | contentType =>
    obtain ⟨m, s, hm, rfl⟩ := h
    simp [stepCore, contentType, hm, res2OfCT, Ret.kind]
  | responseFormat o =>
    obtain ⟨f, hm, rfl⟩ := h
    simp [stepCore, responseFormat, hm, Ret.kind]
  | authorize =>
    obtain ⟨u, i, rc, hv, rfl, hm, ha⟩ := h
    simp [stepCore, routeInfo, hm, Ret.held, authorize, ha, memoPrinc, hv, res2OfAuth, Ret.kind]
  | bindAndValidate =>
    obtain ⟨b, hm, rfl, hs⟩ := h
    obtain ⟨x, hx⟩ := Option.isSome_iff_exists.mp hs
    simp [stepCore, routeInfo, hx, Ret.held, bindAndValidate, hm, res2OfBind, Ret.kind]

/-- the consumer calls a request value can still cause: one, while it shows no binding outcome -/
def budget (c : Ctx) : Nat := bif (memoBound c).isSome then 0 else 1

theorem budget_le_one (c : Ctx) : budget c ≤ 1 := by unfold budget; cases (memoBound c).isSome <;> decide

theorem budget_zero (c : Ctx) : budget c = 0 ↔ (memoBound c).isSome = true := by
  unfold budget; cases (memoBound c).isSome <;> decide

/-- an operation calls the consumer at most once, only on a value that shows no binding outcome, and
the value it then hands back shows one; what shows one keeps showing it. So the calls made and the
budget of the value handed back stay within the budget of the value given. -/
theorem stepCore_budget (env : Env) (st : State) (c : Ctx) (op : Op) :
    ((stepCore env st c op).effs.filter isConsume).length + budget (stepCore env st c op).held ≤ budget c := by
  have hkeep : budget (stepCore env st c op).held ≤ budget c := by
    cases hb : memoBound c with
    | none => exact Nat.le_trans (budget_le_one _) (by simp [budget, hb])
    | some b =>
      rw [(budget_zero _).mpr (by rw [memoBound_keeps (stepCore_keeps env st c op kBound (fun _ => by decide)) hb]; rfl)]
      exact Nat.zero_le _
  have hr := filter_consume_of_lookup _ (routeInfo_effs env st c)
  cases op with
  | bindAndValidate =>
    simp only [stepCore] at hkeep ⊢
    cases hrt : (routeInfo env st c).route with
    | none => simpa [hrt, hr] using hkeep
    | some rt =>
      simp only [hrt, List.filter_append, hr, List.nil_append] at hkeep ⊢
      rcases bindAndValidate_cases env (routeInfo env st c).st ((routeInfo env st c).ret.held c) rt.1 rt.2 with
        ⟨r, _, e⟩ | ⟨hm, ⟨e, _⟩ | ⟨r, _, e⟩⟩ <;> rw [e] at hkeep ⊢
      · simpa using hkeep
      · simpa using hkeep
      · rw [budget, budget, Ret.held, memoBound_set, ← held_route_memoBound env st c, hm]
        exact Nat.le_trans (List.length_filter_le _ _) (validateRequest_effs env _ _ _ _).2.1
  | authorize =>
    simpa [stepCore, List.filter_append, hr, filter_consume_of_auth _ (authorize_effs env _ _ _)] using hkeep
  | routeInfo => simpa [stepCore, hr] using hkeep
  | contentType => simpa [stepCore] using hkeep
  | responseFormat o => simpa [stepCore] using hkeep
  | resetAuth => simpa [stepCore] using hkeep

theorem promised_setStage (p : Promise) (op op' : Op) (r : Res2) :
    promised (setStage p op r) op' = if sameStage op op' then some r else promised p op' := by
  cases op <;> cases op' <;> rfl

theorem promised_afterReset (p : Promise) (op op' : Op) :
    promised (afterReset p op) op' = if op = .resetAuth ∧ op' = .authorize then none else promised p op' := by
  unfold afterReset
  split
  · subst op; cases op' <;> simp [promised]
  · simp [*]

theorem promised_afterRoute (p : Promise) (r1 : Res1) (op : Op) : promised (afterRoute p r1) op = promised p op := by
  unfold afterRoute; split <;> cases op <;> rfl

theorem promised_after (p : Promise) (op : Op) (o : Obs) (op' : Op) :
    promised (after p op o) op' =
      if op = .resetAuth ∧ op' = .authorize then none
      else if memoisable2 o.res2 && sameStage op op' then some o.res2 else promised p op' := by
  have : promised (after p op o) op' = promised (afterReset (afterStage (afterRoute p o.res1) op o.res2) op) op' := by
    cases op' <;> rfl
  rw [this, promised_afterReset, ← promised_afterRoute p o.res1 op']
  unfold afterStage
  cases memoisable2 o.res2
  · rfl
  · rw [if_pos rfl, promised_setStage]; rfl

theorem after_route (p : Promise) (op : Op) (o : Obs) :
    (after p op o).route = if memoisable1 o.res1 then some o.res1 else p.route := by
  have h1 : ∀ q : Promise, (afterReset q op).route = q.route := by intro q; unfold afterReset; split <;> rfl
  have h2 : ∀ q : Promise, (afterStage q op o.res2).route = q.route := by
    intro q; unfold afterStage setStage; split
    · cases op <;> rfl
    · rfl
  show (afterReset (afterStage (afterRoute p o.res1) op o.res2) op).route = _
  rw [h1, h2]
  unfold afterRoute
  split <;> rfl

theorem afterRoute_auth (p : Promise) (r : Res1) : (afterRoute p r).auth = p.auth := by
  unfold afterRoute; split <;> rfl
theorem afterRoute_bound (p : Promise) (r : Res1) : (afterRoute p r).bound = p.bound := by
  unfold afterRoute; split <;> rfl
theorem afterReset_consumed (p : Promise) (op : Op) : (afterReset p op).consumed = p.consumed := by
  unfold afterReset; split <;> rfl

def AgCons (b : Bool) (c : Ctx) : Prop := b = true → (memoBound c).isSome = true

theorem AgCons.memo_none {b : Bool} {c : Ctx} (h : AgCons b c) (hm : memoBound c = none) : b = false := by
  cases b with
  | false => rfl
  | true => have := h rfl; rw [hm] at this; cases this

structure Agree (p : Promise) (c : Ctx) : Prop where
  route : ∀ r, p.route = some r → ∃ x, memoRoute c = some x ∧ r = res1Of (some x)
  stage : ∀ op r, promised p op = some r → Memoised c op r
  cons : AgCons p.consumed c

theorem agree_empty (c : Ctx) : Agree {} c := by
  refine ⟨fun _ h => ?_, fun op _ h => ?_, fun h => ?_⟩
  · cases h
  · cases op <;> cases h
  · cases h

theorem keeps_model (env : Env) (st : State) (c : Ctx) (op : Op) (p : Promise) (h : Agree p c) :
    keeps p op (stepCore env st c op).obs = true := by
  unfold keeps
  simp only [Bool.and_eq_true, StepOut.obs]
  have hb := stepCore_budget env st c op
  refine ⟨⟨⟨?_, ?_⟩, ?_⟩, decide_eq_true (by have := budget_le_one c; omega)⟩
  · cases hq : p.route with
    | none => rfl
    | some r =>
      obtain ⟨x, hm, rfl⟩ := h.route r hq
      cases hp : hasRoutePart op with
      | false => rfl
      | true =>
        have := stepCore_route_hit env st c op x hm hp
        simp [this.1, this.2.1, this.2.2]
  · cases hq : promised p op with
    | none => rfl
    | some r =>
      have := stepCore_stage_hit env st c op r (h.stage op r hq)
      simp [this.1, this.2.1, this.2.2]
  · cases hc : p.consumed with
    | false => rfl
    | true =>
      rw [(budget_zero c).mpr (h.cons hc)] at hb
      simpa [List.filter_eq_nil_iff] using List.eq_nil_of_length_eq_zero (Nat.eq_zero_of_le_zero (Nat.le_trans (Nat.le_add_right _ _) hb))

theorem agree_after (env : Env) (st : State) (c : Ctx) (op : Op) (p : Promise) (h : Agree p c) :
    Agree (after p op (stepCore env st c op).obs) (stepCore env st c op).held := by
  refine ⟨fun r hr => ?_, fun op' r hr => ?_, fun hc => ?_⟩
  · rw [after_route] at hr
    split at hr
    · rename_i hm
      cases hr
      exact stepCore_store_route env st c op hm
    · obtain ⟨x, hm, e⟩ := h.route r hr
      exact ⟨x, memoRoute_keeps (stepCore_keeps env st c op kRoute (fun _ => by decide)) hm, e⟩
  · rw [promised_after] at hr
    split at hr
    · cases hr
    · rename_i hne
      split at hr
      · rename_i hs
        simp only [StepOut.obs, Bool.and_eq_true] at hs
        cases hr
        exact (stepCore_store env st c op hs.1).sameStage hs.2
      · exact (h.stage op' r hr).step env st op fun e e' => hne ⟨e', e⟩
  · -- consumed before: `c` has no budget; consumed now: the call has used it up
    have hb := stepCore_budget env st c op
    rw [← budget_zero]
    rcases Bool.or_eq_true _ _ ▸ hc with hp | he
    · rw [(budget_zero c).mpr (h.cons hp)] at hb; omega
    · have : 0 < ((stepCore env st c op).effs.filter isConsume).length :=
        List.length_pos_iff.mpr (by simpa [List.filter_eq_nil_iff, StepOut.obs] using he)
      have := budget_le_one c
      omega

theorem raAuth_ref (env : Env) (schemes : List Bytes) (last : Option Bytes) (effs : List Eff) :
    ((raAuth env schemes last effs).applies, (raAuth env schemes last effs).princ, (raAuth env schemes last effs).err)
      = refAlt env schemes last ∧
    (raAuth env schemes last effs).sets = (raAuth env schemes last effs).applies := by
  induction schemes generalizing last effs with
  | nil => simp [raAuth, refAlt]
  | cons s rest ih =>
    unfold raAuth refAlt
    split
    · simp
    · split
      · simp
      · exact ih _ _

/-- what `Authorize` makes of the outcome of `RouteAuthenticators.Authenticate` -/
def rasOutcome (a : RasOut) : Res2 × List Bytes :=
  if !a.applies || a.err.isSome then (.authErr (a.err.getD 401), [])
  else match a.princ with
    | some u => (.princ u, (a.cur.map (·.scopes)).getD [])
    | none => (.anon, (a.cur.map (·.scopes)).getD [])

theorem rasAuth_ref (env : Env) (alts : List AuthAlt) (le : Option Nat) (anon cur : Option AuthAlt) (al : Bool)
    (effs : List Eff) :
    rasOutcome (rasAuth env alts le anon cur al effs) = refAlts env alts le anon ∧
    ((rasAuth env alts le anon cur al effs).applies = true → (rasAuth env alts le anon cur al effs).err = none →
      (rasAuth env alts le anon cur al effs).cur.isSome = true ∧
      ((rasAuth env alts le anon cur al effs).princ = none → (anon.isSome || allowsAnon alts) = true)) := by
  induction alts generalizing le anon cur al effs with
  | nil =>
    unfold rasAuth refAlts
    cases anon <;> cases le <;> simp [rasOutcome]
  | cons ra rest ih =>
    unfold rasAuth refAlts
    simp only
    by_cases hanon : ra.anon = true
    · simp only [hanon, if_true]
      obtain ⟨h1, h2⟩ := ih le (some ra) (if (al && loopVarShared) = true then some ra else cur) al effs
      exact ⟨h1, fun ha he => ⟨(h2 ha he).1, fun _ => by simp [allowsAnon, hanon]⟩⟩
    · rw [show allowsAnon (ra :: rest) = allowsAnon rest by simp [allowsAnon, hanon]]
      simp only [hanon, Bool.false_eq_true, if_false]
      obtain ⟨hr, hs⟩ := raAuth_ref env ra.schemes none []
      generalize raAuth env ra.schemes none [] = o at hr hs
      rw [← hr]
      obtain ⟨oa, op, oe, oeff, os⟩ := o
      simp only at hs ⊢
      subst hs
      -- the alternative is passed over unless it applies, reports no error and yields a principal
      cases os with
      | false => exact ih _ _ _ _ _
      | true =>
        cases op with
        | none => cases oe <;> exact ih _ _ _ _ _
        | some u =>
          cases oe with
          | some e => exact ih _ _ _ _ _
          | none => simp [rasOutcome]

theorem authorizeMiss_ref (env : Env) (st : State) (c : Ctx) (rid : Nat) (rc : RouteCfg) :
    res2OfAuth (authorizeMiss env st c rid rc).res = (refAuthorize env rc).1 ∧
    (authenticated (res2OfAuth (authorizeMiss env st c rid rc).res) = true →
      value ((authorizeMiss env st c rid rc).ret.held c) kScopes = .scopes (refAuthorize env rc).2) := by
  obtain ⟨h1, h2⟩ := rasAuth_ref env rc.alts none none ((st.routes[rid]?).bind (·.authn)) false []
  unfold authorizeMiss refAuthorize
  simp only
  rw [← h1]
  generalize rasAuth env rc.alts none none ((st.routes[rid]?).bind (·.authn)) false [] = a at h1 h2 ⊢
  obtain ⟨aa, ap, ae, aeff, acur⟩ := a
  simp only at h2 ⊢
  cases aa with
  | false => simp [rasOutcome, isAuthErr, res2OfAuth, authenticated]
  | true =>
    cases ae with
    | some e => simp [rasOutcome, isAuthErr, res2OfAuth, authenticated]
    | none =>
      obtain ⟨hc, hp⟩ := h2 rfl rfl
      obtain ⟨alt, rfl⟩ := Option.isSome_iff_exists.mp hc
      cases ap with
      | none =>
        have ha : allowsAnon rc.alts = true := by simpa using hp rfl
        cases hz : rc.hasAuthorizer <;> cases hy : env.authz <;>
          simp [rasOutcome, isAuthErr, res2OfAuth, authenticated, ha, authStore, princVal, Ret.held, value_push_eq]
      | some u =>
        cases hz : rc.hasAuthorizer <;> cases hy : env.authz <;>
          simp [rasOutcome, isAuthErr, res2OfAuth, authenticated, authStore, princVal, Ret.held, value_push_eq]

/-- every `route.Consumer` set so far is the one the request's content type selects -/
def StOk (env : Env) (st : State) : Prop :=
  ∀ i : Nat, (st.routes[i]?).bind (fun o : RouteObj => o.consumer) = none ∨
    (st.routes[i]?).bind (fun o : RouteObj => o.consumer) = refConsumer env

/-- what is memoised in a request value is derived from the request (route, content type), or is
promised to its holder (format, principal, binding) — the converse of `Agree` -/
structure Sound (env : Env) (n : Nat) (p : Promise) (c : Ctx) : Prop where
  route : ∀ i rc, memoRoute c = some (i, rc) → env.lookup = some rc ∧ i < n
  ct : ∀ x, memoCT c = some x → env.parseCT = .ok x
  fmt : ∀ f, memoFmt c = some f → p.fmt = some (.fmt f)
  princ : value c kPrinc = .nil ∨ ∃ u, value c kPrinc = .princ u ∧ p.auth = some (.princ u)
  bound : ∀ b, memoBound c = some b → p.bound.isSome = true

theorem sound_init (env : Env) (n : Nat) : Sound env n {} [] :=
  ⟨fun _ _ h => (by cases h), fun _ h => (by cases h), fun _ h => (by cases h), .inl rfl, fun _ h => (by cases h)⟩

theorem Sound.mono {env : Env} {n m : Nat} {p : Promise} {c : Ctx} (h : Sound env n p c) (hnm : n ≤ m) :
    Sound env m p c :=
  ⟨fun i rc hm => ⟨(h.route i rc hm).1, Nat.lt_of_lt_of_le (h.route i rc hm).2 hnm⟩, h.ct, h.fmt, h.princ, h.bound⟩

theorem stOk_init (env : Env) (b : Nat) : StOk env ⟨[], b⟩ := fun _ => .inl rfl

theorem value_cons_or (k : Nat) (v : Val) (c : Ctx) (k' : Nat) :
    value ((k, v) :: c) k' = value [(k, v)] k' ∨ value ((k, v) :: c) k' = value c k' := by
  by_cases e : k = k'
  · left; simp [value, e]
  · right; exact value_push_ne v c e

theorem Sound.cons {env : Env} {n : Nat} {q : Promise} {c : Ctx} {k : Nat} {v : Val} (hv : Sound env n q [(k, v)])
    (h : Sound env n q c) : Sound env n q ((k, v) :: c) := by
  constructor
  · intro i rc hm
    unfold memoRoute at hm
    rcases value_cons_or k v c kRoute with e | e <;> rw [e] at hm
    · exact hv.route i rc hm
    · exact h.route i rc hm
  · intro x hm
    unfold memoCT at hm
    rcases value_cons_or k v c kCT with e | e <;> rw [e] at hm
    · exact hv.ct x hm
    · exact h.ct x hm
  · intro f hm
    unfold memoFmt at hm
    rcases value_cons_or k v c kFmt with e | e <;> rw [e] at hm
    · exact hv.fmt f hm
    · exact h.fmt f hm
  · rcases value_cons_or k v c kPrinc with e | e <;> rw [e]
    · exact hv.princ
    · exact h.princ
  · intro b hm
    unfold memoBound at hm
    rcases value_cons_or k v c kBound with e | e <;> rw [e] at hm
    · exact hv.bound b hm
    · exact h.bound b hm

theorem Sound.push {env : Env} {n : Nat} {p : Promise} {c : Ctx} {k : Nat} (v : Val) (h : Sound env n p c)
    (h1 : k ≠ kRoute) (h2 : k ≠ kCT) (h3 : k ≠ kFmt) (h4 : k ≠ kPrinc) (h5 : k ≠ kBound) :
    Sound env n p ((k, v) :: c) := by
  refine Sound.cons ⟨?_, ?_, ?_, ?_, ?_⟩ h <;> simp [memoRoute, memoCT, memoFmt, memoBound, value, h1, h2, h3, h4, h5]

theorem Sound.push_auth {env : Env} {n : Nat} {p q : Promise} {c : Ctx} (v w : Val) (h : Sound env n p c)
    (hf : q.fmt = p.fmt) (hb : q.bound = p.bound)
    (hp : v = .nil ∨ ∃ u, v = .princ u ∧ q.auth = some (.princ u)) :
    Sound env n q ((kScopes, w) :: (kPrinc, v) :: c) := by
  refine Sound.push w ⟨?_, ?_, ?_, ?_, ?_⟩ ne_Route_Scopes.symm ne_CT_Scopes.symm ne_Fmt_Scopes.symm
    ne_Princ_Scopes.symm ne_Bound_Scopes.symm
  · intro i rc hm; rw [memoRoute_push _ _ (by decide)] at hm; exact h.route i rc hm
  · intro x hm; rw [memoCT_push _ _ (by decide)] at hm; exact h.ct x hm
  · intro f hm; rw [memoFmt_push _ _ (by decide)] at hm; rw [hf]; exact h.fmt f hm
  · rw [value_push_eq]; exact hp
  · intro b hm; rw [memoBound_push _ _ (by decide)] at hm; rw [hb]; exact h.bound b hm

theorem promised_sameStage (p : Promise) {op op' : Op} (h : sameStage op op' = true) :
    promised p op = promised p op' := by
  cases op <;> cases op' <;> first | rfl | cases h

theorem Sound.grow {env : Env} {n : Nat} {p q : Promise} {c : Ctx} (h : Sound env n p c)
    (hpq : ∀ op r, promised p op = some r → promised q op = some r) : Sound env n q c := by
  refine ⟨h.route, h.ct, fun f hm => hpq (.responseFormat []) _ (h.fmt f hm), ?_, fun b hm => ?_⟩
  · rcases h.princ with hn | ⟨u, hu, hp⟩
    · exact .inl hn
    · exact .inr ⟨u, hu, hpq .authorize _ hp⟩
  · obtain ⟨r, hr⟩ := Option.isSome_iff_exists.mp (h.bound b hm)
    rw [show q.bound = some r from hpq .bindAndValidate r hr]; rfl

/-- `st'` is the state left by a call that found `st`: still valid for the request, no route object
gone, the body as it was or (`read`) drained -/
structure Later (env : Env) (st : State) (read : Bool) (st' : State) : Prop where
  stok : StOk env st'
  routes : st.routes.length ≤ st'.routes.length
  body : st'.bodyLeft = bif read then 0 else st.bodyLeft

theorem Later.refl {env : Env} {st : State} (h : StOk env st) : Later env st false st := ⟨h, Nat.le_refl _, rfl⟩

theorem Later.trans {env : Env} {st st' st'' : State} {a b : Bool} (h : Later env st a st')
    (h' : Later env st' b st'') : Later env st (a || b) st'' :=
  ⟨h'.stok, Nat.le_trans h.routes h'.routes, by rw [h'.body, h.body]; cases a <;> cases b <;> rfl⟩

theorem Later.append {env : Env} {st : State} (h : StOk env st) :
    Later env st false { st with routes := st.routes ++ [{}] } := by
  refine ⟨fun i => ?_, by simp, rfl⟩
  rcases Nat.lt_trichotomy i st.routes.length with hlt | heq | hgt
  · simpa [List.getElem?_append_left hlt] using h i
  · subst heq; left; simp
  · left
    have : (st.routes ++ [({} : RouteObj)]).length ≤ i := by simp; omega
    simp [List.getElem?_eq_none this]

theorem consumerAt_set_eq (st : State) (rid : Nat) (k : Bytes) (h : rid < st.routes.length) :
    ((setConsumer st rid k).routes[rid]?).bind (fun o : RouteObj => o.consumer) = some k := by
  simp [setConsumer, List.getElem?_modify_eq, List.getElem?_eq_getElem h]

theorem consumerAt_set_ne (st : State) (rid i : Nat) (k : Bytes) (h : rid ≠ i) :
    ((setConsumer st rid k).routes[i]?).bind (fun o : RouteObj => o.consumer) =
      (st.routes[i]?).bind (fun o : RouteObj => o.consumer) := by
  simp [setConsumer, List.getElem?_modify_ne _ _ h]

theorem Later.setConsumer {env : Env} {st : State} {rid : Nat} {k : Bytes} (h : StOk env st)
    (hk : refConsumer env = some k) : Later env st false (setConsumer st rid k) := by
  refine ⟨fun i => ?_, by simp [C09.setConsumer], rfl⟩
  by_cases hi : rid = i
  · subst hi
    by_cases hl : rid < st.routes.length
    · right; rw [consumerAt_set_eq st rid k hl, hk]
    · left
      have : (C09.setConsumer st rid k).routes.length ≤ rid := by simp [C09.setConsumer, List.length_modify]; omega
      simp [List.getElem?_eq_none this]
  · rw [consumerAt_set_ne st rid i k hi]; exact h i

theorem Later.setAuthn {env : Env} {st : State} {rid : Nat} {a : Option AuthAlt} (h : StOk env st) :
    Later env st false (setAuthn st rid a) := by
  refine ⟨fun i => ?_, by simp [C09.setAuthn], rfl⟩
  have : ((C09.setAuthn st rid a).routes[i]?).bind (fun o : RouteObj => o.consumer) =
      (st.routes[i]?).bind (fun o : RouteObj => o.consumer) := by
    simp only [C09.setAuthn, List.getElem?_modify]
    cases st.routes[i]? with
    | none => rfl
    | some o => by_cases hi : rid = i <;> simp [hi]
  rw [this]; exact h i

theorem routeInfo_valid (env : Env) (st : State) (c : Ctx) (p : Promise) (hst : StOk env st)
    (hs : Sound env st.routes.length p c) :
    Later env st false (routeInfo env st c).st ∧
    Sound env (routeInfo env st c).st.routes.length p ((routeInfo env st c).ret.held c) ∧
    (routeInfo env st c).route.map (·.2) = env.lookup := by
  rcases routeInfo_cases env st c with ⟨⟨i, rc⟩, hm, e⟩ | ⟨_, rc, hl, e⟩ | ⟨_, hl, e⟩ <;> rw [e]
  · exact ⟨.refl hst, hs, by rw [(hs.route i rc hm).1]; rfl⟩
  · have hn : st.routes.length < (st.routes ++ [({} : RouteObj)]).length := by simp
    refine ⟨.append hst, Sound.cons ⟨?_, ?_, ?_, ?_, ?_⟩ (hs.mono (Nat.le_of_lt hn)), by rw [hl]; rfl⟩ <;>
      simp +decide [memoRoute, memoCT, memoFmt, memoBound, value, hl]
  · exact ⟨.refl hst, hs, by rw [hl]; rfl⟩

theorem contentType_ref (env : Env) (c : Ctx) (hct : ∀ x, memoCT c = some x → env.parseCT = .ok x) :
    (contentType env c).2 = env.parseCT ∧ memoFmt ((contentType env c).1.held c) = memoFmt c := by
  rcases contentType_cases env c with ⟨x, hm, e⟩ | ⟨_, _, hp, e⟩ | ⟨_, _, hp, e⟩
  · exact e ▸ ⟨(hct x hm).symm, rfl⟩
  · exact e ▸ ⟨hp.symm, memoFmt_push _ _ (by decide)⟩
  · exact e ▸ ⟨hp.symm, rfl⟩

theorem vContentType_ref (env : Env) (st : State) (c : Ctx) (rid : Nat) (hst : StOk env st)
    (hct : ∀ x, memoCT c = some x → env.parseCT = .ok x) (hrid : rid < st.routes.length) :
    (vContentType env st c rid).errs = refCTErrs env ∧ Later env st false (vContentType env st c rid).st ∧
    memoFmt (vContentType env st c rid).c = memoFmt c ∧
    ((vContentType env st c rid).errs = [] → env.hasBody = true →
      ((vContentType env st c rid).st.routes[rid]?).bind (fun o : RouteObj => o.consumer) = refConsumer env) := by
  obtain ⟨hres, hfmt⟩ := contentType_ref env c hct
  unfold vContentType refCTErrs
  cases hb : env.hasBody with
  | false => simp [Later.refl hst]
  | true =>
    simp only [if_true]
    generalize contentType env c = r at hres hfmt
    obtain ⟨ret, res⟩ := r
    simp only at hres hfmt
    subst hres
    cases hp : env.parseCT with
    | error e => simp [Later.refl hst]
    | ok x =>
      have hrc : refConsumer env = if x.1.isEmpty then none else env.consumerFor x.1 := by simp [refConsumer, hp]
      -- the route's consumer is not set yet, or is the one the content type selects
      rcases hst rid with h | h
      · by_cases hx : x.1.isEmpty = true
        · simp [hx, h, hrc, hfmt, Later.refl hst]
        · cases hk : env.consumerFor x.1 with
          | none => simp [hx, hk, h, hfmt, Later.refl hst]
          | some k =>
            -- `setConsumer` stores exactly `refConsumer env`
            have hrc' : refConsumer env = some k := by rw [hrc, if_neg hx, hk]
            simp [hx, hk, h, hfmt, Later.setConsumer hst hrc', consumerAt_set_eq st rid k hrid, hrc']
      · rw [hrc] at h
        by_cases hx : x.1.isEmpty = true <;> cases hk : env.consumerFor x.1 <;>
          simp [hx, hk, h, hrc, hfmt, Later.refl hst]

theorem responseFormat_val (env : Env) (c : Ctx) (o : List Bytes) :
    (responseFormat env c o).2 = (memoFmt c).getD (env.neg o) := by
  rcases responseFormat_cases env c o with ⟨_, hm, e⟩ | ⟨hm, _, e⟩ | ⟨hm, _, e⟩ <;> exact e ▸ hm ▸ rfl

/-- an evaluated binding yields the reference's outcome for the bytes of the body still unread
(a panic where the reference is silent), whatever `route.Consumer` was before; it empties the body
exactly when it calls the consumer. `p` stands for any promises that hold the format `c` shows. -/
theorem validateRequest_ref (env : Env) (st : State) (c : Ctx) (rid : Nat) (rc : RouteCfg) (p : Promise)
    (hst : StOk env st) (hct : ∀ x, memoCT c = some x → env.parseCT = .ok x) (hrid : rid < st.routes.length)
    (hrf : refFmt env p rc = (memoFmt c).getD (env.neg rc.produces)) :
    Later env st ((validateRequest env st c rid rc).effs.any isConsume) (validateRequest env st c rid rc).st ∧
    res2OfBind (validateRequest env st c rid rc).res = (refBind env p st.bodyLeft rc).getD .panic := by
  obtain ⟨he, hl, hfmt, hcons⟩ := vContentType_ref env st c rid hst hct hrid
  have hrf' : (responseFormat env (vContentType env st c rid).c rc.produces).2 = refFmt env p rc := by
    rw [responseFormat_val, hfmt, hrf]
  unfold validateRequest refBind vResponseFormat
  simp only
  rw [hrf', he]
  by_cases h1 : (refCTErrs env).isEmpty = true
  · simp only [h1, Bool.not_true, Bool.false_eq_true, if_false]
    by_cases h2 : ((refFmt env p rc).isEmpty && !rc.produces.isEmpty) = true
    · simp only [h2, if_true]
      exact ⟨hl, rfl⟩
    · simp only [h2, Bool.false_eq_true, if_false, List.isEmpty_nil, Bool.not_true]
      unfold vParameters
      by_cases h3 : (env.bodyParam && env.hasBody) = true
      · simp only [h3, if_true, Bool.true_and]
        rw [hcons (List.isEmpty_iff.mp (he ▸ h1)) (by simp at h3; exact h3.2)]
        cases hk : refConsumer env with
        | none => exact ⟨hl, rfl⟩
        | some k => exact ⟨⟨hl.stok, hl.routes, rfl⟩, by rw [hl.body]; rfl⟩
      · simp only [h3, Bool.false_eq_true, if_false, Bool.false_and]
        exact ⟨hl, by rw [hl.body]; rfl⟩
  · simp only [h1, Bool.not_false, if_true]
    exact ⟨hl, rfl⟩

theorem authorize_valid (env : Env) (st : State) (c : Ctx) (route : Option (Nat × RouteCfg)) (n : Nat) (q : Promise)
    (hst : StOk env st) (hs : Sound env n q c)
    (hq : ∀ u, (authorize env st c route).res = .ok (.princ u) → q.auth = some (.princ u)) :
    Later env st false (authorize env st c route).st ∧ Sound env n q ((authorize env st c route).ret.held c) := by
  rcases authorize_cases env st c route with
    e | ⟨i, _, _, _, ⟨_, _, e⟩ | ⟨_, cur, _, _, ⟨_, _, e⟩ | ⟨_, pr, e⟩⟩⟩ <;> rw [e] at hq ⊢
  · exact ⟨.refl hst, hs⟩
  · exact ⟨.refl hst, hs⟩
  · exact ⟨.setAuthn hst, hs⟩
  · refine ⟨.setAuthn hst, hs.push_auth _ _ rfl rfl ?_⟩
    cases pr with
    | none => exact .inl rfl
    | some u => exact .inr ⟨u, rfl, hq u rfl⟩

theorem bindAndValidate_valid (env : Env) (st : State) (c : Ctx) (rid : Nat) (rc : RouteCfg) (q : Promise)
    (hst : StOk env st) (hs : Sound env st.routes.length q c) (hrid : rid < st.routes.length)
    (hq : ∀ r, (bindAndValidate env st c (some (rid, rc))).res = .done r → q.bound.isSome = true) :
    Later env st ((bindAndValidate env st c (some (rid, rc))).effs.any isConsume)
      (bindAndValidate env st c (some (rid, rc))).st ∧
    Sound env st.routes.length q ((bindAndValidate env st c (some (rid, rc))).ret.held c) := by
  obtain ⟨v1, _⟩ := validateRequest_ref env st c rid rc { fmt := (memoFmt c).map .fmt } hst hs.ct hrid
    (by cases memoFmt c <;> rfl)
  rcases bindAndValidate_cases env st c rid rc with ⟨_, _, e⟩ | ⟨_, ⟨e, hp⟩ | ⟨r, _, e⟩⟩ <;> rw [e] at hq ⊢
  · exact ⟨.refl hst, hs⟩
  · obtain ⟨_, _, hnil⟩ := validateRequest_effs env st c rid rc
    rw [hnil hp] at v1
    exact ⟨v1, hs⟩
  · refine ⟨v1, Sound.cons ⟨?_, ?_, ?_, ?_, ?_⟩ hs⟩ <;>
      simp +decide [memoRoute, memoCT, memoFmt, memoBound, value, hq r rfl]

theorem contentType_sound {env : Env} {n : Nat} {q : Promise} {c : Ctx} (hs : Sound env n q c) :
    Sound env n q ((contentType env c).1.held c) := by
  rcases contentType_cases env c with ⟨_, _, e⟩ | ⟨_, x, hp, e⟩ | ⟨_, _, _, e⟩ <;> rw [e]
  · exact hs
  · refine Sound.cons ⟨?_, ?_, ?_, ?_, ?_⟩ hs <;> simp +decide [memoRoute, memoCT, memoFmt, memoBound, value, hp]
  · exact hs

theorem responseFormat_sound {env : Env} {n : Nat} {q : Promise} {c : Ctx} (o : List Bytes) (hs : Sound env n q c)
    (hq : (responseFormat env c o).2.isEmpty = false → q.fmt = some (.fmt (responseFormat env c o).2)) :
    Sound env n q ((responseFormat env c o).1.held c) := by
  rcases responseFormat_cases env c o with ⟨_, _, e⟩ | ⟨_, _, e⟩ | ⟨_, hz, e⟩ <;> rw [e] at hq ⊢
  · exact hs
  · exact hs
  · refine Sound.cons ⟨?_, ?_, ?_, ?_, ?_⟩ hs <;> simp +decide [memoRoute, memoCT, memoFmt, memoBound, value, hq hz]

theorem stepCore_valid (env : Env) (st : State) (c : Ctx) (op : Op) (p : Promise) (hst : StOk env st)
    (hag : Agree p c) (hs : Sound env st.routes.length p c) :
    Later env st ((stepCore env st c op).effs.any isConsume) (stepCore env st c op).st ∧
    Sound env (stepCore env st c op).st.routes.length (after p op (stepCore env st c op).obs)
      (stepCore env st c op).held := by
  by_cases hne : op = .resetAuth
  · subst hne
    exact ⟨.refl hst, hs.push_auth _ _ rfl rfl (.inl rfl)⟩
  have hq : ∀ op' r, memoisable2 r = true → (stepCore env st c op).res2 = r → sameStage op op' = true →
      promised (after p op (stepCore env st c op).obs) op' = some r := by
    intro op' r hm hr hst
    rw [promised_after, if_neg fun h => hne h.1, StepOut.obs, hr, hm, hst]; rfl
  -- a promise stands: a stage that held one yields the promised result again
  have hs0 := hs.grow (q := after p op (stepCore env st c op).obs) fun op' r hr => by
    rw [promised_after, if_neg fun h => hne h.1]
    split
    · rename_i hs'
      rw [Bool.and_eq_true] at hs'
      rw [StepOut.obs, (stepCore_stage_hit env st c op r (hag.stage op r ((promised_sameStage p hs'.2).trans hr))).1]
    · exact hr
  obtain ⟨r1, r4, _⟩ := routeInfo_valid env st c _ hst hs0
  have hnc := any_consume_of_filter _ (filter_consume_of_lookup _ (routeInfo_effs env st c))
  cases op with
  | resetAuth => exact absurd rfl hne
  | routeInfo => exact ⟨by rw [stepCore, hnc]; exact r1, r4⟩
  | contentType => exact ⟨.refl hst, contentType_sound hs0⟩
  | responseFormat o =>
    refine ⟨.refl hst, responseFormat_sound o hs0 fun hz => ?_⟩
    exact hq (.responseFormat []) _ (by simp [memoisable2, hz]) rfl rfl
  | authorize =>
    obtain ⟨a1, a4⟩ := authorize_valid env _ _ (routeInfo env st c).route _ _ r1.stok r4 fun u hu =>
      hq .authorize (.princ u) rfl (by simp only [stepCore, hu, res2OfAuth]) rfl
    refine ⟨?_, a4.mono a1.routes⟩
    rw [stepCore, List.any_append, hnc, any_consume_of_filter _ (filter_consume_of_auth _ (authorize_effs env _ _ _))]
    exact r1.trans a1
  | bindAndValidate =>
    cases hrt : (routeInfo env st c).route with
    | none => simp only [stepCore, hrt, StepOut.obs, hnc] at hq r4 ⊢; exact ⟨r1, r4⟩
    | some rt =>
      simp only [stepCore, hrt, StepOut.obs] at hq r4 ⊢
      obtain ⟨b1, b4⟩ := bindAndValidate_valid env _ _ rt.1 rt.2 _ r1.stok r4
        (r4.route _ _ ((routeInfo_route_eq env st c).trans hrt)).2 fun r hr => by
        rw [show ∀ q : Promise, q.bound = promised q .bindAndValidate from fun _ => rfl,
          hq .bindAndValidate (.bound r.codes r.bound) rfl (by rw [hr]; rfl) rfl]; rfl
      exact ⟨by rw [List.any_append, hnc]; exact r1.trans b1, b4.mono b1.routes⟩

/-- "the stage is evaluated": the value shows no result of it (no condition for the content type:
memoised or not, it is the parse of the header) -/
def notMemoised (c : Ctx) : Op → Prop
  | .responseFormat _ => memoFmt c = none
  | .authorize => value c kPrinc = .nil
  | .bindAndValidate => memoBound c = none
  | _ => True

/-- **The model's results are the reference's**: a stage evaluated on a valid value in a valid state
yields what it yields on the request as received — binding with the format the value shows and what is
left of the body, a panic where the reference is silent — and `Authorize` shows the reference's scopes. -/
theorem evaluated (env : Env) (st : State) (c : Ctx) (op : Op) (p : Promise) (hst : StOk env st)
    (hs : Sound env st.routes.length p c) (hn : notMemoised c op) :
    (stepCore env st c op).res2 =
      (fresh env { fmt := (memoFmt c).map Res2.fmt } st.bodyLeft op).getD .panic ∧
    scopesAlone env op (stepCore env st c op).obs = true := by
  obtain ⟨r1, r4, r5⟩ := routeInfo_valid env st c p hst hs
  cases op with
  | routeInfo => exact ⟨rfl, rfl⟩
  | resetAuth => exact ⟨rfl, rfl⟩
  | contentType => exact ⟨by simp only [stepCore, fresh, (contentType_ref env c hs.ct).1]; rfl, rfl⟩
  | responseFormat o => exact ⟨by simp only [stepCore, fresh, responseFormat_val, show memoFmt c = none from hn]; rfl, rfl⟩
  | authorize =>
    have hmp : memoPrinc ((routeInfo env st c).ret.held c) = none :=
      memoPrinc_nil _ ((routeInfo_value env st c (.inl (by decide))).trans hn)
    simp only [stepCore, fresh, scopesAlone, StepOut.obs, ← r5]
    cases hrt : (routeInfo env st c).route with
    | none => exact ⟨rfl, rfl⟩
    | some rt =>
      obtain ⟨rid, rc⟩ := rt
      simp only [Option.map_some]
      cases hal : rc.alts.isEmpty with
      | true => simp [authorize, hal, res2OfAuth, authenticated]
      | false =>
        obtain ⟨a1, a2⟩ := authorizeMiss_ref env (routeInfo env st c).st ((routeInfo env st c).ret.held c) rid rc
        rw [authorize_miss_eq env _ _ rid rc hal hmp]
        refine ⟨a1, ?_⟩
        cases hau : authenticated (res2OfAuth (authorizeMiss env (routeInfo env st c).st
            ((routeInfo env st c).ret.held c) rid rc).res) with
        | false => rfl
        | true => simp [viewOf, a2 hau]
  | bindAndValidate =>
    have hmb : memoBound ((routeInfo env st c).ret.held c) = none := (held_route_memoBound env st c).trans hn
    simp only [stepCore, fresh, scopesAlone, and_true, ← r5]
    cases hrt : (routeInfo env st c).route with
    | none => rfl
    | some rt =>
      obtain ⟨_, v4⟩ := validateRequest_ref env _ _ rt.1 rt.2 { fmt := (memoFmt c).map .fmt } r1.stok r4.ct
        (r4.route _ _ ((routeInfo_route_eq env st c).trans hrt)).2 (by rw [held_route_memoFmt]; cases memoFmt c <;> rfl)
      rcases bindAndValidate_cases env (routeInfo env st c).st ((routeInfo env st c).ret.held c) rt.1 rt.2 with
        ⟨_, hm, _⟩ | ⟨_, ⟨e, hp⟩ | ⟨r, hr, e⟩⟩
      · rw [hmb] at hm; cases hm
      · rw [hp, r1.body] at v4; simp only [e, Option.map_some]; exact v4
      · rw [hr, r1.body] at v4; simp only [e, Option.map_some]; exact v4

theorem fresh_fmt (env : Env) (p : Promise) (left : Nat) (op : Op) :
    fresh env p left op = fresh env { fmt := p.fmt } left op := by
  cases op <;> rfl

theorem fmt_promise_eq {env : Env} {n : Nat} {p : Promise} {c : Ctx} (hag : Agree p c) (hs : Sound env n p c) :
    p.fmt = (memoFmt c).map Res2.fmt := by
  cases hm : memoFmt c with
  | some f => exact hs.fmt f hm
  | none =>
    cases hp : p.fmt with
    | none => rfl
    | some r => obtain ⟨f, hf, _⟩ := hag.stage (.responseFormat []) r hp; rw [hm] at hf; cases hf

theorem Sound.of_notMemoised {env : Env} {n : Nat} {p : Promise} {c : Ctx} (hs : Sound env n p c) (op : Op)
    (h : promised p op = none) : notMemoised c op := by
  cases op with
  | responseFormat o =>
    cases hm : memoFmt c with
    | none => exact hm
    | some f => have := hs.fmt f hm; rw [show p.fmt = none from h] at this; cases this
  | authorize =>
    rcases hs.princ with hn | ⟨u, _, hu⟩
    · exact hn
    · rw [show p.auth = none from h] at hu; cases hu
  | bindAndValidate =>
    cases hm : memoBound c with
    | none => exact hm
    | some b => have := hs.bound b hm; rw [show p.bound = none from h] at this; cases this
  | _ => trivial

theorem routeAlone_model (env : Env) (st : State) (c : Ctx) (p : Promise) (hst : StOk env st)
    (hs : Sound env st.routes.length p c) : routeAlone env (res1Of (routeInfo env st c).route) = true := by
  unfold routeAlone
  rw [← (routeInfo_valid env st c p hst hs).2.2]
  cases (routeInfo env st c).route <;> simp [res1Of]

theorem derived_model (env : Env) (st : State) (c : Ctx) (op : Op) (p : Promise) (hst : StOk env st)
    (hag : Agree p c) (hs : Sound env st.routes.length p c) :
    derivedAlone env p st.bodyLeft op (stepCore env st c op).obs = true := by
  unfold derivedAlone
  rw [Bool.and_eq_true]
  constructor
  · have hra := routeAlone_model env st c p hst hs
    cases op with
    | bindAndValidate =>
      simp only [stepCore, StepOut.obs]
      split <;> simp [hra]
    | _ => simp [stepCore, StepOut.obs, hasRoutePart, hra]
  · cases hpr : promised p op with
    | some r => rfl
    | none =>
      obtain ⟨e1, e2⟩ := evaluated env st c op p hst hs (hs.of_notMemoised op hpr)
      rw [fresh_fmt, fmt_promise_eq hag hs, e2, StepOut.obs, e1]
      cases fresh env { fmt := (memoFmt c).map Res2.fmt } st.bodyLeft op <;> simp

theorem getD_len_le {α : Type} (l : List α) (d : α) (k : Nat) (h : l.length ≤ k) : l.getD k d = d := by
  simp [List.getD, List.getElem?_eq_none h]

theorem forall_getD_append {α β : Type} {R : α → β → Prop} {l : List α} {m : List β} {a da : α} {b db : β}
    (hlen : l.length = m.length) (h : ∀ k, R (l.getD k da) (m.getD k db)) (hab : R a b) (k : Nat) :
    R ((l ++ [a]).getD k da) ((m ++ [b]).getD k db) := by
  rcases Nat.lt_trichotomy k l.length with hlt | rfl | hgt
  · have := h k
    simp only [List.getD_eq_getElem?_getD, List.getElem?_append_left hlt,
      List.getElem?_append_left (hlen ▸ hlt)] at this ⊢
    exact this
  · simpa [List.getD_eq_getElem?_getD, hlen] using hab
  · have := h k
    rw [getD_len_le l _ _ (Nat.le_of_lt hgt), getD_len_le m _ _ (hlen ▸ Nat.le_of_lt hgt)] at this
    rw [getD_len_le _ _ _ (by simp; omega), getD_len_le _ _ _ (by simp; omega)]
    exact this

structure Inv (env : Env) (st : State) (left : Nat) (vals : List Ctx) (ps : List Promise) : Prop where
  len : ps.length = vals.length
  body : st.bodyLeft = left
  stok : StOk env st
  agree : ∀ k, Agree (ps.getD k {}) (vals.getD k [])
  sound : ∀ k, Sound env st.routes.length (ps.getD k {}) (vals.getD k [])

theorem inv_init (env : Env) (b : Nat) : Inv env ⟨[], b⟩ b [[]] [{}] := by
  refine ⟨rfl, rfl, stOk_init env b, fun k => ?_, fun k => ?_⟩ <;> cases k
  · exact agree_empty _
  · exact agree_empty _
  · exact sound_init env _
  · exact sound_init env _

theorem Inv.step {env : Env} {st : State} {left : Nat} {vals : List Ctx} {ps : List Promise}
    (h : Inv env st left vals ps) (j : Nat) (op : Op) :
    Inv env (stepCore env st (vals.getD j []) op).st (leftAfter left (stepCore env st (vals.getD j []) op).obs)
      (vals ++ [(stepCore env st (vals.getD j []) op).held])
      (ps ++ [after (ps.getD j {}) op (stepCore env st (vals.getD j []) op).obs]) := by
  obtain ⟨s1, s4⟩ := stepCore_valid env st _ op _ h.stok (h.agree j) (h.sound j)
  exact ⟨by simp [h.len], by rw [← h.body]; exact s1.body, s1.stok,
    forall_getD_append h.len h.agree (agree_after env st _ op _ (h.agree j)),
    forall_getD_append h.len (fun k => (h.sound k).mono s1.routes) s4⟩

theorem specGo_runProg (env : Env) (prog : List Instr) (st : State) (left : Nat) (vals : List Ctx) (ps : List Promise)
    (h : Inv env st left vals ps) : specGo env prog (runProg env prog st vals) ps left = true := by
  induction prog generalizing st left vals ps with
  | nil => rfl
  | cons i is ih =>
    simp only [runProg, specGo, Bool.and_eq_true, h.len]
    refine ⟨⟨keeps_model env st _ i.op _ (h.agree _), ?_⟩, ih _ _ _ _ (h.step _ i.op)⟩
    rw [← h.body]
    exact derived_model env st _ i.op _ h.stok (h.agree _) (h.sound _)

theorem thread_consumes (env : Env) (ops : List Op) (st : State) (c : Ctx) :
    consumes (runThread env ops st c) ≤ budget c := by
  induction ops generalizing st c with
  | nil => exact Nat.zero_le _
  | cons op ops ih =>
    exact Nat.le_trans (Nat.add_le_add_left (ih (stepCore env st c op).st (stepCore env st c op).held) _)
      (stepCore_budget env st c op)

theorem iter_lstep_run (env : Env) (todo : List Op) (st : State) (c : Ctx) (tr : List Obs) (n : Nat)
    (hn : todo.length ≤ n) :
    iter (lstep env) n ⟨st, c, todo, tr⟩ =
      ⟨(endThread env todo st c).1, (endThread env todo st c).2, [], tr ++ runThread env todo st c⟩ := by
  induction todo generalizing st c tr n with
  | nil =>
    clear hn
    induction n with
    | zero => simp [iter, endThread, runThread]
    | succ n ih => exact ih
  | cons op ops ih =>
    cases n with
    | zero => simp at hn
    | succ n =>
      rw [iter]
      simp only [lstep, endThread, runThread]
      rw [ih _ _ _ n (by simpa using hn)]
      simp [List.append_assoc]

theorem runProg_threaded (env : Env) (ops : List Op) (st : State) (vs : List Ctx) (c : Ctx) :
    runProg env (ops.map (⟨·, 0⟩)) st (vs ++ [c]) = runThread env ops st c := by
  induction ops generalizing st vs c with
  | nil => rfl
  | cons op ops ih =>
    have hc : (vs ++ [c]).getD (srcIdx (vs ++ [c]).length 0) [] = c := by
      simp [srcIdx, List.getD]
    simp only [List.map_cons, runProg, runThread, hc]
    rw [ih]

theorem leftAfter_cases (left : Nat) (o : Obs) : leftAfter left o = left ∨ leftAfter left o = 0 := by
  unfold leftAfter; cases o.effs.any isConsume <;> simp

theorem inv_end (env : Env) (prog : List Instr) (st : State) (left : Nat) (vals : List Ctx) (ps : List Promise)
    (h : Inv env st left vals ps) :
    ∃ left' ps', Inv env (endProg env prog st vals).1 left' (endProg env prog st vals).2 ps' ∧
      (left' = left ∨ left' = 0) := by
  induction prog generalizing st left vals ps with
  | nil => exact ⟨left, ps, h, .inl rfl⟩
  | cons i is ih =>
    obtain ⟨left', ps', hi, hl⟩ := ih _ _ _ _ (h.step (srcIdx vals.length i.back) i.op)
    refine ⟨left', ps', hi, ?_⟩
    rcases hl with hl | hl
    · rw [hl]; exact leftAfter_cases left _
    · exact .inr hl

theorem reach (env : Env) (b : Nat) (prog : List Instr) (k : Nat) :
    ∃ p, StOk env (endProg env prog ⟨[], b⟩ [[]]).1 ∧
      Sound env (endProg env prog ⟨[], b⟩ [[]]).1.routes.length p ((endProg env prog ⟨[], b⟩ [[]]).2.getD k []) := by
  obtain ⟨_, ps, h, _⟩ := inv_end env prog _ _ _ _ (inv_init env b)
  exact ⟨_, h.stok, h.sound k⟩

end RtVerif.C09
