import RtVerif.Model.C08
import RtVerif.Props.C07
/-
  The Spec's vocabulary (`stripParams`, `negotiated`, `registeredFor`) versus
  the code's (`normalizeOffer`, `responseFormat`, `route.Producers`), and the fields of the small
  output-building steps.
-/
namespace RtVerif.C08
open RtVerif Bytes

theorem stripParams_eq (mt : Bytes) : stripParams mt = C07.normalizeOffer mt := rfl

/-- since the F08a fix both plain-value look-ups use the parameter-free type (regenerated fact) -/
theorem lookupKey_eq (format : Bytes) : lookupKey format = C07.normalizeOffer format := by
  simp [lookupKey, Facts.respondRawProducerLookups]

theorem responseFormat_eq (cfg : Cfg) (produces : List Bytes) (req : Req) :
    responseFormat req.memo req.specs (offersOf cfg.dflt produces) = negotiated cfg produces req := by
  unfold responseFormat negotiated offersOf
  cases req.memo with
  | some v => rfl
  | none => exact C07.negotiate_eq_spec _ _ _

theorem registeredFor_eq (cfg : Cfg) (r : Route) (k : Bytes) : registeredFor cfg r k = routeHas cfg r k := by
  unfold registeredFor routeHas producersForHas
  rw [Bool.and_comm]
  rfl

theorem pickProducer_registered {cfg : Cfg} {r : Route} {f : Bytes}
    (h : registeredFor cfg r (stripParams f) = true) :
    pickProducer cfg r (stripParams f) = some (stripParams f) :=
  if_pos (registeredFor_eq cfg r _ ▸ h)

@[simp] theorem produce_calls (enc k o) : (produce enc k o).calls = o.calls ++ [(k, true)] := rfl
@[simp] theorem produce_body (enc k o) : (produce enc k o).body = o.body ++ (enc k).out := rfl
@[simp] theorem produce_status (enc k o) : (produce enc k o).status = o.status := rfl
@[simp] theorem produce_ct (enc k o) : (produce enc k o).ct = o.ct := rfl
@[simp] theorem produce_handed (enc k o) : (produce enc k o).handed = o.handed := rfl

@[simp] theorem pop_calls (enc k o) : (produceOrPanic enc k o).calls = o.calls ++ [(k, true)] := by
  unfold produceOrPanic; split <;> rfl
@[simp] theorem pop_body (enc k o) : (produceOrPanic enc k o).body = o.body ++ (enc k).out := by
  unfold produceOrPanic; split <;> rfl
@[simp] theorem pop_status (enc k o) : (produceOrPanic enc k o).status = o.status := by
  unfold produceOrPanic; split <;> rfl
@[simp] theorem pop_ct (enc k o) : (produceOrPanic enc k o).ct = o.ct := by
  unfold produceOrPanic; split <;> rfl

theorem respondError_eq (req : Req) (format : Bytes) (e : ErrV) (s : Bool) (ebody : Bytes) (o : Out) :
    respondError req format e s ebody o =
      { o with
        status := serveStatus e, ct := errorsJSON, body := o.body ++ ebody
        www := if req.marker != [] then [challenge req.marker] else []
        errcalls := o.errcalls ++ [⟨e, s, if format == [] then jsonMime else format,
          if req.marker != [] then challenge req.marker else []⟩] } := by
  unfold respondError callErrorResponder
  cases req.marker != [] <;> rfl

theorem respondError_status (req : Req) (format : Bytes) (e : ErrV) (s : Bool) (ebody : Bytes) (o : Out) :
    (respondError req format e s ebody o).status = serveStatus e := rfl

theorem effRealm_ne_nil (realm : Bytes) : effRealm realm ≠ [] := by
  unfold effRealm
  split
  · decide
  · rename_i h; simpa using h

theorem routeHasOp_some {route : Option Route} {r : Route} (h : routeHasOp route = some r) :
    route = some r ∧ r.hasOp = true := by
  cases route with
  | none => simp [routeHasOp] at h
  | some r' =>
    simp only [routeHasOp] at h
    split at h
    · rename_i hop; simp only [Option.some.injEq] at h; subst h; exact ⟨rfl, hop⟩
    · cases h

theorem specRespond_ran (cfg : Cfg) (produces : List Bytes) (route : Option Route) (req : Req)
    (fb : Option Bytes) (d : Data) (enc : Bytes → ProdRes) (o : Out) :
    specRespond cfg produces route req fb d enc { o with ran := true } =
      specRespond cfg produces route req fb d enc o := by
  cases d <;> rfl

theorem notAcceptable_eq (c : ApiCase) :
    notAcceptable c = (!c.route.produces.isEmpty && C07.specChoice c.specs c.route.produces [] == []) := by
  rw [notAcceptable, C07.negotiate_eq_spec, Bool.and_comm]

theorem serve_no_creds (c : ApiCase) (enc : Bytes → ProdRes) (ebody : Bytes) {realm : Bytes}
    (hsec : c.sec = some realm) (hc : c.creds = false) :
    serve c enc ebody = respond c.cfg c.route.produces (some c.route)
      ⟨c.method, c.specs, none, effRealm realm⟩ (.error (.api 401) false) enc ebody := by
  simp [serve, hsec, authorize, basicMarker, hc]

theorem serve_rejected (c : ApiCase) (enc : Bytes → ProdRes) (ebody : Bytes) {realm : Bytes} {e : ErrV}
    (hsec : c.sec = some realm) (hc : c.creds = true) (hfn : c.fn = .err e) :
    serve c enc ebody = respond c.cfg c.route.produces (some c.route)
      ⟨c.method, c.specs, none, effRealm realm⟩ (.error e true) enc ebody := by
  simp [serve, hsec, authorize, basicMarker, hc, hfn]

end RtVerif.C08
