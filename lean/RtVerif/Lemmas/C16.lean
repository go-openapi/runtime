import RtVerif.Model.C16
/-
  C16: the CSV consumer and producer deliver what the specification expects. `readRec_spec` frames one
  read on the heap; `pipeLoop_ok`/`pipeCSV_ok` say that a transfer without error wrote exactly the
  expected records and flushed them; `spec_delivery` turns such a transfer into `specCore`, and
  `consumeBody_spec`/`produceBody_spec` follow the dispatch of csv.go clause by clause.
-/
namespace RtVerif.C16
open RtVerif Bytes

/-- what `Cfg.repo` must evaluate to for the theorems to hold (the repaired csv.go) -/
def Cfg.fixed : Cfg where
  consCases := [⟨.csvPtr, false, true, false⟩, ⟨.csvIface, false, false, false⟩, ⟨.io, false, true, false⟩,
    ⟨.xfer, false, true, true⟩, ⟨.bin, false, true, true⟩, ⟨.table, false, false, false⟩,
    ⟨.bytes, false, true, true⟩, ⟨.str, false, true, true⟩]
  prodCases := [⟨.csvPtr, true, false, false⟩, ⟨.csvIface, false, false, false⟩, ⟨.io, true, false, false⟩,
    ⟨.xfer, true, false, false⟩, ⟨.bin, true, false, true⟩, ⟨.table, false, false, false⟩,
    ⟨.bytes, true, false, true⟩, ⟨.str, true, false, true⟩]
  consReaderOpts := true
  prodWriterOpts := true
  consNilGuard := true
  prodNilGuard := true
  consExact := true
  prodExact := true
  tableOps := [.setLen0, .growN, .setCapN, .setLenN, .copy]
  clones := true
  wtCloseWithErr := true

theorem take_append_drop_self (r old : List Field) : (r ++ old.drop r.length).take r.length = r := by
  simp

/-- the reader's array, if any, is allocated -/
def RState.ok (rs : RState) : Prop := ∀ l, rs.last = some l → l.arr < rs.heap.next

/-- `a` is not the array the reader may overwrite -/
def RState.avoids (rs : RState) (a : Nat) : Prop := ∀ l, rs.last = some l → a ≠ l.arr

theorem readRec_cases (reuse : Bool) (rs : RState) (r : Record) :
    readRec reuse rs r = freshRec reuse rs r ∨
      ∃ l, rs.last = some l ∧
        readRec reuse rs r = (⟨rs.heap.store l.arr r, some ⟨l.arr, r.length, l.cap⟩⟩, ⟨l.arr, r.length, l.cap⟩) := by
  unfold readRec
  cases reuse with
  | false => exact .inl rfl
  | true =>
    cases rs.last with
    | none => exact .inl rfl
    | some l =>
      simp only [↓reduceIte]
      split
      · exact .inl rfl
      · exact .inr ⟨l, rfl, rfl⟩

theorem deref_readRec (reuse : Bool) (rs : RState) (r : Record) :
    (readRec reuse rs r).1.heap.deref (readRec reuse rs r).2 = r := by
  rcases readRec_cases reuse rs r with h | ⟨l, _, h⟩ <;> rw [h]
  · simp [freshRec, Heap.alloc, Heap.deref]
  · simp [Heap.store, Heap.deref]

theorem readRec_spec (reuse : Bool) (rs : RState) (r : Record) (hok : rs.ok) :
    (readRec reuse rs r).1.ok ∧ rs.heap.next ≤ (readRec reuse rs r).1.heap.next ∧
    (readRec reuse rs r).2.len = r.length ∧
    ∀ a, a < rs.heap.next → rs.avoids a →
      (readRec reuse rs r).1.heap.cell a = rs.heap.cell a ∧ (readRec reuse rs r).1.avoids a := by
  rcases readRec_cases reuse rs r with h | ⟨l, hl, h⟩ <;> rw [h]
  · have hlast : ∀ l, (freshRec reuse rs r).1.last = some l → l.arr = rs.heap.next := fun l hl => by
      cases reuse <;> simp only [freshRec, ↓reduceIte, Option.some.injEq, reduceCtorEq] at hl
      rw [← hl]
    exact ⟨fun l hl => hlast l hl ▸ Nat.lt_succ_self _, Nat.le_succ _, rfl,
      fun a ha _ => ⟨if_neg (Nat.ne_of_lt ha), fun l hl => hlast l hl ▸ Nat.ne_of_lt ha⟩⟩
  · have hlast : ∀ l', some (⟨l.arr, r.length, l.cap⟩ : Slice) = some l' → l'.arr = l.arr := fun l' hl' => by
      cases hl'; rfl
    exact ⟨fun l' hl' => hlast l' hl' ▸ hok l hl, Nat.le_refl _, rfl,
      fun a _ hav => ⟨if_neg (hav l hl), fun l' hl' => hlast l' hl' ▸ hav l hl⟩⟩

/-- a writer whose environment is not scripted to fail -/
def Wr.clean : Wr → Bool
  | .std w fails => validDelim w.comma && !fails
  | .custom failAt flushErr => failAt.isNone && !flushErr
  | .container => true

def termErr : Term → Option Bytes
  | .eof => none
  | .err e => some e

theorem wWrite_clean (c : Bool) (wr : Wr) (h : Heap) (nw : Nat) (s : Slice) (hc : wr.clean = true) :
    ∃ hk, wWrite c wr h nw s = .ok hk := by
  cases wr <;> cases c <;> simp_all [Wr.clean, wWrite]

theorem wFinish_clean (wr : Wr) (nw : Nat) (hc : wr.clean = true) : wFinish wr nw = none := by
  cases wr <;> simp_all [Wr.clean, wFinish]

theorem pipeLoop_ok (c reuse : Bool) (wr : Wr) (t : Term) (recs : List Record) :
    ∀ rs nw, (pipeLoop c reuse wr t rs nw recs).err = none →
      t = .eof ∧ (pipeLoop c reuse wr t rs nw recs).vals = recs ∧
      (pipeLoop c reuse wr t rs nw recs).flushed = true ∧ wFinish wr (nw + recs.length) = none := by
  induction recs with
  | nil =>
    intro rs nw h
    cases t with
    | eof => exact ⟨rfl, rfl, rfl, h⟩
    | err e => cases h
  | cons r more ih =>
    intro rs nw h
    simp only [pipeLoop] at h ⊢
    cases hw : wWrite c wr (readRec reuse rs r).1.heap nw (readRec reuse rs r).2 with
    | error e => simp [hw] at h
    | ok hk =>
      simp only [hw] at h ⊢
      obtain ⟨ht, hv, hf, hfin⟩ := ih _ _ h
      exact ⟨ht, by rw [hv, deref_readRec], hf, by rwa [List.length_cons, Nat.add_comm more.length, ← Nat.add_assoc]⟩

theorem pipeLoop_clean (c reuse : Bool) (wr : Wr) (t : Term) (hc : wr.clean = true) (recs : List Record) :
    ∀ rs nw, (pipeLoop c reuse wr t rs nw recs).err = termErr t := by
  induction recs with
  | nil =>
    intro rs nw
    cases t with
    | eof => exact wFinish_clean wr nw hc
    | err e => rfl
  | cons r more ih =>
    intro rs nw
    obtain ⟨hk, hw⟩ := wWrite_clean c wr (readRec reuse rs r).1.heap nw (readRec reuse rs r).2 hc
    simp only [pipeLoop, hw]
    exact ih _ _

theorem skipLoop_spec (reuse : Bool) (ev : Events) (skip : Nat) :
    ∃ rs, rs.ok ∧
      (skipLoop reuse skip ⟨Heap.empty, none⟩ ev.recs = (rs, some (expected ev skip)) ∨
        expected ev skip = [] ∧ skipLoop reuse skip ⟨Heap.empty, none⟩ ev.recs = (rs, none)) := by
  unfold expected
  generalize ev.recs = l
  have h0 : RState.ok ⟨Heap.empty, none⟩ := nofun
  generalize (⟨Heap.empty, none⟩ : RState) = rs at h0
  induction skip generalizing rs l with
  | zero => exact ⟨rs, h0, .inl rfl⟩
  | succ k ih =>
    cases l with
    | nil => exact ⟨rs, h0, .inr ⟨rfl, rfl⟩⟩
    | cons r l => exact ih l _ (readRec_spec reuse rs r h0).1

theorem pipeCSV_eq (c reuse : Bool) (wr : Wr) (skip : Nat) (ev : Events) :
    ∃ rs, rs.ok ∧
      (pipeCSV c reuse wr skip ev = pipeLoop c reuse wr ev.term rs 0 (expected ev skip) ∨
        expected ev skip = [] ∧ pipeCSV c reuse wr skip ev = exhausted ev.term rs.heap) := by
  unfold pipeCSV
  obtain ⟨rs, hok, h | ⟨he, h⟩⟩ := skipLoop_spec reuse ev skip <;> rw [h]
  · exact ⟨rs, hok, .inl rfl⟩
  · exact ⟨rs, hok, .inr ⟨he, rfl⟩⟩

theorem pipeCSV_ok {cl reuse : Bool} {wr : Wr} {skip : Nat} {ev : Events}
    (h : (pipeCSV cl reuse wr skip ev).err = none) :
    ev.term = .eof ∧ (pipeCSV cl reuse wr skip ev).vals = expected ev skip ∧
    ((pipeCSV cl reuse wr skip ev).flushed = true ∧ wFinish wr (expected ev skip).length = none ∨
      expected ev skip = []) := by
  obtain ⟨rs, _, h' | ⟨he, h'⟩⟩ := pipeCSV_eq cl reuse wr skip ev <;> rw [h'] at h ⊢
  · have := pipeLoop_ok cl reuse wr ev.term _ rs 0 h
    exact ⟨this.1, this.2.1, .inl ⟨this.2.2.1, by simpa using this.2.2.2⟩⟩
  · cases ht : ev.term <;> simp [exhausted, ht, he] at h ⊢

theorem pipeCSV_clean {cl reuse : Bool} {wr : Wr} {skip : Nat} {ev : Events} (hc : wr.clean = true) :
    (pipeCSV cl reuse wr skip ev).err = termErr ev.term := by
  obtain ⟨rs, _, h' | ⟨_, h'⟩⟩ := pipeCSV_eq cl reuse wr skip ev <;> rw [h']
  · exact pipeLoop_clean cl reuse wr ev.term hc _ rs 0
  · cases ev.term <;> rfl

theorem stdEncode_nil (w : WOpts) : stdEncode w [] = [] := rfl

theorem pipeCSV_sink {cl reuse : Bool} {w : WOpts} {fails : Bool} {skip : Nat} {ev : Events}
    (h : (pipeCSV cl reuse (.std w fails) skip ev).err = none) :
    sinkBytes w fails (pipeCSV cl reuse (.std w fails) skip ev) = stdEncode w (expected ev skip) := by
  obtain ⟨_, hv, ⟨hf, hfin⟩ | he⟩ := pipeCSV_ok h
  · cases fails with
    | false => simp [sinkBytes, hf, hv]
    | true =>
      -- a failing sink goes unnoticed only when nothing was written (bufio has nothing to flush)
      have he : expected ev skip = [] := by simpa [wFinish] using hfin
      simp [sinkBytes, he, stdEncode_nil]
  · simp [sinkBytes, hv, he, stdEncode_nil]

theorem bufferedCSV_ok {reuse : Bool} {w : WOpts} {fails : Bool} {skip : Nat} {ev : Events}
    (h : (bufferedCSV reuse w fails skip ev).err = none) :
    ev.term = .eof ∧
    sinkBytes w fails (bufferedCSV reuse w fails skip ev) = stdEncode w (expected ev skip) := by
  unfold bufferedCSV at h ⊢
  obtain ⟨rs, _, hs | ⟨he, hs⟩⟩ := skipLoop_spec reuse ev skip <;> rw [hs] at h ⊢
  · cases ht : ev.term with
    | err e => simp [ht] at h
    | eof =>
      refine ⟨rfl, ?_⟩
      cases hr : expected ev skip with
      | nil => simp [sinkBytes, stdEncode_nil]
      | cons r rest =>
        -- a non-empty rest is written, and then a bad separator or a failing sink shows
        cases hv : validDelim w.comma with
        | false => simp [ht, hr, hv] at h
        | true =>
          have hfin : wFinish (.std w fails) (rest.length + 1) = none := by simpa [ht, hr, hv] using h
          cases fails with
          | true => simp [wFinish] at hfin
          | false => simp [sinkBytes]
  · cases ht : ev.term <;> simp [exhausted, ht, he, sinkBytes, stdEncode_nil] at h ⊢

theorem bufferedCSV_clean {reuse : Bool} {w : WOpts} {skip : Nat} {ev : Events} (hv : validDelim w.comma = true) :
    (bufferedCSV reuse w false skip ev).err = termErr ev.term := by
  unfold bufferedCSV
  split
  · cases ev.term <;> rfl
  · cases ev.term with
    | err e => rfl
    | eof => simp only [termErr, hv, ↓reduceIte]; split <;> rfl

theorem transfer_ok {b cl reuse : Bool} {w : WOpts} {fails : Bool} {skip : Nat} {ev : Events}
    (h : (transfer b cl reuse w fails skip ev).err = none) :
    ev.term = .eof ∧ sinkBytes w fails (transfer b cl reuse w fails skip ev) = stdEncode w (expected ev skip) := by
  cases b with
  | true => exact bufferedCSV_ok h
  | false => exact ⟨(pipeCSV_ok h).1, pipeCSV_sink h⟩

theorem transfer_clean {b cl reuse : Bool} {w : WOpts} {skip : Nat} {ev : Events} (hv : validDelim w.comma = true) :
    (transfer b cl reuse w false skip ev).err = termErr ev.term := by
  cases b with
  | true => exact bufferedCSV_clean hv
  | false => exact pipeCSV_clean (by simp [Wr.clean, hv])

/-! ## The records container: a heap invariant

With the copy in `csvRecordsWriter.Write`, every kept slice points to an array allocated for it
alone: later reads overwrite only the reader's own array, later copies allocate new arrays. -/

structure ContainerInv (rs : RState) (recs : List Record) (res : PipeRes) : Prop where
  next_le : rs.heap.next ≤ res.heap.next
  frame : ∀ a, a < rs.heap.next → rs.avoids a → res.heap.cell a = rs.heap.cell a
  fresh : ∀ s ∈ res.tbl, rs.heap.next ≤ s.arr ∧ s.arr < res.heap.next
  sorted : List.Pairwise (· < ·) (res.tbl.map (·.arr))
  content : res.tbl.map res.heap.deref = recs

theorem container_loop (reuse : Bool) (t : Term) (recs : List Record) :
    ∀ rs nw, rs.ok → ContainerInv rs recs (pipeLoop true reuse .container t rs nw recs) := by
  induction recs with
  | nil =>
    intro rs nw _
    cases t <;> exact ⟨Nat.le_refl _, fun _ _ _ => rfl, nofun, .nil, rfl⟩
  | cons r more ih =>
    intro rs nw hok
    -- one step: read, then copy into the new array `rd.1.heap.next`
    obtain ⟨hrd_ok, hrd_next, hlen, hrd⟩ := readRec_spec reuse rs r hok
    have hderef := deref_readRec reuse rs r
    simp only [pipeLoop, wWrite, ↓reduceIte]
    generalize readRec reuse rs r = rd at *
    obtain ⟨hnext, hframe, hfresh, hsorted, hcontent⟩ :=
      ih ⟨(rd.1.heap.alloc (rd.1.heap.deref rd.2)).1, rd.1.last⟩ (nw + 1) fun l hl => Nat.lt_succ_of_lt (hrd_ok l hl)
    generalize pipeLoop true reuse .container t _ (nw + 1) more = res at *
    simp only [Heap.alloc] at hnext hframe hfresh
    refine ⟨by simp only; omega, fun a ha hav => ?_, fun s hs => ?_, ?_, ?_⟩
    · rw [hframe a (by omega) (hrd a ha hav).2, if_neg (by omega), (hrd a ha hav).1]
    · cases hs with
      | head => simp only; omega
      | tail _ h => have := hfresh s h; simp only; omega
    · exact List.pairwise_cons.mpr ⟨fun a ha => by
        obtain ⟨s, hs, rfl⟩ := List.mem_map.mp ha
        exact (hfresh s hs).1, hsorted⟩
    · -- the new array is outside the reader's reach from now on, so it keeps the record
      simp only [Heap.deref, hlen] at hderef
      simp only [List.map_cons, hcontent, Heap.deref, hlen, hframe _ (Nat.lt_succ_self _) fun l hl => Nat.ne_of_gt (hrd_ok l hl),
        ↓reduceIte, hderef, List.take_length]

theorem container_pipe (reuse : Bool) (skip : Nat) (ev : Events) :
    (pipeCSV true reuse .container skip ev).err = termErr ev.term ∧
    (ev.term = .eof →
      (pipeCSV true reuse .container skip ev).tbl.map (pipeCSV true reuse .container skip ev).heap.deref
        = expected ev skip ∧
      List.Pairwise (· < ·) ((pipeCSV true reuse .container skip ev).tbl.map (·.arr))) := by
  refine ⟨pipeCSV_clean rfl, fun ht => ?_⟩
  obtain ⟨rs, hok, h | ⟨he, h⟩⟩ := pipeCSV_eq true reuse .container skip ev <;> rw [h]
  · have inv := container_loop reuse ev.term (expected ev skip) rs 0 hok
    exact ⟨inv.content, inv.sorted⟩
  · simp [exhausted, ht, he]

theorem aliasPairs_sorted (tbl : List Slice) (h : List.Pairwise (· < ·) (tbl.map (·.arr))) :
    aliasPairs (tbl.map Cell.new) = 0 := by
  induction tbl with
  | nil => rfl
  | cons s rest ih =>
    obtain ⟨hlt, hrest⟩ := List.pairwise_cons.mp h
    simp only [List.map_cons, aliasPairs, ih hrest, Nat.add_zero, cellArr]
    by_cases h0 : s.len = 0
    · simp only [h0, ↓reduceIte]
    · -- no later slice lies in the array of `s`
      simp only [h0, ↓reduceIte, List.length_eq_zero_iff, List.filter_eq_nil_iff, List.mem_map]
      rintro _ ⟨s', hs', rfl⟩
      have : s.arr < s'.arr := hlt _ (List.mem_map_of_mem hs')
      simp
      omega

theorem tab_pre_length (len cap : Nat) (h : len ≤ cap) : (Tab.pre len cap).arr.length = cap := by
  simp [Tab.pre]; omega

theorem tabGrow_spec (k : Nat) (t : Tab) (hwf : t.len ≤ t.arr.length) :
    ∃ t', tabGrow k t = .ok t' ∧ t'.len = t.len ∧ t.len + k ≤ t'.arr.length := by
  unfold tabGrow
  split
  · exact ⟨t, rfl, rfl, by assumption⟩
  · refine ⟨_, rfl, rfl, ?_⟩
    simp only [List.length_append, List.length_take, List.length_replicate]
    omega

theorem tabSetCap_ok (k : Nat) (t : Tab) (h1 : t.len ≤ k) (h2 : k ≤ t.arr.length) :
    tabSetCap k t = .ok ⟨t.arr.take k, t.len⟩ := by
  unfold tabSetCap
  have : ¬ (k < t.len) := by omega
  have : ¬ (k > t.arr.length) := by omega
  simp [*]

theorem tabSetLen_ok (k : Nat) (t : Tab) (h : k ≤ t.arr.length) : tabSetLen k t = .ok ⟨t.arr, k⟩ := by
  unfold tabSetLen
  have : ¬ (k > t.arr.length) := by omega
  simp [*]

/-- `SetLen(0); Grow(n); SetCap(n); SetLen(n); Copy`: whatever the destination held (any length, any
capacity), no call panics and the table ends up holding exactly the container's records. -/
theorem tabRun_fixed (src : List Slice) (t : Tab) :
    tabRun true src Cfg.fixed.tableOps t = (⟨src.map Cell.new, src.length⟩, none) := by
  -- `Grow` leaves a table of length 0 with room for the records; each later call is then within bounds
  obtain ⟨t2, e2, hl2, hc2⟩ := tabGrow_spec src.length ⟨t.arr, 0⟩ (Nat.zero_le _)
  simp only [Nat.zero_add] at hl2 hc2
  have hlen : (t2.arr.take src.length).length = src.length := by simp [hc2]
  simp [Cfg.fixed, tabRun, tabStep, tabSetLen_ok 0 t (Nat.zero_le _), e2,
    tabSetCap_ok src.length t2 (by omega) hc2,
    tabSetLen_ok src.length ⟨t2.arr.take src.length, t2.len⟩ (Nat.le_of_eq hlen.symm), tabCopy]

theorem idle_res (d : Dst) (r : Res) : (d.idle r).res = r := by
  simp only [Dst.idle, apply_ite Out.res]
  cases d.shape <;> simp [Out.fail]

theorem spec_delivery {w : WOpts} {skip : Nat} {ev : Events} {envFails : Bool} {o : Out} {k : Kind}
    (hk : k ≠ .unsupported) (perr : Option Bytes) (hres : o.res = resOf perr)
    (hok : perr = none → ev.term = .eof ∧ deliveredOk k w (expected ev skip) o = true)
    (hclean : envFails = false → perr = termErr ev.term) :
    specCore k envFails w ev skip o = true := by
  unfold specCore
  rw [hres]
  cases k with
  | unsupported => exact absurd rfl hk
  | _ =>
    cases perr with
    | none => simp [(hok rfl).1, (hok rfl).2, resOf, Res.isPanic]
    | some m =>
      cases envFails with
      | true => cases ev.term <;> simp [resOf, Res.isErr, Res.isPanic]
      | false =>
        have := hclean rfl
        cases ht : ev.term <;> simp [ht, termErr] at this
        simp [this, resOf, Res.isPanic]

theorem spec_unsupported {w : WOpts} {skip : Nat} {ev : Events} {envFails : Bool} {o : Out} {m : Bytes}
    (h : o.res = .err m) : specCore .unsupported envFails w ev skip o = true := by
  simp [specCore, h, Res.isPanic, Res.isErr]

theorem specCore_closes (k : Kind) (b : Bool) (w : WOpts) (ev : Events) (skip n m : Nat) (o : Out) :
    specCore k b w ev skip { o with srcClose := n, dstClose := m } = specCore k b w ev skip o := by
  cases k <;> rfl

/-- a clause that encodes into a `csv.Writer` over a sink (`consumeStream` is this with the
destination's own sink) -/
theorem produceStream_spec {reuse : Bool} {w : WOpts} {fails : Bool} {skip : Nat} {ev : Events} {c : Case}
    {envFails : Bool} (henv : envFails = false → fails = false ∧ validDelim w.comma = true) :
    specCore .bytes envFails w ev skip (produceStream w c reuse skip ev fails) = true := by
  refine spec_delivery nofun (transfer c.buffered false reuse w fails skip ev).err rfl (fun h => ?_) fun h => ?_
  · have := transfer_ok h
    exact ⟨this.1, by simp [deliveredOk, produceStream, this.2]⟩
  · rw [(henv h).1]
    exact transfer_clean (henv h).2

theorem consumeStream_spec {reuse : Bool} {w : WOpts} {skip : Nat} {ev : Events} {c : Case} {d : Dst}
    {envFails : Bool} (henv : envFails = false → d.fails = false ∧ validDelim w.comma = true) :
    specCore .bytes envFails w ev skip (consumeStream w c reuse skip ev d) = true :=
  produceStream_spec henv

theorem consumeCustom_spec {reuse : Bool} {w : WOpts} {skip : Nat} {ev : Events} {d : Dst} {envFails : Bool}
    (henv : envFails = false → d.failAt = none ∧ d.fails = false) :
    specCore .records envFails w ev skip (consumeCustom reuse skip ev d) = true := by
  refine spec_delivery nofun (pipeCSV false reuse (.custom d.failAt d.fails) skip ev).err rfl (fun h => ?_) fun h => ?_
  · have := pipeCSV_ok h
    exact ⟨this.1, by simp [deliveredOk, consumeCustom, Out.fail, this.2.1]⟩
  · exact pipeCSV_clean (by simp [Wr.clean, henv h])

/-- a clause that hands the encoded bytes over afterwards: the hand-over's failure `handErr` comes
second to the transfer's -/
theorem consumeBuffered_spec {reuse : Bool} {w : WOpts} {skip : Nat} {ev : Events} {c : Case} {d : Dst}
    {envFails : Bool} {handErr : Option Bytes}
    (henv : envFails = false → (d.fails = false ∨ handErr = none) ∧ validDelim w.comma = true) :
    specCore .bytes envFails w ev skip (consumeBuffered w c reuse skip ev d handErr) = true := by
  have hk := @transfer_ok c.buffered false reuse w false skip ev
  have hcl := @transfer_clean c.buffered false reuse w skip ev
  unfold consumeBuffered
  generalize transfer c.buffered false reuse w false skip ev = p at hk hcl
  generalize hh : (if d.fails then handErr else none) = herr
  refine spec_delivery nofun (p.err.or herr) ?_ (fun h => ?_) fun h => ?_
  · cases hp : p.err <;> cases herr <;> simp [hp, idle_res, resOf, Out.fail]
  · obtain ⟨hp, rfl⟩ := Option.or_eq_none_iff.mp h
    simp only [hp]
    exact ⟨(hk hp).1, by simp [deliveredOk, (hk hp).2]⟩
  · have : herr = none := by
      rw [← hh]
      cases (henv h).1 with
      | inl hf => simp [hf]
      | inr hn => simp [hn]
    rw [this, Option.or_none]
    exact hcl (henv h).2

theorem visible_new (src : List Slice) : (Tab.mk (src.map Cell.new) src.length).visible = src.map Cell.new := by
  simp only [Tab.visible]
  exact List.take_of_length_le (by simp)

theorem consumeTable_spec {reuse : Bool} {w : WOpts} {skip : Nat} {ev : Events} {d : Dst} {envFails : Bool} :
    specCore .records envFails w ev skip (consumeTable Cfg.fixed reuse skip ev d true) = true := by
  have hc := container_pipe reuse skip ev
  have hcl : Cfg.fixed.clones = true := rfl
  refine spec_delivery nofun (pipeCSV true reuse .container skip ev).err ?_ (fun h => ?_) fun _ => hc.1
  · simp only [consumeTable, hcl]
    cases (pipeCSV true reuse .container skip ev).err <;> simp [idle_res, resOf, tabRun_fixed]
  · have ht := (pipeCSV_ok h).1
    obtain ⟨hcont, hsorted⟩ := hc.2 ht
    simp only [deliveredOk, consumeTable, hcl, h, tabRun_fixed, ↓reduceIte, visible_new, List.map_map,
      aliasPairs_sorted _ hsorted, Bool.and_eq_true, beq_iff_eq, Option.some.injEq, and_true]
    exact ⟨ht, hcont⟩

theorem caps_nonempty {caps : List Br} {b : Br} (hb : caps.contains b = true) : caps.isEmpty = false := by
  cases caps with
  | nil => simp at hb
  | cons a l => rfl

theorem consumeBody_spec (x : KIn) (hnil : x.dst.isNil = false) :
    specCore (dstKind x.dst) (dstEnvFails x.opts x.dst) (effW x.opts) x.evOpt x.opts.skip
      (consumeBody Cfg.fixed x) = true := by
  -- the kind, the failure script and the clause taken all hang on the same questions, in the same order
  simp only [consumeBody, Cfg.fixed, capCase, List.find?_cons, List.find?_nil, Br.isCap, dstEnvFails, dstKind, hnil,
    ↓reduceIte, Bool.true_and, Bool.false_and, Bool.false_eq_true]
  cases h1 : x.dst.caps.contains .csvPtr with
  | true => exact consumeStream_spec (by simp [caps_nonempty h1])
  | false =>
  cases h2 : x.dst.caps.contains .csvIface with
  | true => exact consumeCustom_spec (by simp)
  | false =>
  cases h3 : x.dst.caps.contains .io with
  | true => exact consumeStream_spec (by simp [caps_nonempty h3])
  | false =>
  cases h4 : x.dst.caps.contains .xfer with
  | true => exact consumeBuffered_spec (by simp [caps_nonempty h4])
  | false =>
  cases h5 : x.dst.caps.contains .bin with
  | true => exact consumeBuffered_spec (by simp [caps_nonempty h5])
  | false =>
  simp only [Bool.or_self, Bool.false_eq_true, ↓reduceIte]
  cases x.dst.shape with
  | nonPtr | nilPtr | other | nrow | nstr => exact spec_unsupported (idle_res _ _)
  | bytes | str => exact consumeBuffered_spec (by simp)
  | tab | ntab => exact consumeTable_spec

theorem spec_err_env {w : WOpts} {skip : Nat} {ev : Events} {o : Out} {m : Bytes} {k : Kind}
    (h : o.res = .err m) : specCore k true w ev skip o = true := by
  cases k <;> cases ht : ev.term <;> simp [specCore, h, ht, Res.isPanic, Res.isErr]

theorem any_isCap (caps : List Br) :
    caps.any Br.isCap = (caps.contains .csvPtr || caps.contains .csvIface || caps.contains .io ||
      caps.contains .xfer || caps.contains .bin) := by
  rw [Bool.eq_iff_iff]
  simp only [List.any_eq_true, Bool.or_eq_true, List.contains_iff_mem]
  constructor
  · rintro ⟨b, hb, h⟩
    cases b <;> simp_all [Br.isCap]
  · rintro ((((h | h) | h) | h) | h) <;> exact ⟨_, h, rfl⟩

theorem produceBody_spec (x : PIn) (hnil : x.src.isNil = false) :
    specCore (if srcSupported x.src then .bytes else .unsupported) (srcEnvFails x) (effW x.opts)
      (srcEvents x) x.opts.skip (produceBody Cfg.fixed x) = true := by
  -- whether the source is supported, which parse it carries, the failure script and the clause taken
  -- all hang on the same questions, in the same order
  simp only [produceBody, Cfg.fixed, capCase, List.find?_cons, List.find?_nil, Br.isCap, srcSupported, srcEvents,
    srcIsTable, srcEnvFails, any_isCap, hnil, ↓reduceIte, Bool.not_false, Bool.true_and, Bool.not_true, Bool.false_and,
    Bool.false_eq_true]
  cases x.src.caps.contains .csvPtr with
  | true => exact produceStream_spec (by simp)
  | false =>
  cases x.src.caps.contains .csvIface with
  | true => exact produceStream_spec (by simp)
  | false =>
  cases x.src.caps.contains .io with
  | true => exact produceStream_spec (by simp)
  | false =>
  cases x.src.caps.contains .xfer with
  | true =>
    -- io.WriterTo: its own failure shows when the parse ended well
    cases x.src.fails with
    | false => exact produceStream_spec (by simp)
    | true =>
      simp only [↓reduceIte, Bool.not_false, Bool.and_self, Bool.true_or, Bool.or_true, Bool.true_and]
      cases ht : x.evOpt.term with
      | eof => exact spec_err_env (by rfl)
      | err e => exact produceStream_spec nofun
  | false =>
  cases x.src.caps.contains .bin with
  | true =>
    cases x.src.fails with
    | false => exact produceStream_spec (by simp)
    | true =>
      simp only [Bool.not_false, Bool.and_self, Bool.or_true]
      exact spec_err_env (by rfl)
  | false =>
  simp only [Bool.or_self, Bool.false_or, Bool.not_false, Bool.true_and]
  cases x.src.shape with
  | nilPtr | other | nonPtr | nrow | nstr => exact spec_unsupported rfl
  | bytes | str | tab | ntab => exact produceStream_spec (by simp)

theorem idle_err_eq {d : Dst} {m e : Bytes} (h : (d.idle (.err m)).res = .err e) :
    d.idle (.err m) = d.idle (.err e) := by
  rw [idle_res] at h
  cases h
  rfl

theorem consumeBuffered_error_idle {reuse : Bool} {w : WOpts} {skip : Nat} {ev : Events} {c : Case} {d : Dst}
    {e : Bytes} {hand : Option Bytes} :
    (consumeBuffered w c reuse skip ev d hand).res = .err e →
      consumeBuffered w c reuse skip ev d hand = d.idle (.err e) := by
  simp only [consumeBuffered]
  cases (transfer c.buffered false reuse w false skip ev).err with
  | some e' => exact idle_err_eq
  | none =>
    cases (if d.fails then hand else none) with
    | some e' => exact idle_err_eq
    | none => exact nofun

theorem consumeTable_error_idle {reuse : Bool} {skip : Nat} {ev : Events} {d : Dst} {e : Bytes} :
    (consumeTable Cfg.fixed reuse skip ev d true).res = .err e →
      consumeTable Cfg.fixed reuse skip ev d true = d.idle (.err e) := by
  have hcl : Cfg.fixed.clones = true := rfl
  simp only [consumeTable, hcl]
  split
  · exact idle_err_eq
  · simp [tabRun_fixed]

theorem consumeBody_error_idle (x : KIn) (e : Bytes)
    (h1 : x.dst.caps.contains .csvPtr = false) (h2 : x.dst.caps.contains .csvIface = false)
    (h3 : x.dst.caps.contains .io = false) (herr : (consumeBody Cfg.fixed x).res = .err e) :
    consumeBody Cfg.fixed x = x.dst.idle (.err e) := by
  revert herr
  simp only [consumeBody, Cfg.fixed, capCase, List.find?_cons, List.find?_nil, Br.isCap, h1, h2, h3, ↓reduceIte,
    Bool.true_and, Bool.false_and, Bool.false_eq_true]
  cases x.dst.caps.contains .xfer with
  | true => exact consumeBuffered_error_idle
  | false =>
  cases x.dst.caps.contains .bin with
  | true => exact consumeBuffered_error_idle
  | false =>
  cases x.dst.shape with
  | nonPtr | nilPtr | other | nrow | nstr => exact idle_err_eq
  | bytes | str => exact consumeBuffered_error_idle
  | tab | ntab => exact consumeTable_error_idle

end RtVerif.C16
