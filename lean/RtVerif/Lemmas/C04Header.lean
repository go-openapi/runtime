import RtVerif.Model.C04
import RtVerif.Lemmas.C04
import RtVerif.Lemmas.C04Server
import RtVerif.Lemmas.C14
namespace RtVerif.C04
open RtVerif Bytes

theorem canonGo_idem (up : Bool) (s : Bytes) : C14.canonGo up (C14.canonGo up s) = C14.canonGo up s := by
  induction s generalizing up with
  | nil => rfl
  | cons c r ih =>
    cases up with
    | true =>
      simp only [C14.canonGo, ↓reduceIte, toUpperB_idem, toUpperB_beq dash_not_letter]
      exact congrArg _ (ih _)
    | false =>
      simp only [C14.canonGo, Bool.false_eq_true, ↓reduceIte, toLowerB_idem, toLowerB_beq dash_not_letter]
      exact congrArg _ (ih _)

theorem canonGo_token (up : Bool) (s : Bytes) :
    (C14.canonGo up s).all C14.isTokenByte = s.all C14.isTokenByte := by
  induction s generalizing up with
  | nil => rfl
  | cons c r ih =>
    cases up with
    | true => simp only [C14.canonGo, ↓reduceIte, List.all_cons, toUpperB_class C14.isToken_letter, ih]
    | false => simp only [C14.canonGo, Bool.false_eq_true, ↓reduceIte, List.all_cons, toLowerB_class C14.isToken_letter, ih]

theorem nodup_of_nodupB {l : List Bytes} (h : nodupB l = true) : l.Nodup := by
  induction l with
  | nil => exact List.nodup_nil
  | cons x xs ih =>
    simp only [nodupB, Bool.and_eq_true, Bool.not_eq_eq_eq_not, Bool.not_true] at h
    rw [List.nodup_cons]
    refine ⟨?_, ih h.2⟩
    intro hm
    have : xs.contains x = true := by simpa using hm
    rw [this] at h; cases h.1

theorem segsWF_of_bool {segs : List Seg} (h : segsOk true segs = true) :
    SegsWF segs ∧ (phNames segs).Nodup := by
  simp only [segsOk, Bool.and_eq_true, List.all_eq_true] at h
  exact ⟨h.1, nodup_of_nodupB h.2⟩

theorem collect_own (segs : List Seg) (params : List (Bytes × Bytes)) (hw : SegsWF segs)
    (hv : ValuesOk segs params) :
    C01.collectParams (renderSegs Seg.text segs) (phNames segs) (escVals params segs) =
      some (expected segs params) := by
  by_cases hs : segs = []
  · subst hs; rfl
  · simp only [renderSegs_eq, hs, ↓reduceIte]
    exact collectParams_simple segs hw params hv (phNames segs) fun _ h => h

end RtVerif.C04
