import RtVerif.Lemmas.C04
import RtVerif.Lemmas.C05
import RtVerif.Lemmas.C01Composite
/-
  C04, the server side of the path round trip on a simple template: `pathConverter` turns the template
  into the router's key segment by segment, the naive matcher reads the built path against that key
  and returns exactly the escaped values, and `defaultRouter.Lookup` unescapes each of them and splits
  none as a composite segment, because `{n}` is always followed by `/` or the end.
-/
namespace RtVerif.C04
open RtVerif Bytes

theorem convert_placeholder (n X : Bytes) (hne : n ≠ []) (hn : ∀ c ∈ n, c ≠ 125 ∧ c ≠ 10)
    (hX : X = [] ∨ ∃ r, X = 47 :: r) :
    C01.convert (C10.placeholder n ++ X) = 58 :: n ++ C01.convert X := by
  have h := C01.convert_ph n X (fun hm => (hn _ hm).1 rfl) (fun hm => (hn _ hm).2 rfl) hne
  rcases hX with rfl | ⟨r, rfl⟩ <;> simpa [C10.placeholder, C10.lbrace, C10.rbrace, C01.lbrace, C01.rbrace, C01.colon, C01.slash] using h

theorem lit_spec {segs : List Seg} (hw : SegsWF segs) {b : Bytes} (hb : Seg.lit b ∈ segs) :
    ∀ c ∈ b, c ≠ 123 ∧ c ≠ 35 ∧ c ≠ 58 ∧ c ≠ 42 := by
  intro c hc
  have := litByteSafe_spec c (litOk_all (hw.lit hb) c hc)
  exact ⟨this.2.1, this.2.2.2.2.2.1, this.2.2.2.1, this.2.2.2.2.1⟩

theorem convert_flat (segs : List Seg) (hw : SegsWF segs) :
    C01.convert (flat Seg.text segs) = flat Seg.key segs := by
  induction segs with
  | nil => exact C01.convert_nil
  | cons s r ih =>
    rw [flat_cons, flat_cons, C01.convert_cons_ne 47 _ (by decide)]
    cases s with
    | lit b =>
      simp only [Seg.text, Seg.key]
      rw [C01.convert_append_plain b _ fun hm => (lit_spec hw List.mem_cons_self _ hm).1 rfl, ih hw.tail]
    | ph n =>
      obtain ⟨hne, hall⟩ := nameOk_all (hw.ph List.mem_cons_self)
      simp only [Seg.text, Seg.key]
      rw [convert_placeholder n _ hne (fun c hc => ⟨(hall c hc).2.2.1, (hall c hc).2.2.2.2.1⟩)
        (flat_head Seg.text r), ih hw.tail]
      rfl

theorem convert_renderSegs (segs : List Seg) (hw : SegsWF segs) :
    C01.convert (renderSegs Seg.text segs) = renderSegs Seg.key segs := by
  rw [renderSegs_eq, renderSegs_eq]
  split
  · rw [C01.convert]
  · exact convert_flat segs hw

theorem cTerm_eq : C05.cTerm = 35 := rfl
theorem cParam_eq : C05.cParam = 58 := rfl
theorem cWild_eq : C05.cWild = 42 := rfl
theorem cSep_eq : C05.cSep = 47 := rfl

theorem lit_litKind {segs : List Seg} (hw : SegsWF segs) {b : Bytes} (hb : Seg.lit b ∈ segs) :
    ∀ c ∈ b, C01.litKind c := by
  intro c hc
  obtain ⟨_, h35, h58, h42⟩ := lit_spec hw hb c hc
  simp [C01.litKind, cTerm_eq, cParam_eq, cWild_eq, h35, h58, h42]

theorem matchKey_lit_prefix (s : Bool) (b K P : Bytes) (hb : ∀ c ∈ b, C01.litKind c) :
    C05.matchKey s (b ++ K) (b ++ P) = C05.matchKey s K P := by
  induction b with
  | nil => rfl
  | cons c b' ih =>
    obtain ⟨h1, h2, h3⟩ := hb c List.mem_cons_self
    rw [List.cons_append, List.cons_append, C05.matchKey_lit_cons s c c _ _ h1 h2 h3]
    simpa using ih fun x hx => hb x (List.mem_cons_of_mem _ hx)

def escVals (params : List (Bytes × Bytes)) (segs : List Seg) : List Bytes :=
  (phNames segs).map fun n => Seg.sub params (.ph n)

/-- the key continuation after a segment: more segments (starting with `/`) or the terminator -/
theorem keyTail_stop (r : List Seg) : ∀ x ∈ (flat Seg.key r ++ [C05.cTerm]).head?, C05.notKeySep x = false := by
  rcases flat_head Seg.key r with h | ⟨t, h⟩ <;> rw [h]
  · simpa using (by decide : C05.notKeySep C05.cTerm = false)
  · simpa using (by decide : C05.notKeySep 47 = false)

theorem pathTail_stop (f : Seg → Bytes) (r : List Seg) : ∀ x ∈ (flat f r).head?, C05.notPathSep x = false := by
  rcases flat_head f r with h | ⟨t, h⟩ <;> rw [h]
  · simp
  · simpa using (by decide : C05.notPathSep 47 = false)

theorem name_notKeySep {n : Bytes} (hn : nameOk n = true) : n.all C05.notKeySep = true := by
  refine List.all_eq_true.mpr fun x hx => ?_
  have := (nameOk_all hn).2 x hx
  simp [C05.notKeySep, cSep_eq, cTerm_eq, this.1, this.2.2.2.1]

/-- the built path instantiates the key of its own template with exactly the escaped values — also
under the strict matcher (every value is non-empty) -/
theorem matchKey_built (s : Bool) (params : List (Bytes × Bytes)) (segs : List Seg) (hw : SegsWF segs)
    (hv : ValuesOk segs params) :
    C05.matchKey s (flat Seg.key segs ++ [C05.cTerm]) (flat (Seg.sub params) segs) =
      some (escVals params segs) := by
  induction segs with
  | nil => rw [flat_nil, List.nil_append, C05.matchKey_term]; rfl
  | cons sg r ih =>
    have ih := ih hw.tail hv.tail
    rw [flat_cons, flat_cons, List.cons_append,
      C05.matchKey_lit_cons s 47 47 _ _ (by decide) (by decide) (by decide)]
    simp only [beq_self_eq_true, ↓reduceIte]
    cases sg with
    | lit b =>
      simp only [Seg.key, Seg.sub, List.append_assoc]
      rw [matchKey_lit_prefix s b _ _ (lit_litKind hw List.mem_cons_self)]
      exact ih
    | ph n =>
      obtain ⟨v, _, hvok, hsub⟩ := sub_ph hv (List.mem_cons_self : Seg.ph n ∈ Seg.ph n :: r)
      have hnorm := normal_escaped hvok
      have hne : (Seg.sub params (Seg.ph n) ++ flat (Seg.sub params) r).isEmpty = false := by
        simp [hsub, hnorm.1]
      have hp : (Seg.sub params (Seg.ph n)).all C05.notPathSep = true := by
        refine List.all_eq_true.mpr fun x hx => ?_
        rw [hsub] at hx
        simpa [C05.notPathSep, cSep_eq] using (GoURL.pathEscape_no_special v x hx).1
      simp only [Seg.key, List.cons_append, List.append_assoc]
      rw [show C01.colon = C05.cParam from rfl, C05.matchKey_param]
      simp only [hne, Bool.and_false, Bool.false_eq_true, ↓reduceIte]
      rw [(C01.span_append _ n _ (name_notKeySep (hw.ph List.mem_cons_self)) (keyTail_stop r)).2,
        (C01.span_append _ _ _ hp (pathTail_stop _ r)).2, (C01.span_append _ _ _ hp (pathTail_stop _ r)).1, ih]
      rfl

theorem namesOf_key (segs : List Seg) (hw : SegsWF segs) :
    C05.namesOf (flat Seg.key segs ++ [C05.cTerm]) = phNames segs := by
  induction segs with
  | nil =>
    rw [flat_nil, List.nil_append, C05.namesOf_lit _ _ (by decide) (by decide), C05.namesOf_nil]
    rfl
  | cons sg r ih =>
    rw [flat_cons, List.cons_append, C05.namesOf_lit 47 _ (by decide) (by decide)]
    cases sg with
    | lit b =>
      simp only [Seg.key, phNames, List.append_assoc]
      rw [C01.namesOf_lit_append b _ (lit_litKind hw List.mem_cons_self), ih hw.tail]
    | ph n =>
      have hk := name_notKeySep (hw.ph List.mem_cons_self)
      simp only [Seg.key, phNames, List.cons_append, List.append_assoc]
      rw [show C01.colon = C05.cParam from rfl, C05.namesOf_param,
        (C01.span_append _ n _ hk (keyTail_stop r)).1, (C01.span_append _ n _ hk (keyTail_stop r)).2, ih hw.tail]

theorem escVals_nonempty {segs : List Seg} {params : List (Bytes × Bytes)} (hv : ValuesOk segs params) :
    ∀ x ∈ escVals params segs, x ≠ [] := by
  intro x hx
  obtain ⟨n, hn, rfl⟩ := List.mem_map.mp hx
  obtain ⟨v, _, hvok, hsub⟩ := sub_ph hv (mem_phNames.mp hn)
  exact hsub ▸ (normal_escaped hvok).1

theorem isInfix_append (pat a b : Bytes) (hne : pat ≠ []) : C05.isInfix pat (a ++ (pat ++ b)) = true := by
  induction a with
  | nil =>
    obtain ⟨c, t, rfl⟩ := List.exists_cons_of_ne_nil hne
    have := C10.isPrefixOf_self_append (c :: t) b
    simp only [List.nil_append, List.cons_append] at this ⊢
    simp [C05.isInfix, this]
  | cons c a' ih => simp [C05.isInfix, ih]

theorem isParamKey_of_ph (segs : List Seg) (h : phNames segs ≠ []) : C05.isParamKey (flat Seg.key segs) = true := by
  obtain ⟨n, hn⟩ := List.exists_mem_of_ne_nil _ h
  obtain ⟨pre, post, rfl⟩ := List.append_of_mem (mem_phNames.mp hn)
  have : flat Seg.key (pre ++ .ph n :: post) = flat Seg.key pre ++ (C05.slashColon ++ (n ++ flat Seg.key post)) := by
    simp [flat_append, flat_cons, Seg.key, C05.slashColon, cSep_eq, cParam_eq, C01.colon]
  simp [C05.isParamKey, this, isInfix_append _ _ _ (by decide : C05.slashColon ≠ [])]

theorem flat_sub_of_static (params : List (Bytes × Bytes)) (segs : List Seg) (h : phNames segs = []) :
    flat (Seg.sub params) segs = flat Seg.key segs := by
  induction segs with
  | nil => rfl
  | cons s r ih =>
    cases s with
    | lit b => rw [flat_cons, flat_cons, ih (by simpa [phNames] using h)]; rfl
    | ph n => simp [phNames] at h

theorem split_after_free {c : UInt8} {b X A Y : Bytes} (hc : c ∉ b) (h : b ++ X = A ++ c :: Y) :
    ∃ A', A = b ++ A' ∧ X = A' ++ c :: Y := by
  induction b generalizing A with
  | nil => exact ⟨A, rfl, h⟩
  | cons x b ih =>
    cases A with
    | nil => exact absurd (List.cons.inj h).1 fun e => hc (e ▸ List.mem_cons_self)
    | cons a A =>
      obtain ⟨rfl, h2⟩ := List.cons.inj h
      obtain ⟨A', rfl, hX⟩ := ih (fun hm => hc (List.mem_cons_of_mem _ hm)) h2
      exact ⟨A', rfl, hX⟩

/-- in a simple template `{n}` occurs only as a whole segment: a `/` or the end follows -/
theorem after_placeholder (segs : List Seg) (hw : SegsWF segs) (n : Bytes) (hn : nameOk n = true) (A B : Bytes)
    (h : flat Seg.text segs = A ++ C10.placeholder n ++ B) : B = [] ∨ ∃ r, B = 47 :: r := by
  induction segs generalizing A with
  | nil => simp [flat_nil, C10.placeholder] at h
  | cons s r ih =>
    rw [flat_cons, List.append_assoc,
      show C10.placeholder n ++ B = C10.lbrace :: (n ++ C10.rbrace :: B) by simp [C10.placeholder]] at h
    cases A with
    | nil => exact absurd (List.cons.inj h).1 (by decide)
    | cons a A =>
      have h := (List.cons.inj h).2
      have hback : ∀ A', flat Seg.text r = A' ++ C10.lbrace :: (n ++ C10.rbrace :: B) → B = [] ∨ ∃ r, B = 47 :: r :=
        fun A' h' => ih hw.tail A' (by simpa [C10.placeholder] using h')
      cases s with
      | lit b =>
        obtain ⟨A', _, h'⟩ := split_after_free (fun hm => (lit_spec hw List.mem_cons_self _ hm).1 rfl) h
        exact hback A' h'
      | ph m =>
        have hm := C10.not_mem_of_braceFree (braceFree_name (hw.ph List.mem_cons_self))
        simp only [Seg.text, C10.placeholder, List.cons_append, List.append_assoc] at h
        cases A with
        | nil =>
          -- the occurrence is this segment: both names end at the first `}`
          have h := congrArg (GoQuery.cut C10.rbrace) (List.cons.inj h).2
          rw [GoQuery.cut_append _ _ _ hm.2,
            GoQuery.cut_append _ _ _ (C10.not_mem_of_braceFree (braceFree_name hn)).2] at h
          exact (Prod.mk.inj h).2 ▸ flat_head Seg.text r
        | cons a' A =>
          have hfree : C10.lbrace ∉ m ++ [C10.rbrace] := by
            simpa [hm.1] using (by decide : C10.lbrace ≠ C10.rbrace)
          obtain ⟨A', _, h'⟩ := split_after_free (X := flat Seg.text r) hfree (by simpa using (List.cons.inj h).2)
          exact hback A' h'

/-- `paramsOf` on a simple template: the unescaped captured text, used directly -/
theorem paramsOf_simple (segs : List Seg) (hw : SegsWF segs) (n v : Bytes) (hn : nameOk n = true) :
    C01.paramsOf (flat Seg.text segs) n (GoURL.pathEscape v) = some [(n, v)] := by
  have hun : C01.decode (GoURL.pathEscape v) = v := by
    simp [C01.decode, GoURL.pathUnescape, GoURL.pathEscape, GoURL.unescape_escape]
  unfold C01.paramsOf
  simp only [hun]
  cases hi : C01.indexOf (C01.lbrace :: n ++ [C01.rbrace]) (flat Seg.text segs) with
  | none => rfl
  | some idx =>
    have hAB := C01.indexOf_sound _ _ _ hi
    have hidx : idx = ((flat Seg.text segs).take idx).length := by
      have := congrArg List.length hAB
      simp only [List.length_append, List.length_take, List.length_drop, List.length_cons, List.length_nil] at this ⊢
      omega
    generalize (flat Seg.text segs).take idx = A at hAB hidx
    generalize (flat Seg.text segs).drop _ = B at hAB
    have hB := after_placeholder segs hw n hn A B hAB
    have hx : idx + n.length + 2 = (A ++ (C01.lbrace :: n ++ [C01.rbrace])).length := by
      simp only [hidx, List.length_append, List.length_cons, List.length_nil]; omega
    have hcond : (idx + n.length + 2 < (flat Seg.text segs).length &&
        (flat Seg.text segs)[idx + n.length + 2]? != some C01.slash) = false := by
      rw [hAB, hx, List.getElem?_append_right (Nat.le_refl _), Nat.sub_self]
      rcases hB with rfl | ⟨r, rfl⟩ <;> simp [C01.slash]
    simp only [hcond, Bool.false_eq_true, ↓reduceIte]

/-- the values the handler's binder receives from the router -/
def plainVals (params : List (Bytes × Bytes)) (names : List Bytes) : List (Bytes × Bytes) :=
  names.map fun n => (n, (C10.lookupParam params n).getD [])

theorem collectParams_simple (segs : List Seg) (hw : SegsWF segs)
    (params : List (Bytes × Bytes)) (hv : ValuesOk segs params) (names : List Bytes)
    (hsub : ∀ n ∈ names, n ∈ phNames segs) :
    C01.collectParams (flat Seg.text segs) names (names.map fun n => Seg.sub params (.ph n)) =
      some (plainVals params names) := by
  induction names with
  | nil => simp [C01.collectParams, plainVals]
  | cons n ns ih =>
    have hn := mem_phNames.mp (hsub n List.mem_cons_self)
    obtain ⟨v, hlk, _, hs⟩ := sub_ph hv hn
    simp only [List.map_cons, C01.collectParams, hs]
    rw [paramsOf_simple segs hw n v (hw.ph hn), ih fun x hx => hsub x (List.mem_cons_of_mem _ hx)]
    simp [plainVals, hlk]

end RtVerif.C04
