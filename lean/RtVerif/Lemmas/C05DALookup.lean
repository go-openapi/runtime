import RtVerif.Lemmas.C05DA
/-  C05DA: `lookup` on an array that represents a trie node answers as the DFS `C05.look`. -/
namespace RtVerif.C05DA
open RtVerif Bytes
open RtVerif.C05 (Rec cParam cWild cTerm isReserved notPathSep advLit advSingle advWild leafOf hasSingle
  weight look first Found)

/-- the answer of the trie model, as `lookup` reports it -/
def ofLook : Option Found → LRes
  | some f => .found (some ⟨f.r.names, f.r.val⟩) f.vals
  | none => .miss

def orElse (a : Option Found) (b : LRes) : LRes :=
  match a with
  | some f => ofLook (some f)
  | none => b

/-- what `C05.look` tries at a node once the literal edge has failed: parameter, then wildcard -/
def alt (rs : List Rec) (p : Bytes) (vals : List Bytes) : Option Found :=
  first (if _h : hasSingle rs = true then
      look (advSingle rs) (p.dropWhile notPathSep) (vals ++ [p.takeWhile notPathSep]) else none) fun _ =>
    (leafOf (advWild rs)).map fun r => ⟨r, vals ++ [p]⟩

theorem look_cons (rs : List Rec) (c : UInt8) (rest : Bytes) (vals : List Bytes) :
    look rs (c :: rest) vals =
      first (if isReserved c then none else look (advLit c rs) rest vals) (fun _ => alt rs (c :: rest) vals) := by
  rw [C05.look.eq_2]; rfl

/-- `rec` (the recursive `lookup`) answers as the trie model from every node lighter than `n` -/
def RecOK (bc : BC) (node : Array (Option Node)) (rec : Bytes → List Bytes → Nat → LRes) (n : Nat) : Prop :=
  ∀ rs idx p vals, Repr bc node idx rs → TermAll rs → weight rs < n → rec p vals idx = ofLook (look rs p vals)

/-- BACKTRACKING at one recorded element is what the DFS tries after the literal edge. -/
theorem backtrack_cons {bc : BC} {node : Array (Option Node)} {rec : Bytes → List Bytes → Nat → LRes}
    {n : Nat} (hrec : RecOK bc node rec n) {idx : Nat} {rs : List Rec} (hR : Repr bc node idx rs)
    (hT : TermAll rs) (hw : weight rs ≤ n) (path : Bytes) (vals : List Bytes) (i : Nat)
    (more : List (Nat × Nat)) :
    backtrack rec bc node path vals ((i, idx) :: more) =
      orElse (alt rs (path.drop i) vals) (backtrack rec bc node path vals more) := by
  obtain ⟨hsingle, hwild, _, hyes⟩ := hR.inner_inv hT
  have hwildOr : wildOr bc node path vals i idx (fun _ => backtrack rec bc node path vals more) =
      orElse ((leafOf (advWild rs)).map fun r => ⟨r, vals ++ [path.drop i]⟩)
        (backtrack rec bc node path vals more) := by
    unfold wildOr
    rw [hwild]
    cases hx : advWild rs with
    | nil => simp [leafOf, orElse]
    | cons x xs =>
      obtain ⟨_, hlt, hr⟩ := hyes cWild (by decide) (by rw [childOf_wild, hx]; simp)
      rw [childOf_wild] at hr
      obtain ⟨r, hl, hn⟩ := hr.leaf_inv (advWild_keys rs)
      simp only [List.isEmpty_cons, Bool.not_false, ↓reduceIte]
      unfold wildStep
      rw [if_pos hlt, hn, ← hx, hl]
      rfl
  rw [backtrack]
  unfold singleOr alt
  rw [hsingle]
  cases hs : hasSingle rs with
  | false =>
    simp only [Bool.false_eq_true, ↓reduceIte, ↓reduceDIte, first]
    exact hwildOr
  | true =>
    obtain ⟨_, hlt, hr⟩ := hyes cParam (by decide) (by rw [childOf_param]; exact hasSingle_advSingle_ne_nil hs)
    rw [childOf_param] at hr
    have := hrec (advSingle rs) _ ((path.drop i).dropWhile notPathSep)
      (vals ++ [(path.drop i).takeWhile notPathSep]) hr (termAll_advSingle hT)
      (Nat.lt_of_lt_of_le (C05.weight_advSingle_lt hs) hw)
    simp only [↓reduceIte, ↓reduceDIte, ge_iff_le, Nat.not_le.mpr hlt, this]
    cases hlook : look (advSingle rs) ((path.drop i).dropWhile notPathSep)
        (vals ++ [(path.drop i).takeWhile notPathSep]) with
    | some f => simp [ofLook, first, orElse]
    | none =>
      simp only [ofLook, first]
      exact hwildOr

theorem alt_none_of_flags {bc : BC} {node : Array (Option Node)} {idx : Nat} {rs : List Rec}
    (hR : Repr bc node idx rs) (hT : TermAll rs) (hf : (el bc idx).isAnyParam = false)
    (p : Bytes) (vals : List Bytes) : alt rs p vals = none := by
  obtain ⟨hsingle, hwild, _, _⟩ := hR.inner_inv hT
  rw [Elem.isAnyParam, Bool.or_eq_false_iff, hsingle, hwild] at hf
  have h2 : advWild rs = [] := by
    cases hx : advWild rs with
    | nil => rfl
    | cons x xs => rw [hx] at hf; cases hf.2
  simp [alt, hf.1, first, h2, leafOf]

/-- The literal walk followed by the termination test / BACKTRACKING computes the DFS. -/
theorem walk_spec {bc : BC} {node : Array (Option Node)} {rec : Bytes → List Bytes → Nat → LRes}
    {n : Nat} (hrec : RecOK bc node rec n) (path : Bytes) (vals : List Bytes) (suffix : Bytes) :
    ∀ (i idx : Nat) (rs : List Rec) (ind0 : List (Nat × Nat)), Repr bc node idx rs → TermAll rs →
      weight rs ≤ n → path.drop i = suffix →
      finish rec bc node path vals (walk bc suffix i idx ind0) =
        orElse (look rs suffix vals) (backtrack rec bc node path vals ind0) := by
  induction suffix with
  | nil =>
    intro i idx rs ind0 hR hT hw hp
    rw [walk, C05.look.eq_1]
    unfold finish termStep
    have hlt := hR.lt_size
    obtain ⟨_, _, hno, hyes⟩ := hR.inner_inv hT
    have ht0 : cTerm ≠ 0 := by decide
    have hch : childOf cTerm rs = advLit cTerm rs := childOf_lit rs (by decide) (by decide)
    cases hx : advLit cTerm rs with
    | nil =>
      have := hno cTerm ht0 (by rw [hch, hx])
      simp only [hlt, ↓reduceIte, Bool.and_eq_true, decide_eq_true_eq, beq_iff_eq, this, and_false,
        leafOf, List.filter_nil, List.getLast?_nil, Option.map_none, orElse]
    | cons x xs =>
      obtain ⟨hc, hlt', hr⟩ := hyes cTerm ht0 (by rw [hch, hx]; simp)
      rw [hch] at hr
      obtain ⟨r, hl, hn⟩ := hr.leaf_inv (advLit_term_keys hT)
      rw [← hx, hl]
      simp only [hlt, ↓reduceIte, hlt', decide_true, hc, beq_self_eq_true,
        Bool.and_self, hn, Option.map_some, orElse, ofLook]
  | cons c rest ih =>
    intro i idx rs ind0 hR hT hw hp
    have hlt := hR.lt_size
    rw [walk, if_pos hlt, look_cons]
    -- what the walk leaves on the stack for this element, and what BACKTRACKING does with it
    have hbt : backtrack rec bc node path vals
          (if (el bc idx).isAnyParam = true then (i, idx) :: ind0 else ind0) =
        orElse (alt rs (c :: rest) vals) (backtrack rec bc node path vals ind0) := by
      split
      · rw [backtrack_cons hrec hR hT hw, hp]
      · rename_i hf
        rw [alt_none_of_flags hR hT (by simpa using hf)]; rfl
    by_cases hres : isReserved c = true
    · simp only [hres, ↓reduceIte, first, finish]
      exact hbt
    · simp only [hres, Bool.false_eq_true, ↓reduceIte]
      have hres' : isReserved c = false := by simpa using hres
      unfold isReserved at hres'
      simp only [Bool.or_eq_false_iff, beq_eq_false_iff_ne, ne_eq] at hres'
      obtain ⟨⟨⟨hcp, hcw⟩, hct⟩, hc0⟩ := hres'
      have hch : childOf c rs = advLit c rs := childOf_lit rs hcp hcw
      obtain ⟨_, _, hno, hyes⟩ := hR.inner_inv hT
      cases hx : advLit c rs with
      | nil =>
        have hnc := hno c hc0 (by rw [hch, hx])
        rw [look_nil]
        simp only [first]
        by_cases hge : nextIndex (el bc idx).base c ≥ bc.size
        · simp only [hge, ↓reduceIte, finish]; exact hbt
        · simp only [hge, ↓reduceIte, bne_iff_ne, ne_eq, hnc, not_false_eq_true, finish]; exact hbt
      | cons x xs =>
        obtain ⟨hc, hlt', hr⟩ := hyes c hc0 (by rw [hch, hx]; simp)
        rw [hch] at hr
        have hp' : path.drop (i + 1) = rest := by
          rw [← List.drop_drop, hp]; rfl
        have := ih (i + 1) _ (advLit c rs)
          (if (el bc idx).isAnyParam = true then (i, idx) :: ind0 else ind0) hr
          (termAll_advLit hT hct)
          (Nat.le_of_lt (Nat.lt_of_lt_of_le (hch ▸ weight_childOf_lt hc0 (by rw [hch, hx]; simp)) hw)) hp'
        simp only [ge_iff_le, Nat.not_le.mpr hlt', ↓reduceIte, bne_iff_ne, ne_eq, hc,
          not_true_eq_false]
        rw [this, ← hx]
        cases hlook : look (advLit c rs) rest vals with
        | some f => simp [first, orElse]
        | none => simp only [first, orElse]; exact hbt

/-- **Refinement of `lookup`.** On arrays that represent the trie node `rs` at `idx`, the recursive
`doubleArray.lookup` with fuel beyond the weight of the node returns what the DFS returns: the same
leaf (names, value) with the same parameter texts, or the same miss; it neither panics nor runs out
of fuel. -/
theorem lookupF_spec (bc : BC) (node : Array (Option Node)) :
    ∀ (fuel : Nat) (rs : List Rec) (idx : Nat) (path : Bytes) (vals : List Bytes),
      Repr bc node idx rs → TermAll rs → weight rs < fuel →
      lookupF bc node fuel path vals idx = ofLook (look rs path vals) := by
  intro fuel
  induction fuel with
  | zero => intro rs idx path vals _ _ hw; omega
  | succ f ih =>
    intro rs idx path vals hR hT hw
    rw [lookupF]
    have hrec : RecOK bc node (lookupF bc node f) f := fun rs idx p vals hR hT hw => ih rs idx p vals hR hT hw
    rw [walk_spec hrec path vals path 0 idx rs [] hR hT (by omega) rfl]
    cases look rs path vals <;> rfl

end RtVerif.C05DA
