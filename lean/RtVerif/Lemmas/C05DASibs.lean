import RtVerif.Lemmas.C05DA
/-  C05DA: `makeSiblings` on a sorted record list yields exactly the groups by first key byte. -/
namespace RtVerif.C05DA
open RtVerif Bytes
open RtVerif.C05 (Rec leafOf)

theorem slice_run (pre0 run rest : List Rec) (c : UInt8) :
    slice (pre0 ++ run ++ rest) ⟨pre0.length, pre0.length + run.length, c⟩ = run := by
  simp [slice]

theorem filter_run {pre0 run rest : List Rec} {c : UInt8} (h0 : ∀ r ∈ pre0, headOf r ≠ c)
    (h1 : ∀ r ∈ run, headOf r = c) (h2 : ∀ r ∈ rest, headOf r ≠ c) :
    (pre0 ++ run ++ rest).filter (headIs c) = run := by
  rw [List.filter_append, List.filter_append,
    List.filter_eq_nil_iff.mpr fun r hr => by simp [headIs, h0 r hr],
    List.filter_eq_self.mpr fun r hr => by simp [headIs, h1 r hr],
    List.filter_eq_nil_iff.mpr fun r hr => by simp [headIs, h2 r hr]]
  simp

/-- what `makeSiblings` must deliver for the list `L`, the siblings `sibs` covering its part `tl` -/
structure SibsOK (L tl : List Rec) (pc : UInt8) (sibs : List Sib) : Prop where
  slices : ∀ s ∈ sibs, slice L s = L.filter (headIs s.c)
  lower : ∀ s ∈ sibs, pc ≤ s.c
  chars : ∀ c, c ∈ sibs.map (·.c) ↔ ∃ r ∈ tl, headOf r = c
  sorted : (sibs.map (·.c)).Pairwise (· < ·)

/-- The loop of `makeSiblings`, started in the middle: `pre0` has been cut into the siblings `done`,
`run` (not empty) is the part seen so far of the sibling `pc` that is still open, `rs` is to come. -/
theorem mkSibsLoop_spec : ∀ (rs pre0 run : List Rec) (done : List Sib) (pc : UInt8) (leaf : Option Rec),
    run ≠ [] → (∀ r ∈ run, headOf r = pc) → (∀ r ∈ pre0, headOf r < pc) →
    (∀ r ∈ rs, r.key ≠ [] ∧ pc ≤ headOf r) → rs.Pairwise (fun a b => headOf a ≤ headOf b) →
    ∃ sibs, mkSibsLoop rs (pre0.length + run.length) pc (⟨pre0.length, 0, pc⟩ :: done) leaf =
        .ok (done.reverse ++ sibs, leaf) ∧ SibsOK (pre0 ++ run ++ rs) (run ++ rs) pc sibs := by
  intro rs
  induction rs with
  | nil =>
    intro pre0 run done pc leaf hne hrun hpre _ _
    obtain ⟨x, hx⟩ := List.exists_mem_of_ne_nil _ hne
    refine ⟨[⟨pre0.length, pre0.length + run.length, pc⟩], by simp [mkSibsLoop, closeLast], ?_, ?_, ?_, ?_⟩
    · intro s hs
      rw [List.mem_singleton.mp hs, slice_run,
        filter_run (fun r hr => UInt8.ne_of_lt (hpre r hr)) hrun (by simp)]
    · intro s hs
      rw [List.mem_singleton.mp hs]; exact UInt8.le_refl _
    · intro c
      simp only [List.map_cons, List.map_nil, List.mem_singleton, List.append_nil]
      exact ⟨fun h => ⟨x, hx, (hrun x hx).trans h.symm⟩, fun ⟨r, hr, h⟩ => by rw [← h, hrun r hr]⟩
    · simp
  | cons r rs' ih =>
    intro pre0 run done pc leaf hne hrun hpre hrs hsorted
    obtain ⟨x, hx⟩ := List.exists_mem_of_ne_nil _ hne
    have hr := hrs r List.mem_cons_self
    rw [List.pairwise_cons] at hsorted
    cases hk : r.key with
    | nil => exact absurd hk hr.1
    | cons c k =>
      have hc : headOf r = c := headOf_cons hk
      have hpc : pc ≤ c := hc ▸ hr.2
      rw [mkSibsLoop, hk]
      simp only
      have hrs' : ∀ x ∈ rs', x.key ≠ [] ∧ c ≤ headOf x := fun x hx =>
        ⟨(hrs x (List.mem_cons_of_mem _ hx)).1, hc ▸ hsorted.1 x hx⟩
      rcases UInt8.lt_or_eq_of_le hpc with hlt | rfl
      · -- a new sibling starts at r
        rw [if_pos hlt]
        have hpre' : ∀ x ∈ pre0 ++ run, headOf x < c := by
          intro x hx
          rcases List.mem_append.mp hx with hx | hx
          · exact UInt8.lt_trans (hpre x hx) hlt
          · exact hrun x hx ▸ hlt
        obtain ⟨sibs', heq, hok⟩ := ih (pre0 ++ run) [r]
          (⟨pre0.length, pre0.length + run.length, pc⟩ :: done) c leaf (by simp)
          (fun x hx => List.mem_singleton.mp hx ▸ hc) hpre' hrs' hsorted.2
        refine ⟨⟨pre0.length, pre0.length + run.length, pc⟩ :: sibs', ?_, ?_⟩
        · simp only [List.length_append, List.length_cons, List.length_nil, Nat.zero_add] at heq
          simp only [closeLast]
          rw [heq]
          simp
        · have hL : pre0 ++ run ++ [r] ++ rs' = pre0 ++ run ++ r :: rs' := by simp
          rw [hL, List.singleton_append] at hok
          refine ⟨fun s hs => ?_, fun s hs => ?_, fun c' => ?_, ?_⟩
          · rcases List.mem_cons.mp hs with rfl | hs
            · refine (slice_run _ _ _ _).trans (filter_run (fun x hx => UInt8.ne_of_lt (hpre x hx)) hrun
                fun x hx => ?_).symm
              -- what follows belongs to later siblings
              have : c ≤ headOf x := by
                rcases List.mem_cons.mp hx with rfl | hx'
                · exact hc ▸ UInt8.le_refl _
                · exact (hrs' x hx').2
              exact (UInt8.ne_of_lt (UInt8.lt_of_lt_of_le hlt this)).symm
            · exact hok.slices s hs
          · rcases List.mem_cons.mp hs with rfl | hs
            · exact UInt8.le_refl _
            · exact UInt8.le_trans hpc (hok.lower s hs)
          · rw [List.map_cons, List.mem_cons, hok.chars c']
            constructor
            · rintro (h | ⟨y, hy, hy'⟩)
              · exact ⟨x, List.mem_append_left _ hx, (hrun x hx).trans h.symm⟩
              · exact ⟨y, List.mem_append_right _ hy, hy'⟩
            · rintro ⟨y, hy, hy'⟩
              rcases List.mem_append.mp hy with hy | hy
              · exact Or.inl (by rw [← hy', hrun y hy])
              · exact Or.inr ⟨y, hy, hy'⟩
          · rw [List.map_cons, List.pairwise_cons]
            refine ⟨fun c' hc' => ?_, hok.sorted⟩
            obtain ⟨s, hs, rfl⟩ := List.mem_map.mp hc'
            exact UInt8.lt_of_lt_of_le hlt (hok.lower s hs)
      · -- the same sibling goes on
        rw [if_neg (UInt8.lt_irrefl _), if_pos (by simp)]
        obtain ⟨sibs, heq, hok⟩ := ih pre0 (run ++ [r]) done pc leaf (by simp)
          (fun x hx => by
            rcases List.mem_append.mp hx with hx | hx
            · exact hrun x hx
            · exact List.mem_singleton.mp hx ▸ hc) hpre hrs' hsorted.2
        refine ⟨sibs, ?_, ?_⟩
        · simpa only [List.length_append, List.length_cons, List.length_nil, Nat.zero_add,
            ← Nat.add_assoc] using heq
        · have hL : pre0 ++ (run ++ [r]) ++ rs' = pre0 ++ run ++ r :: rs' := by simp
          have hT : run ++ [r] ++ rs' = run ++ r :: rs' := by simp
          rwa [hL, hT] at hok

theorem heads_sorted {rs : List Rec} (h : rs.Pairwise C05.KeyLe) (hk : ∀ r ∈ rs, r.key ≠ []) :
    rs.Pairwise (fun a b => headOf a ≤ headOf b) := by
  refine h.imp_of_mem fun {x y} hx hy hle => ?_
  unfold C05.KeyLe at hle
  cases hxk : x.key with
  | nil => exact absurd hxk (hk x hx)
  | cons a as =>
    cases hyk : y.key with
    | nil => exact absurd hyk (hk y hy)
    | cons b bs =>
      rw [hxk, hyk, C05.bytesLe_cons] at hle
      rw [headOf_cons hxk, headOf_cons hyk]
      rcases hle with h | ⟨rfl, _⟩
      · exact UInt8.le_of_lt h
      · exact UInt8.le_refl _

/-- **`makeSiblings` on an inner node**: sorted records with non-empty keys whose first bytes are
not NUL. -/
theorem mkSiblings_inner {rs : List Rec} (hne : rs ≠ []) (hs : rs.Pairwise C05.KeyLe)
    (hk : ∀ r ∈ rs, r.key ≠ []) (h0 : ∀ r ∈ rs, headOf r ≠ 0) :
    ∃ sibs, mkSiblings rs = .ok (sibs, none) ∧ SibsOK rs rs 0 sibs := by
  have hh := heads_sorted hs hk
  cases rs with
  | nil => exact absurd rfl hne
  | cons r rs' =>
    rw [List.pairwise_cons] at hh
    cases hkr : r.key with
    | nil => exact absurd hkr (hk r List.mem_cons_self)
    | cons c k =>
      have hc : headOf r = c := headOf_cons hkr
      have hlt : (0 : UInt8) < c := UInt8.pos_iff_ne_zero.mpr (hc ▸ h0 r List.mem_cons_self)
      obtain ⟨sibs, heq, hok⟩ := mkSibsLoop_spec rs' [] [r] [] c none (by simp)
        (fun x hx => List.mem_singleton.mp hx ▸ hc) (by simp)
        (fun x hx => ⟨hk x (List.mem_cons_of_mem _ hx), hc ▸ hh.1 x hx⟩) hh.2
      refine ⟨sibs, ?_, hok.slices, fun s _ => UInt8.zero_le, hok.chars, hok.sorted⟩
      rw [mkSiblings, mkSibsLoop, hkr]
      simpa [hlt, closeLast] using heq

theorem mkSibsLoop_leaf : ∀ (rs : List Rec) (i : Nat) (pc : UInt8) (leaf : Option Rec),
    (∀ r ∈ rs, r.key = []) →
    mkSibsLoop rs i pc [] leaf = .ok ([], (rs.getLast?).or leaf) := by
  intro rs
  induction rs with
  | nil => intro i pc leaf _; simp [mkSibsLoop, closeLast]
  | cons r rs' ih =>
    intro i pc leaf hk
    rw [mkSibsLoop, hk r List.mem_cons_self]
    simp only
    rw [ih _ _ _ (fun x hx => hk x (List.mem_cons_of_mem _ hx))]
    cases rs' with
    | nil => simp
    | cons y ys =>
      rw [List.getLast?_cons_cons]
      cases h : (y :: ys).getLast? with
      | none => simp at h
      | some z => simp

theorem leafOf_of_keys_nil {rs : List Rec} (hk : ∀ r ∈ rs, r.key = []) : leafOf rs = rs.getLast? := by
  rw [leafOf, List.filter_eq_self.mpr fun r hr => by simp [hk r hr]]

/-- **`makeSiblings` on a leaf**: all keys used up — no siblings, the LAST record is kept. -/
theorem mkSiblings_leaf {rs : List Rec} (hk : ∀ r ∈ rs, r.key = []) :
    mkSiblings rs = .ok ([], leafOf rs) := by
  rw [mkSiblings, mkSibsLoop_leaf rs 0 0 none hk, leafOf_of_keys_nil hk]
  simp

theorem leafOf_none_of_keys {rs : List Rec} (hk : ∀ r ∈ rs, r.key ≠ []) : leafOf rs = none := by
  rw [leafOf, List.filter_eq_nil_iff.mpr fun r hr => by simp [hk r hr]]
  rfl

end RtVerif.C05DA
