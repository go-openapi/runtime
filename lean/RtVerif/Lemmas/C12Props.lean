import RtVerif.Lemmas.C12Live
import RtVerif.Lemmas.C12Faults
/-
  C12: what the statements of the property theorems speak of (a fresh body, a released call, executions),
  and how the invariants give the first two.
-/
namespace RtVerif.C12
open RtVerif

/-- a body nobody touched yet -/
def Under.Fresh (u : Under) : Prop := u.closes = 0 ∧ u.atEnd = false

instance (u : Under) : Decidable u.Fresh := by unfold Under.Fresh; infer_instance


theorem runD_close (u : Under) (ks : List Nat) (h : u.Fresh) :
    (runD u ks).2.closes = 1 ∧ (runD u ks).2.endAtClose = true ∧ (runD u ks).2.rest = [] := by
  have hd : DInv ({ u := u } : Drc) := ⟨by simp [h.2], by simp⟩
  have := dreads_inv ks { u := u } hd
  simp only [runD, runDP, fact_eof_only]
  exact close_spec _ this.1 (by rw [this.2]; exact h.1)


/-- what "returned, and everything released" means -/
structure Released (p : Plan) (s : St) : Prop where
  returned : s.ph = .returned
  no_goroutine : s.g.alive = false
  files_closed : p.files ≠ [] → s.fileCloses = 1
  stream_closed : p.streamSrc.isSome = true → s.streamCloses = 1
  body_closed : s.haveResp = true → s.bodyCloses = 1
  body_drained : s.haveResp = true → p.reuse = true → s.endAtClose = true
  ctx_released : s.entered = true → s.released = true
  pipe_not_open : s.pr ≠ .open

theorem Inv.at_return {p : Plan} {s : St} (hI : Inv p s) (hph : s.ph = .returned) :
    s.pr ≠ .open ∧ (p.streamSrc.isSome = true → s.streamCloses = 1) ∧
    (s.haveResp = true → s.bodyCloses = 1 ∧ (p.reuse = true → s.endAtClose = true)) ∧
    (s.entered = true → s.released = true) :=
  ⟨hI.retPipe (Or.inr hph), fun hs => by simpa [hph] using hI.stream hs, hI.bc1 hph, hI.rel hph⟩

theorem released_of_final {p : Plan} {s : St} (hwf : p.WF) (hr : Reach p s) (hph : s.ph = .returned)
    (hg : s.g.alive = false) : Released p s := by
  have hI := inv_reach hwf hr
  obtain ⟨hpr, hst, hbody, hrel⟩ := hI.at_return hph
  refine ⟨hph, hg, ?_, hst, fun hh => (hbody hh).1, fun hh => (hbody hh).2, hrel, hpr⟩
  intro hf
  have hsw := startsWriter_of_files hf
  cases hgs : s.g with
  | idle =>
    rcases hI.idleW hgs hsw with h | h
    · simp [pre, hph] at h
    · exact (hI.writerRes h).1
  | done => exact hI.filesDone (Or.inr hgs)
  | trailer => simp [G.alive, hgs] at hg
  | run t => simp [G.alive, hgs] at hg

inductive Exec (p : Plan) : St → List St → Prop
  | nil (s : St) : Exec p s []
  | cons {s s' : St} {l : List St} : s' ∈ succs p s → Exec p s' l → Exec p s (s' :: l)

end RtVerif.C12
