import RtVerif.Model.C07
/-
  C07 T5 — a q-value that denotes a smaller number never gets a larger parsed value.
  The digit loop of `expectQuality` keeps the first `cap` fractional digits: its result is the
  floor of the denoted value in units of 10^-cap, and floors are monotone.
-/
namespace RtVerif.C07
open RtVerif Bytes

/-- the natural number a digit string denotes -/
def numOf (ds : Bytes) : Nat := ds.foldl (fun n b => n * 10 + (b.toNat - 48)) 0

def allDigits (ds : Bytes) : Bool := ds.all isDigit

theorem allDigits_cons {b : UInt8} {r : Bytes} (h : allDigits (b :: r) = true) :
    isDigit b = true ∧ allDigits r = true := by
  simpa [allDigits] using h

theorem foldl_digits (ds : Bytes) (n : Nat) :
    ds.foldl (fun n b => n * 10 + (b.toNat - 48)) n = n * 10 ^ ds.length + numOf ds := by
  induction ds generalizing n with
  | nil => simp [numOf]
  | cons b r ih =>
    simp only [List.foldl_cons, List.length_cons, numOf, Nat.zero_mul, Nat.zero_add]
    rw [ih, ih (b.toNat - 48), Nat.pow_succ, Nat.add_mul, Nat.mul_assoc, Nat.mul_comm 10]
    omega

theorem numOf_cons (b : UInt8) (r : Bytes) :
    numOf (b :: r) = (b.toNat - 48) * 10 ^ r.length + numOf r := by
  simpa [numOf] using foldl_digits r (0 * 10 + (b.toNat - 48))

theorem digit_le_nine {b : UInt8} (h : isDigit b = true) : b.toNat - 48 ≤ 9 := by
  simp only [isDigit, Bool.and_eq_true, decide_eq_true_eq] at h
  have h2 : b.toNat ≤ 57 := by simpa using UInt8.le_iff_toNat_le.mp h.2
  omega

theorem numOf_lt (ds : Bytes) (h : allDigits ds = true) : numOf ds < 10 ^ ds.length := by
  induction ds with
  | nil => simp [numOf]
  | cons b r ih =>
    have hr := ih (allDigits_cons h).2
    have := Nat.mul_le_mul_right (10 ^ r.length) (digit_le_nine (allDigits_cons h).1)
    rw [numOf_cons, List.length_cons, Nat.pow_succ]
    omega

theorem digitsLoop_past_cap (cap : Nat) (s : Bytes) (i n k : Nat) (hs : allDigits s = true)
    (hi : cap ≤ i) : (digitsLoop cap s i n k).1 = (n, k) := by
  induction s generalizing i with
  | nil => rfl
  | cons b r ih =>
    simp only [digitsLoop, (allDigits_cons hs).1, Nat.not_lt.mpr hi, ↓reduceIte]
    exact ih (i + 1) (allDigits_cons hs).2 (by omega)

/-- `u` stays the floor of `y·q / p` when numerator and denominator are scaled alike -/
theorem floor_scale {u p y q : Nat} (m : Nat) (hm : 0 < m) (h : u * p ≤ y * q ∧ y * q < (u + 1) * p) :
    u * (p * m) ≤ y * (q * m) ∧ y * (q * m) < (u + 1) * (p * m) := by
  rw [← Nat.mul_assoc, ← Nat.mul_assoc, ← Nat.mul_assoc]
  exact ⟨Nat.mul_le_mul_right m h.1, Nat.mul_lt_mul_of_pos_right h.2 hm⟩

/-- **floor characterisation** of the digit loop (k = min i cap digits accumulated so far):
the result, in units of 10^-cap, is the floor of the denoted value. -/
theorem digitsLoop_floor (cap : Nat) (s : Bytes) (i n k : Nat) (hs : allDigits s = true)
    (hk : k ≤ cap) (hlt : i < cap → k = i) (hge : cap ≤ i → k = cap) :
    let r := (digitsLoop cap s i n k).1
    r.2 ≤ cap ∧
    r.1 * 10 ^ (cap - r.2) * 10 ^ s.length ≤ (n * 10 ^ s.length + numOf s) * 10 ^ (cap - k) ∧
    (n * 10 ^ s.length + numOf s) * 10 ^ (cap - k) < (r.1 * 10 ^ (cap - r.2) + 1) * 10 ^ s.length := by
  induction s generalizing i n k with
  | nil =>
    simp only [digitsLoop, List.length_nil, Nat.pow_zero, Nat.mul_one, numOf, List.foldl_nil,
      Nat.add_zero]
    exact ⟨hk, Nat.le_refl _, Nat.lt_succ_self _⟩
  | cons b r ih =>
    by_cases hic : i < cap
    · -- one more digit is kept: both sides of the floor inequalities are scaled by 10
      obtain rfl := hlt hic
      have ih' := ih (k + 1) (n * 10 + (b.toNat - 48)) (k + 1) (allDigits_cons hs).2 hic
        (fun _ => rfl) (Nat.le_antisymm hic)
      have hpow : 10 ^ (cap - k) = 10 ^ (cap - (k + 1)) * 10 := by
        rw [← Nat.pow_succ, Nat.sub_add_eq]
        exact congrArg _ (Nat.sub_add_cancel (Nat.sub_pos_of_lt hic)).symm
      have hY : n * 10 ^ (b :: r).length + numOf (b :: r) =
          (n * 10 + (b.toNat - 48)) * 10 ^ r.length + numOf r := by
        rw [numOf_cons, List.length_cons, Nat.pow_succ, Nat.add_mul, Nat.mul_assoc, Nat.mul_comm 10,
          Nat.add_assoc]
      simp only [digitsLoop, (allDigits_cons hs).1, hic, ↓reduceIte, hY, hpow]
      rw [List.length_cons, Nat.pow_succ]
      exact ⟨ih'.1, floor_scale 10 (by decide) ih'.2⟩
    · -- past the cap nothing is kept, and the digits left denote less than one unit
      have hci : cap ≤ i := Nat.le_of_not_lt hic
      obtain rfl := hge hci
      simp only [digitsLoop_past_cap k (b :: r) i n k hs hci, Nat.sub_self, Nat.pow_zero, Nat.mul_one]
      rw [Nat.add_mul, Nat.one_mul]
      exact ⟨Nat.le_refl _, Nat.le_add_right _ _, Nat.add_lt_add_left (numOf_lt (b :: r) hs) _⟩

/-- the parsed fractional part of `0.ds` / `1.ds` in units of 10^-cap -/
def fracUnits (ds : Bytes) : Nat :=
  (digitsLoop Facts.maxQDigits ds 0 0 0).1.1 * 10 ^ (Facts.maxQDigits - (digitsLoop Facts.maxQDigits ds 0 0 0).1.2)

theorem fracUnits_floor (ds : Bytes) (h : allDigits ds = true) :
    fracUnits ds * 10 ^ ds.length ≤ numOf ds * 10 ^ Facts.maxQDigits ∧
    numOf ds * 10 ^ Facts.maxQDigits < (fracUnits ds + 1) * 10 ^ ds.length := by
  simpa [fracUnits] using (digitsLoop_floor Facts.maxQDigits ds 0 0 0 h (Nat.zero_le _) (fun _ => rfl)
    (fun h0 => by omega)).2

/-- floors are monotone: `ua = ⌊na·c / pa⌋`, `ub = ⌊nb·c / pb⌋` and `na / pa ≤ nb / pb` (all
cross-multiplied) give `ua ≤ ub` -/
theorem floor_mono {ua ub na nb pa pb c : Nat} (hpa : 0 < pa) (ha : ua * pa ≤ na * c)
    (hb : nb * c < (ub + 1) * pb) (h : na * pb ≤ nb * pa) : ua ≤ ub := by
  apply Nat.le_of_lt_succ
  apply Nat.lt_of_mul_lt_mul_right (a := pa * pb)
  calc ua * (pa * pb) = ua * pa * pb := (Nat.mul_assoc ..).symm
    _ ≤ na * c * pb := Nat.mul_le_mul_right _ ha
    _ = na * pb * c := Nat.mul_right_comm ..
    _ ≤ nb * pa * c := Nat.mul_le_mul_right _ h
    _ = nb * c * pa := Nat.mul_right_comm ..
    _ < (ub + 1) * pb * pa := Nat.mul_lt_mul_of_pos_right hb hpa
    _ = (ub + 1) * (pa * pb) := by rw [Nat.mul_assoc, Nat.mul_comm pb]

/-- **T5**: if the digit string `a` denotes a number not larger than `b` does
(`0.a ≤ 0.b`, cross-multiplied), the parser's value for `a` is not larger than for `b`. -/
theorem fracUnits_mono (a b : Bytes) (ha : allDigits a = true) (hb : allDigits b = true)
    (h : numOf a * 10 ^ b.length ≤ numOf b * 10 ^ a.length) : fracUnits a ≤ fracUnits b :=
  floor_mono (Nat.pow_pos (by decide)) (fracUnits_floor a ha).1 (fracUnits_floor b hb).2 h

end RtVerif.C07
