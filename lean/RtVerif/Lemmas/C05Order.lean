import RtVerif.Lemmas.C05
/-  Order-independence of `Build`: the stable sort yields the same list for every permutation of
    records with pairwise distinct keys. -/
namespace RtVerif.C05
open RtVerif Bytes

theorem bytesLe_cons {a b : UInt8} {as bs : Bytes} :
    bytesLe (a :: as) (b :: bs) = true ↔ a < b ∨ (a = b ∧ bytesLe as bs = true) := by
  rw [bytesLe]
  by_cases h1 : a < b
  · simp [h1]
  · by_cases h2 : b < a
    · simp [h1, h2, (UInt8.ne_of_lt h2).symm]
    · simp [UInt8.le_antisymm (UInt8.not_lt.mp h2) (UInt8.not_lt.mp h1)]

theorem bytesLe_iff {a b : Bytes} : bytesLe a b = true ↔ a ≤ b := by
  induction a generalizing b with
  | nil => simp [bytesLe]
  | cons x xs ih =>
    cases b with
    | nil => simp [bytesLe]
    | cons y ys => rw [bytesLe_cons, ih, List.cons_le_cons_iff]

theorem bytesLe_refl (a : Bytes) : bytesLe a a = true := bytesLe_iff.mpr (List.le_refl a)

theorem bytesLe_total (a b : Bytes) : bytesLe a b = true ∨ bytesLe b a = true := by
  rw [bytesLe_iff, bytesLe_iff]; exact List.le_total a b

theorem bytesLe_trans {a b c : Bytes} (h1 : bytesLe a b = true) (h2 : bytesLe b c = true) :
    bytesLe a c = true :=
  bytesLe_iff.mpr (List.le_trans (bytesLe_iff.mp h1) (bytesLe_iff.mp h2))

theorem bytesLe_antisymm {a b : Bytes} (h1 : bytesLe a b = true) (h2 : bytesLe b a = true) : a = b :=
  List.le_antisymm (bytesLe_iff.mp h1) (bytesLe_iff.mp h2)

def KeyLe (a b : Rec) : Prop := bytesLe a.key b.key = true

theorem sorted_insertRec (r : Rec) (l : List Rec) (h : l.Pairwise KeyLe) :
    (insertRec r l).Pairwise KeyLe := by
  induction l with
  | nil => simp [insertRec]
  | cons x xs ih =>
    rw [List.pairwise_cons] at h
    simp only [insertRec]
    split
    · rename_i hle
      refine List.pairwise_cons.mpr ⟨fun y hy => ?_, List.pairwise_cons.mpr h⟩
      rcases List.mem_cons.mp hy with rfl | hy'
      · exact hle
      · exact bytesLe_trans hle (h.1 y hy')
    · rename_i hnle
      refine List.pairwise_cons.mpr ⟨fun y hy => ?_, ih h.2⟩
      rcases List.mem_cons.mp ((perm_insertRec r xs).mem_iff.mp hy) with rfl | hy'
      · exact (bytesLe_total _ _).resolve_left hnle
      · exact h.1 y hy'

theorem sorted_sortRecs (l : List Rec) : (sortRecs l).Pairwise KeyLe := by
  induction l with
  | nil => exact List.Pairwise.nil
  | cons x xs ih => exact sorted_insertRec _ _ ih

theorem sortRecs_eq_of_perm {l l' : List Rec} (hp : l.Perm l')
    (hd : ∀ a ∈ l, ∀ b ∈ l, a.key = b.key → a = b) : sortRecs l = sortRecs l' := by
  apply List.Perm.eq_of_pairwise (le := KeyLe) _ (sorted_sortRecs l) (sorted_sortRecs l')
  · exact (perm_sortRecs l).trans (hp.trans (perm_sortRecs l').symm)
  · intro a b ha hb hab hba
    have ha' : a ∈ l := mem_sortRecs.mp ha
    have hb' : b ∈ l := hp.mem_iff.mpr (mem_sortRecs.mp hb)
    exact hd a ha' b hb' (bytesLe_antisymm hab hba)

end RtVerif.C05
