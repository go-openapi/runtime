import RtVerif.Model.C05
namespace RtVerif.C05
open RtVerif Bytes

theorem cParam_ne_cTerm : (cParam == cTerm) = false := by decide
theorem cWild_ne_cTerm : (cWild == cTerm) = false := by decide
theorem cWild_ne_cParam : (cWild == cParam) = false := by decide
theorem cTerm_ne_cParam : (cTerm == cParam) = false := by decide
theorem cTerm_ne_cWild : (cTerm == cWild) = false := by decide

theorem matchKey_nil (s : Bool) (p : Bytes) : matchKey s [] p = none := by
  rw [matchKey.eq_def]

theorem matchKey_term (s : Bool) (k p : Bytes) :
    matchKey s (cTerm :: k) p = if (p.isEmpty && k.isEmpty) = true then some [] else none := by
  rw [matchKey.eq_def]; simp

theorem matchKey_param (s : Bool) (k p : Bytes) :
    matchKey s (cParam :: k) p =
      if (s && p.isEmpty) = true then none
      else (matchKey s (k.dropWhile notKeySep) (p.dropWhile notPathSep)).map
        fun vs => p.takeWhile notPathSep :: vs := by
  rw [matchKey.eq_def]; simp [cParam_ne_cTerm]

theorem matchKey_wild (s : Bool) (k p : Bytes) :
    matchKey s (cWild :: k) p = if (s && p.isEmpty) = true then none else some [p] := by
  rw [matchKey.eq_def]; simp [cWild_ne_cTerm, cWild_ne_cParam]

theorem matchKey_lit_nil (s : Bool) (b : UInt8) (k : Bytes)
    (h1 : (b == cTerm) = false) (h2 : (b == cParam) = false) (h3 : (b == cWild) = false) :
    matchKey s (b :: k) [] = none := by
  rw [matchKey.eq_def]; simp [h1, h2, h3]

theorem matchKey_lit_cons (s : Bool) (b c : UInt8) (k p : Bytes)
    (h1 : (b == cTerm) = false) (h2 : (b == cParam) = false) (h3 : (b == cWild) = false) :
    matchKey s (b :: k) (c :: p) = if (c == b) = true then matchKey s k p else none := by
  rw [matchKey.eq_def]; simp [h1, h2, h3]

theorem matchKey_term_some {s : Bool} {k p : Bytes} {vs : List Bytes} :
    matchKey s (cTerm :: k) p = some vs ↔ p = [] ∧ k = [] ∧ vs = [] := by
  rw [matchKey_term]
  cases p <;> cases k <;> simp [eq_comm]

theorem matchKey_param_some {s : Bool} {k p : Bytes} {vs : List Bytes} :
    matchKey s (cParam :: k) p = some vs ↔ (s && p.isEmpty) = false ∧
      ∃ vs', matchKey s (k.dropWhile notKeySep) (p.dropWhile notPathSep) = some vs' ∧
        vs = p.takeWhile notPathSep :: vs' := by
  rw [matchKey_param]
  cases s && p.isEmpty
  · simp only [Bool.false_eq_true, ↓reduceIte, Option.map_eq_some_iff, true_and]
    exact exists_congr fun _ => and_congr_right fun _ => eq_comm
  · simp

theorem matchKey_wild_some {s : Bool} {k p : Bytes} {vs : List Bytes} :
    matchKey s (cWild :: k) p = some vs ↔ (s && p.isEmpty) = false ∧ vs = [p] := by
  rw [matchKey_wild]
  cases s && p.isEmpty <;> simp [eq_comm]

theorem matchKey_lit_some {s : Bool} {b : UInt8} {k p : Bytes} {vs : List Bytes}
    (h1 : (b == cTerm) = false) (h2 : (b == cParam) = false) (h3 : (b == cWild) = false) :
    matchKey s (b :: k) p = some vs ↔ ∃ p', p = b :: p' ∧ matchKey s k p' = some vs := by
  cases p with
  | nil => simp [matchKey_lit_nil _ _ _ h1 h2 h3]
  | cons c p' =>
    rw [matchKey_lit_cons _ _ _ _ _ h1 h2 h3]
    by_cases hc : c = b <;> simp [hc]

theorem namesOf_param (k : Bytes) :
    namesOf (cParam :: k) = k.takeWhile notKeySep :: namesOf (k.dropWhile notKeySep) := by
  rw [namesOf]; simp

theorem namesOf_wild (k : Bytes) : namesOf (cWild :: k) = [k.dropLast] := by
  rw [namesOf]; simp [cWild_ne_cParam]

theorem namesOf_lit (b : UInt8) (k : Bytes) (h2 : (b == cParam) = false) (h3 : (b == cWild) = false) :
    namesOf (b :: k) = namesOf k := by
  rw [namesOf]; simp [h2, h3]

theorem namesOf_nil : namesOf [] = [] := by rw [namesOf]

theorem edgeKinds_param (k : Bytes) :
    edgeKinds (cParam :: k) = 1 :: edgeKinds (k.dropWhile notKeySep) := by
  rw [edgeKinds]; simp

theorem edgeKinds_wild (k : Bytes) : edgeKinds (cWild :: k) = [2] := by
  rw [edgeKinds]; simp [cWild_ne_cParam]

theorem edgeKinds_lit (b : UInt8) (k : Bytes) (h2 : (b == cParam) = false) (h3 : (b == cWild) = false) :
    edgeKinds (b :: k) = 0 :: edgeKinds k := by
  rw [edgeKinds]; simp [h2, h3]

theorem kindsLe_refl (l : List Nat) : kindsLe l l = true := by
  induction l with
  | nil => rfl
  | cons a t ih => simp [kindsLe, ih]

theorem mem_advLit {c : UInt8} {rs : List Rec} {r' : Rec} :
    r' ∈ advLit c rs ↔ ∃ r ∈ rs, r.key = c :: r'.key ∧ r'.names = r.names ∧ r'.val = r.val := by
  simp only [advLit, List.mem_filterMap]
  refine exists_congr fun r => and_congr_right fun _ => ?_
  obtain ⟨key, ns, v⟩ := r
  obtain ⟨key', ns', v'⟩ := r'
  cases key with
  | nil => simp
  | cons b k =>
    by_cases hb : b = c
    · simp [hb, eq_comm]
    · simp [hb]

theorem stepWild_eq {r r' : Rec} :
    stepWild r = some r' ↔
      ∃ k, r.key = cWild :: k ∧ r'.key = [] ∧ r'.names = r.names ++ [k.dropLast] ∧ r'.val = r.val := by
  obtain ⟨key, ns, v⟩ := r
  obtain ⟨key', ns', v'⟩ := r'
  cases key with
  | nil => simp [stepWild]
  | cons b k =>
    by_cases hb : b = cWild
    · simp [stepWild, hb, eq_comm]
    · simp [stepWild, hb]

theorem mem_advWild {rs : List Rec} {r' : Rec} :
    r' ∈ advWild rs ↔ ∃ r ∈ rs, stepWild r = some r' := by
  unfold advWild
  rw [List.mem_filterMap]

theorem leafOf_some {rs : List Rec} {r : Rec} (h : leafOf rs = some r) : r ∈ rs ∧ r.key = [] := by
  have hm := List.mem_of_getLast? h
  simpa only [List.mem_filter, List.isEmpty_iff] using hm

theorem leafOf_none {rs : List Rec} (h : leafOf rs = none) : ∀ r ∈ rs, r.key ≠ [] := by
  simpa only [leafOf, List.getLast?_eq_none_iff, List.filter_eq_nil_iff, List.isEmpty_iff] using h

theorem first_eq_none {α} {a : Option α} {b : Unit → Option α} :
    first a b = none ↔ a = none ∧ b () = none := by
  cases a <;> simp [first]

/-- What `Build` guarantees for parameterised keys (`isBadKey`). -/
def NulFree (rs : List Rec) : Prop := ∀ r ∈ rs, (0 : UInt8) ∉ r.key

theorem nulFree_advLit {c : UInt8} {rs : List Rec} (h : NulFree rs) : NulFree (advLit c rs) := by
  intro r' hr'
  obtain ⟨r, hr, hk, _, _⟩ := mem_advLit.mp hr'
  have := h r hr
  rw [hk] at this
  exact fun hm => this (List.mem_cons_of_mem _ hm)

theorem mem_dropWhile {α} {p : α → Bool} {l : List α} {x : α} (h : x ∈ l.dropWhile p) : x ∈ l :=
  (List.dropWhile_sublist p).subset h

theorem nulFree_advSingle {rs : List Rec} (h : NulFree rs) : NulFree (advSingle rs) := by
  intro r' hr'
  obtain ⟨r, hr, hs⟩ := mem_advSingle.mp hr'
  obtain ⟨k, hk, hk', _, _⟩ := stepSingle_eq.mp hs
  have := h r hr
  rw [hk] at this
  rw [hk']
  exact fun hm => this (List.mem_cons_of_mem _ (mem_dropWhile hm))

theorem matchKey_induct {s : Bool} (P : Bytes → Bytes → List Bytes → Prop) (term : P [cTerm] [] [])
    (param : ∀ k p vs, (s && p.isEmpty) = false →
      matchKey s (k.dropWhile notKeySep) (p.dropWhile notPathSep) = some vs →
      P (k.dropWhile notKeySep) (p.dropWhile notPathSep) vs → P (cParam :: k) p (p.takeWhile notPathSep :: vs))
    (wild : ∀ k p, (s && p.isEmpty) = false → P (cWild :: k) p [p])
    (lit : ∀ b k p vs, (b == cTerm) = false → (b == cParam) = false → (b == cWild) = false →
      matchKey s k p = some vs → P k p vs → P (b :: k) (b :: p) vs) :
    ∀ key path vs, matchKey s key path = some vs → P key path vs := by
  intro key
  induction key using namesOf.induct with
  | case1 => intro p vs h; rw [matchKey_nil] at h; cases h
  | case2 b k hb ih =>
    rw [beq_iff_eq] at hb; subst hb
    intro p vs h
    obtain ⟨hs, vs', hm, rfl⟩ := matchKey_param_some.mp h
    exact param k p vs' hs hm (ih _ _ hm)
  | case3 b k _ hw =>
    rw [beq_iff_eq] at hw; subst hw
    intro p vs h
    obtain ⟨hs, rfl⟩ := matchKey_wild_some.mp h
    exact wild k p hs
  | case4 b k hb hw ih =>
    intro p vs h
    by_cases ht : b = cTerm
    · subst ht
      obtain ⟨rfl, rfl, rfl⟩ := matchKey_term_some.mp h
      exact term
    · have h1 : (b == cTerm) = false := by simpa using ht
      have h2 : (b == cParam) = false := by simpa using hb
      have h3 : (b == cWild) = false := by simpa using hw
      obtain ⟨p', rfl, hm⟩ := (matchKey_lit_some h1 h2 h3).mp h
      exact lit b k p' vs h1 h2 h3 hm (ih _ _ hm)

theorem matchKey_switch {s s' : Bool} {key path : Bytes} {vs : List Bytes} (h : matchKey s key path = some vs)
    (hs : s' = true → s = true ∨ ∀ v ∈ vs, v ≠ []) : matchKey s' key path = some vs := by
  -- a parameter that took the text `v` from `p` may start under `s'` as well
  have start : ∀ {p v : Bytes} {vs : List Bytes}, (s && p.isEmpty) = false → (p = [] → v = []) →
      (s' = true → s = true ∨ ∀ x ∈ v :: vs, x ≠ []) → (s' && p.isEmpty) = false := by
    intro p v vs hp hv hs
    cases s' with
    | false => rfl
    | true =>
      rcases hs rfl with rfl | hne
      · exact hp
      · cases p with
        | nil => exact absurd (hv rfl) (hne v List.mem_cons_self)
        | cons _ _ => rfl
  revert hs
  refine matchKey_induct (fun key path vs => (s' = true → s = true ∨ ∀ v ∈ vs, v ≠ []) →
    matchKey s' key path = some vs) ?_ ?_ ?_ ?_ key path vs h
  · intro _; exact matchKey_term_some.mpr ⟨rfl, rfl, rfl⟩
  · intro k p vs hp _ ih hs
    exact matchKey_param_some.mpr ⟨start hp (fun h => by rw [h]; rfl) hs, vs,
      ih fun h' => (hs h').imp_right fun hne v hv => hne v (List.mem_cons_of_mem _ hv), rfl⟩
  · intro k p hp hs
    exact matchKey_wild_some.mpr ⟨start hp id hs, rfl⟩
  · intro b k p vs h1 h2 h3 _ ih hs
    exact (matchKey_lit_some h1 h2 h3).mpr ⟨p, rfl, ih hs⟩

theorem matchKey_arity {s : Bool} {key path : Bytes} {vs : List Bytes} (h : matchKey s key path = some vs) :
    vs.length = (namesOf key).length := by
  refine matchKey_induct (fun key _ vs => vs.length = (namesOf key).length) ?_ ?_ ?_ ?_ key path vs h
  · rw [namesOf_lit _ _ cTerm_ne_cParam cTerm_ne_cWild, namesOf_nil]
  · intro k p vs _ _ ih
    rw [namesOf_param, List.length_cons, List.length_cons, ih]
  · intro k p _
    rw [namesOf_wild]; rfl
  · intro b k p vs _ h2 h3 _ ih
    rw [namesOf_lit _ _ h2 h3, ih]

theorem not_mem_takeWhile_notPathSep (p : Bytes) : cSep ∉ p.takeWhile notPathSep := fun h =>
  absurd (List.all_eq_true.mp List.all_takeWhile _ h) (by decide)

theorem matchKey_values_no_sep {s : Bool} {key path : Bytes} {vs : List Bytes}
    (h : matchKey s key path = some vs) : cWild ∉ key → ∀ v ∈ vs, cSep ∉ v := by
  refine matchKey_induct (fun key _ vs => cWild ∉ key → ∀ v ∈ vs, cSep ∉ v) ?_ ?_ ?_ ?_ key path vs h
  · intro _ v hv; cases hv
  · intro k p vs _ _ ih hw v hv
    rcases List.mem_cons.mp hv with rfl | hv'
    · exact not_mem_takeWhile_notPathSep p
    · exact ih (fun hmem => hw (List.mem_cons_of_mem _ (mem_dropWhile hmem))) v hv'
  · intro k p _ hw
    exact absurd List.mem_cons_self hw
  · intro b k p vs _ _ _ _ ih hw
    exact ih fun hmem => hw (List.mem_cons_of_mem _ hmem)

end RtVerif.C05
