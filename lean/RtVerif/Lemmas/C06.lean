import RtVerif.Model.C06
import RtVerif.Props.C07
import RtVerif.Lemmas.ByteFacts
/-
  Both gates are brought to one normal form (`gateNF`, in the Spec's
  vocabulary); the code's admission test and route tables are read as the Spec's `admitted` and
  registrations. Both whole functions are one pipeline (`fullOf`: head result, response-format
  check, binder) that differs in the head and the binder handed in, so what is seen of either
  (`FullView`) is derived once.
-/
namespace RtVerif.C06
open RtVerif Bytes

/-- what is assumed of `mime.ParseMediaType` (each clause is checked on every harness case) -/
structure PmtOK (pmt : Pmt) : Prop where
  idem : ∀ x t, pmt x = some t → pmt t = some t
  nonempty : ∀ x t, pmt x = some t → t ≠ []
  nosemi : ∀ x t, pmt x = some t → (59 : UInt8) ∉ t

theorem defaultMime_nonempty : Facts.defaultMime.isEmpty = false := by decide

theorem emptyAllowsAll_off : Facts.emptyAllowsAll = false := by decide

theorem hasBody_eq_carries (h : ReqHead) : hasBody h = carriesBody h := by
  unfold hasBody carriesBody
  by_cases h1 : h.contentLength > 0 <;> by_cases h2 : h.clHeader.isEmpty <;> simp [h1, h2]

theorem effCT_isEmpty (h : ReqHead) : (effCT h).isEmpty = false := by
  unfold effCT
  split
  · exact defaultMime_nonempty
  · rename_i hne; simpa using hne

theorem mediaType_eq (pmt : Pmt) (h : ReqHead) : mediaType pmt h = pmt (effCT h) := by
  unfold mediaType effCT headerGet
  cases h.ctLines with
  | nil => simp
  | cons l ls => simp only [List.headD_cons]; split <;> simp [*]

theorem runtimeContentType_eq (pmt : Pmt) (h : ReqHead) :
    runtimeContentType pmt h = match mediaType pmt h with | none => .err | some mt => .ok mt := by
  simp only [runtimeContentType, effCT_isEmpty, Bool.false_eq_true, ↓reduceIte, mediaType_eq]
  cases pmt (effCT h) <;> rfl

theorem validateContentType_eq (pmt : Pmt) (allowed : List Bytes) (actual : Bytes) :
    validateContentType pmt allowed actual =
      match pmt actual with | none => false | some mt => admittedBy allowed mt actual := by
  simp only [validateContentType, emptyAllowsAll_off, Bool.false_and, Bool.false_eq_true, ↓reduceIte]
  cases pmt actual <;> rfl

def gateNF (pmt : Pmt) (api : Api) (h : ReqHead) : GateOut :=
  if carriesBody h then
    match mediaType pmt h with
    | none => .e400
    | some t =>
      if validateContentType pmt (routeConsumes api) t then
        match routeConsumer api t with
        | some k => .consumer k
        | none => .e500NoConsumer
      else .e415
  else .skipped

theorem gateTyped_eq_nf (pmt : Pmt) (api : Api) (h : ReqHead) : gateTyped pmt api h = gateNF pmt api h := by
  unfold gateTyped typedRaw gateNF
  rw [hasBody_eq_carries, runtimeContentType_eq]
  cases carriesBody h
  · rfl
  cases mediaType pmt h with
  | none => rfl
  | some t =>
    simp only [↓reduceIte, tAfterCT, tStep]
    cases validateContentType pmt (routeConsumes api) t
    · rfl
    cases routeConsumer api t <;> rfl

theorem gateUntyped_eq_nf (pmt : Pmt) (api : Api) (h : ReqHead)
    (hne : ∀ x t, pmt x = some t → t ≠ []) : gateUntyped pmt api h = gateNF pmt api h := by
  unfold gateUntyped untypedRaw gateNF
  rw [hasBody_eq_carries]
  cases carriesBody h
  · rfl
  simp only [↓reduceIte, uStep1, runtimeContentType_eq]
  cases hp : mediaType pmt h with
  | none => rfl
  | some t =>
    have htne : t.isEmpty = false := by simpa using hne _ _ (mediaType_eq pmt h ▸ hp)
    simp only [uStep2, uStep3, htne, List.isEmpty_nil, ↓reduceIte]
    cases validateContentType pmt (routeConsumes api) t <;> cases routeConsumer api t <;> rfl

theorem gateNF_ne_pass (pmt : Pmt) (api : Api) (h : ReqHead) : gateNF pmt api h ≠ .passNoConsumer := by
  unfold gateNF
  split
  · split
    · nofun
    · split
      · split <;> nofun
      · nofun
  · nofun

theorem typeWildcard_eq (t : Bytes) : typeWildcard t = majorWildcard t := by
  unfold typeWildcard majorWildcard
  split <;> simp_all [slashStar]

theorem any_or3 {α} (f g h : α → Bool) (l : List α) :
    l.any (fun e => f e || g e || h e) = (l.any f || l.any g || l.any h) := by
  induction l with
  | nil => rfl
  | cons a r ih => simp only [List.any_cons, ih]; ac_rfl

theorem admittedBy_eq (allowed : List Bytes) (t : Bytes) : admittedBy allowed t t = admitted allowed t := by
  unfold admittedBy admitted wildAdmits containsCI
  rw [typeWildcard_eq]
  have : entryAdmits t = fun e => equalFold e t || equalFold e [42, 47, 42] ||
      (match majorWildcard t with | some w => equalFold e w | none => false) := rfl
  rw [this, any_or3]
  cases majorWildcard t <;> simp [starSlashStar]

theorem containsCI_iff (l : List Bytes) (d : Bytes) :
    containsCI l d = true ↔ ∃ e ∈ l, toLower e = toLower d := by
  simp [containsCI, equalFold]

theorem any_append_ci (l : List Bytes) (d t : Bytes) (h : containsCI l d = true) :
    (l ++ [d]).any (entryAdmits t) = l.any (entryAdmits t) := by
  obtain ⟨e, he, hl⟩ := (containsCI_iff l d).mp h
  have hed : entryAdmits t d = entryAdmits t e := by unfold entryAdmits equalFold; rw [hl]
  rw [List.any_append, List.any_cons, List.any_nil, Bool.or_false, hed]
  cases hd : entryAdmits t e with
  | false => simp
  | true => simp [List.any_eq_true.mpr ⟨e, he, hd⟩]

theorem admitted_all_eq_route (api : Api) (t : Bytes) :
    admitted (allConsumes api) t = admitted (routeConsumes api) t := by
  unfold admitted allConsumes routeConsumes
  by_cases hd : api.dflt.isEmpty
  · simp [hd]
  · by_cases hc : containsCI api.opConsumes api.dflt
    · simp only [hd, hc, Bool.false_eq_true, ↓reduceIte, Bool.not_false, Bool.not_true, Bool.and_false]
      exact any_append_ci _ _ _ hc
    · simp [hd, hc]

theorem validate_eq_admitted {pmt : Pmt} (hp : PmtOK pmt) (api : Api) {h : ReqHead} {t : Bytes}
    (hx : mediaType pmt h = some t) :
    validateContentType pmt (routeConsumes api) t = admitted (allConsumes api) t := by
  rw [validateContentType_eq, hp.idem _ t (mediaType_eq pmt h ▸ hx)]
  exact (admittedBy_eq _ t).trans (admitted_all_eq_route api t).symm

theorem routeProduces_sub {op : List Bytes} {d x : Bytes} (h : x ∈ routeProduces op d) :
    x ∈ declaredTypes op d := by
  unfold routeProduces at h
  unfold declaredTypes
  cases hd : d.isEmpty <;> simp only [hd, Bool.not_true, Bool.false_and, Bool.false_eq_true, ↓reduceIte] at h ⊢
  · split at h
    · exact h
    · exact List.mem_append_left _ h
  · exact h

theorem mem_routeProduces {op : List Bytes} {d x : Bytes} (hop : ∀ e ∈ op, toLower e = e)
    (hx : toLower x = x) (h : x ∈ declaredTypes op d) : x ∈ routeProduces op d := by
  unfold declaredTypes at h
  unfold routeProduces
  cases hd : d.isEmpty <;> simp only [hd, Bool.false_eq_true, ↓reduceIte, Bool.not_true, Bool.false_and] at h ⊢
  · cases hc : containsCI op d
    · exact h
    · -- the default is there already, up to case: as both are in lower case, as spelled
      obtain ⟨e, he, hle⟩ := (containsCI_iff _ _).mp hc
      rcases List.mem_append.mp h with h | h
      · exact h
      · obtain rfl : x = d := by simpa using h
        rwa [← hx, ← hle, hop e he]
  · exact h

theorem routeConsumer_some {api : Api} {t : Bytes} {k : Nat} (h : routeConsumer api t = some k) :
    regLookup api.registered t = some k := by
  unfold routeConsumer at h
  split at h
  · exact h
  · cases h

/-- registrations are stored under their lower-cased name -/
theorem regLookupFrom_some_lower {i : Nat} {l : List Bytes} {key : Bytes} {k : Nat}
    (h : regLookupFrom i l key = some k) : toLower key = key := by
  induction l generalizing i k with
  | nil => cases h
  | cons m ms ih =>
    rw [regLookupFrom] at h
    split at h
    · rename_i hr; exact ih hr
    · split at h
      · rename_i heq
        rw [← show toLower m = key by simpa using heq, toLower_idem]
      · cases h

theorem normalizeOffer_id {t : Bytes} (h : (59 : UInt8) ∉ t) : normalizeOffer t = t :=
  beforeByte_of_not_mem h

theorem routeConsumer_of_listed {api : Api} {t : Bytes} {k : Nat} (hwf : WF api = true)
    (hsemi : (59 : UInt8) ∉ t) (hl : listedAsSpelled (allConsumes api) t = true)
    (hr : regLookup api.registered t = some k) : routeConsumer api t = some k := by
  have hmem : t ∈ routeConsumes api :=
    mem_routeProduces (fun e he => by simpa using List.all_eq_true.mp hwf e he)
      (regLookupFrom_some_lower hr) (show t ∈ allConsumes api by simpa [listedAsSpelled] using hl)
  have hc : ((routeConsumes api).map normalizeOffer).contains t = true := by
    simpa using ⟨t, hmem, normalizeOffer_id hsemi⟩
  unfold routeConsumer
  rw [if_pos hc]
  exact hr

theorem gateNF_meets_spec {pmt : Pmt} (hp : PmtOK pmt) {api : Api} (hwf : WF api = true) (h : ReqHead) :
    Spec pmt api h (gateNF pmt api h) = true := by
  unfold Spec gateNF
  cases carriesBody h
  · rfl
  cases hx : mediaType pmt h with
  | none => simp
  | some t =>
    simp only [↓reduceIte, Bool.not_true, Bool.false_eq_true, validate_eq_admitted hp api hx]
    cases ha : admitted (allConsumes api) t
    · simp
    cases hc : routeConsumer api t with
    | some k => simp [routeConsumer_some hc]
    | none =>
      -- 500 is accepted unless the type is registered and listed as spelled: then the route has it
      cases hr : regLookup api.registered t with
      | none => simp
      | some k =>
        cases hl : listedAsSpelled (allConsumes api) t with
        | false => simp
        | true =>
          rw [routeConsumer_of_listed hwf (hp.nosemi _ _ (mediaType_eq pmt h ▸ hx)) hl hr] at hc
          cases hc

theorem rangeAdmits_eq (o : Bytes) (sp : C07.Spec) : rangeAdmits o sp = (C07.candOf o sp).isSome := by
  unfold rangeAdmits C07.candOf
  cases sp.q.isZero <;> cases C07.matchWild sp.value (C07.normalizeOffer o) <;> rfl

theorem acceptAdmits_eq (specs : List C07.Spec) (declared : List Bytes) :
    acceptAdmits specs declared = (specs.isEmpty || !(C07.candidates specs declared).isEmpty) := by
  unfold acceptAdmits C07.candidates
  congr 1
  rw [Bool.eq_iff_iff]
  simp [show ∀ o, C07.candsFor specs o = specs.filterMap (C07.candOf o) from fun _ => rfl,
    rangeAdmits_eq, Option.isSome_iff_ne_none]

theorem acceptAdmits_false_iff (specs : List C07.Spec) (declared : List Bytes) :
    acceptAdmits specs declared = false ↔ specs ≠ [] ∧ C07.candidates specs declared = [] := by
  simp [acceptAdmits_eq]

theorem noFormat_iff (specs : List C07.Spec) (offers : List Bytes) (hne : offers ≠ [])
    (hnn : ([] : Bytes) ∉ offers) : noFormat specs offers = !acceptAdmits specs offers := by
  unfold noFormat
  rw [C07.negotiate_eq_spec]
  by_cases h : specs ≠ [] ∧ C07.candidates specs offers = []
  · rw [C07.specChoice_default (Or.inr h), (acceptAdmits_false_iff _ _).mpr h]
    rfl
  · obtain ⟨o, ho, hd⟩ := C07.specChoice_offer hne h
    have ha : acceptAdmits specs offers = true := by
      rw [← Bool.not_eq_false, acceptAdmits_false_iff]; exact h
    have : o ≠ [] := fun e => hnn (e ▸ ho)
    rw [hd, ha]
    simpa [List.isEmpty_iff] using this

theorem acceptAdmits_congr (specs : List C07.Spec) {a b : List Bytes} (h : ∀ x, x ∈ a ↔ x ∈ b) :
    acceptAdmits specs a = acceptAdmits specs b := by
  unfold acceptAdmits
  congr 1
  rw [Bool.eq_iff_iff]
  simp only [List.any_eq_true, h]

theorem isEmpty_congr {a b : List Bytes} (h : ∀ x, x ∈ a ↔ x ∈ b) : a.isEmpty = b.isEmpty := by
  rw [Bool.eq_iff_iff]
  simp only [List.isEmpty_iff, List.eq_nil_iff_forall_not_mem, h]

/-- the response-format check lets the request through -/
def tailPass (t : TailIn) : Bool := t.produces.isEmpty || !noFormat t.specs t.produces

theorem tailPass_iff (t : TailIn) :
    tailPass t = true ↔ t.produces = [] ∨ noFormat t.specs t.produces = false := by
  unfold tailPass; cases t.produces <;> simp

theorem tailPass_eq_false_iff (t : TailIn) :
    tailPass t = false ↔ t.produces ≠ [] ∧ noFormat t.specs t.produces = true := by
  unfold tailPass; cases t.produces <;> simp

theorem tailPass_eq_admits (t : TailIn) (declared : List Bytes) (hmem : ∀ x, x ∈ t.produces ↔ x ∈ declared)
    (hnn : ([] : Bytes) ∉ t.produces) :
    tailPass t = (declared.isEmpty || acceptAdmits t.specs declared) := by
  unfold tailPass
  rw [← isEmpty_congr hmem, ← acceptAdmits_congr t.specs hmem]
  cases hp : t.produces with
  | nil => rfl
  | cons o os => rw [← hp, noFormat_iff t.specs t.produces (by simp [hp]) hnn]; simp [hp]

theorem routeProduces_mem {opProduces : List Bytes} {dprod : Bytes} (hwf : WFp opProduces dprod = true)
    (x : Bytes) : x ∈ routeProduces opProduces dprod ↔ x ∈ declaredTypes opProduces dprod := by
  simp only [WFp, Bool.and_eq_true, List.all_eq_true, beq_iff_eq] at hwf
  refine ⟨routeProduces_sub, fun hx => mem_routeProduces (fun e he => (hwf.1 e he).1) ?_ hx⟩
  unfold declaredTypes at hx
  split at hx
  · exact (hwf.1 x hx).1
  · rcases List.mem_append.mp hx with hx | hx
    · exact (hwf.1 x hx).1
    · rw [show x = dprod by simpa using hx]; exact hwf.2

theorem routeProduces_no_empty {opProduces : List Bytes} {dprod : Bytes} (hwf : WFp opProduces dprod = true) :
    ([] : Bytes) ∉ routeProduces opProduces dprod := by
  simp only [WFp, Bool.and_eq_true, List.all_eq_true, beq_iff_eq, Bool.not_eq_true'] at hwf
  intro hm
  have hm := routeProduces_sub hm
  have hop : ([] : Bytes) ∉ opProduces := fun h => by simpa using (hwf.1 [] h).2
  unfold declaredTypes at hm
  split at hm
  · exact hop hm
  · rename_i hd
    rcases List.mem_append.mp hm with hm | hm
    · exact hop hm
    · exact hd (by rw [← show [] = dprod by simpa using hm]; rfl)

theorem tRespCheck_nil (t : TailIn) : tRespCheck [] t = if tailPass t then [] else [.notAcceptable] := by
  unfold tRespCheck tailPass
  cases t.produces.isEmpty <;> cases noFormat t.specs t.produces <;> rfl

theorem uRespCheck_nil (t : TailIn) : uRespCheck [] t = if tailPass t then [] else [.notAcceptable] := by
  unfold uRespCheck tailPass
  cases t.produces.isEmpty <;> cases noFormat t.specs t.produces <;> rfl

theorem tRespCheck_cons (e : FErr) (es : List FErr) (t : TailIn) : tRespCheck (e :: es) t = e :: es := rfl

theorem uRespCheck_cons (e : FErr) (es : List FErr) (t : TailIn) : uRespCheck (e :: es) t = e :: es := rfl

/-- the two transcriptions of the response-format check are the same function -/
theorem tRespCheck_eq_uRespCheck (res : List FErr) (t : TailIn) : tRespCheck res t = uRespCheck res t := by
  cases res with
  | nil => rw [tRespCheck_nil, uRespCheck_nil]
  | cons e es => rfl

theorem tBind_obs_pass (sel : Option Nat) (b : Option BinderRes) :
    obsOfFull (tBind [] sel b) =
      match b with
      | none => ⟨[], false, false, sel, none⟩
      | some .ok => ⟨[], false, true, sel, sel⟩
      | some (.fail c) => ⟨[c], true, true, sel, none⟩ := by
  rcases b with _ | _ | c <;> rfl

theorem tBind_obs_refused (e : FErr) (es : List FErr) (sel : Option Nat) (b : Option BinderRes) :
    obsOfFull (tBind (e :: es) sel b) = ⟨(e :: es).map FErr.code, false, false, sel, none⟩ := by
  cases b <;> rfl

theorem uBind_obs_pass (sel : Option Nat) : obsOfFull (uBind [] sel) = ⟨[], false, true, sel, sel⟩ := rfl

theorem uBind_obs_refused (e : FErr) (es : List FErr) (sel : Option Nat) :
    obsOfFull (uBind (e :: es) sel) = ⟨(e :: es).map FErr.code, false, false, sel, none⟩ := rfl

/-- Both whole functions: the head's result `R`, then the response-format check, then the binder. -/
def fullOf (R : Option Raw) (t : TailIn) (b : Option BinderRes) : Full :=
  tBind (tRespCheck (rawErrs R) t) (rawSel R) b

theorem typedFull_eq (pmt : Pmt) (api : Api) (h : ReqHead) (t : TailIn) :
    typedFull pmt api h t = fullOf (typedRaw pmt api h) t t.binder := rfl

/-- the reflective entry point is the same pipeline with the route's own, succeeding binder -/
theorem untypedFull_eq (pmt : Pmt) (api : Api) (h : ReqHead) (t : TailIn) :
    untypedFull pmt api h t = fullOf (untypedRaw pmt api h) t (some .ok) := by
  unfold untypedFull fullOf
  rw [← tRespCheck_eq_uRespCheck]
  cases tRespCheck (rawErrs (untypedRaw pmt api h)) t <;> rfl

/-- what is seen of an entry point whose gate let the request through (or skipped it) -/
def tailObs (sel : Option Nat) (t : TailIn) (b : Option BinderRes) : FullObs :=
  if tailPass t then
    match b with
    | none => ⟨[], false, false, sel, none⟩
    | some .ok => ⟨[], false, true, sel, sel⟩
    | some (.fail c) => ⟨[c], true, true, sel, none⟩
  else ⟨[406], false, false, sel, none⟩

theorem fullOf_obs (R : Option Raw) (t : TailIn) (b : Option BinderRes) :
    obsOfFull (fullOf R t b) =
      match rawErrs R with
      | [] => tailObs (rawSel R) t b
      | e :: es => ⟨(e :: es).map FErr.code, false, false, rawSel R, none⟩ := by
  unfold fullOf
  cases rawErrs R with
  | nil =>
    rw [tRespCheck_nil]
    unfold tailObs
    cases tailPass t
    · exact tBind_obs_refused ..
    · exact tBind_obs_pass ..
  | cons e es => exact tBind_obs_refused ..

theorem outOfCode_code (e : Err) : outOfCode e.code = GateOut.ofErr e := by
  cases e <;> rfl

theorem code_ne_406 (e : Err) : (e.code != 406) = true := by
  cases e <;> rfl

theorem gateSeen_tailObs (h : ReqHead) (t : TailIn) (b : Option BinderRes) (sel : Option Nat)
    (hc : sel = none → carriesBody h = false) :
    gateSeen h (tailObs sel t b) = match sel with | none => .skipped | some k => .consumer k := by
  unfold tailObs gateSeen gateCodes
  cases sel with
  | none => cases tailPass t <;> rcases b with _ | _ | c <;> simp [obsOut, hc rfl]
  | some k => cases tailPass t <;> rcases b with _ | _ | c <;> simp [obsOut]

theorem gateSeen_refused (h : ReqHead) (e : Err) (es : List Nat) (sel : Option Nat) :
    gateSeen h ⟨e.code :: es, false, false, sel, none⟩ = GateOut.ofErr e := by
  unfold gateSeen gateCodes
  simp only [Bool.false_eq_true, ↓reduceIte, List.filter_cons, code_ne_406, obsOut, outOfCode_code]

/-- What is seen (`o`) of a whole entry point whose gate answers `g`: the gate's outcome shows; and
either the gate let the request through and the tail decides, or the gate's errors are the answer. -/
def FullView (h : ReqHead) (g : GateOut) (t : TailIn) (b : Option BinderRes) (o : FullObs) : Prop :=
  gateSeen h o = g ∧
  ((handlerRan g = true ∧ o = tailObs (consumerRan g) t b) ∨
   ∃ (e : Err) (es : List Err) (sel : Option Nat),
     g = GateOut.ofErr e ∧ o = ⟨e.code :: es.map Err.code, false, false, sel, none⟩)

theorem full_view {h : ReqHead} {R : Option Raw} (hb : R.isSome = carriesBody h)
    (hR : observe R ≠ .passNoConsumer) (t : TailIn) (b : Option BinderRes) :
    FullView h (observe R) t b (obsOfFull (fullOf R t b)) := by
  rw [fullOf_obs]
  rcases R with _ | ⟨_ | ⟨e, es⟩, sel⟩
  · exact ⟨gateSeen_tailObs h t b none fun _ => hb.symm, Or.inl ⟨rfl, rfl⟩⟩
  · cases sel with
    | none => exact absurd rfl hR
    | some k => exact ⟨gateSeen_tailObs h t b (some k) nofun, Or.inl ⟨rfl, rfl⟩⟩
  · refine ⟨?_, Or.inr ⟨e, es, sel, rfl, ?_⟩⟩ <;>
      simp [rawErrs, rawSel, FErr.code, gateSeen_refused, observe, Function.comp_def]

theorem typedFull_view (pmt : Pmt) (api : Api) (h : ReqHead) (t : TailIn) :
    FullView h (gateTyped pmt api h) t t.binder (obsOfFull (typedFull pmt api h t)) :=
  full_view (by rw [← hasBody_eq_carries]; unfold typedRaw; cases hasBody h <;> rfl)
    (show gateTyped pmt api h ≠ _ from gateTyped_eq_nf pmt api h ▸ gateNF_ne_pass pmt api h) t t.binder

theorem untypedFull_view (pmt : Pmt) (api : Api) (h : ReqHead) (t : TailIn)
    (hne : ∀ x t, pmt x = some t → t ≠ []) :
    FullView h (gateUntyped pmt api h) t (some .ok) (obsOfFull (untypedFull pmt api h t)) :=
  untypedFull_eq pmt api h t ▸
    full_view (by rw [← hasBody_eq_carries]; unfold untypedRaw; cases hasBody h <;> rfl)
      (show gateUntyped pmt api h ≠ _ from gateUntyped_eq_nf pmt api h hne ▸ gateNF_ne_pass pmt api h)
      t (some .ok)

theorem full_meets_spec {pmt : Pmt} {api : Api} {h : ReqHead} {g : GateOut} {t : TailIn}
    {b : Option BinderRes} {o : FullObs} (hv : FullView h g t b o) (hs : Spec pmt api h g = true)
    (declared : List Bytes) (htp : tailPass t = (declared.isEmpty || acceptAdmits t.specs declared)) :
    SpecFull pmt api h t.specs declared b o = true := by
  unfold SpecFull
  rw [hv.1, hs]
  rcases hv.2 with ⟨hp, rfl⟩ | ⟨e, es, sel, rfl, rfl⟩
  · unfold tailObs
    simp only [← Bool.not_or, ← htp]
    cases g <;> cases hp <;> cases tailPass t <;> rcases b with _ | _ | c <;> simp [consumerRan]
  · cases e <;> rfl

theorem typedRaw_errs (pmt : Pmt) (api : Api) (h : ReqHead) :
    rawErrs (typedRaw pmt api h) = [] ∨ ∃ e, rawErrs (typedRaw pmt api h) = [.gate e] := by
  unfold typedRaw
  split
  · cases runtimeContentType pmt h with
    | err => exact Or.inr ⟨_, rfl⟩
    | ok ct =>
      simp only [tAfterCT, tStep]
      split
      · split
        · exact Or.inr ⟨_, rfl⟩
        · exact Or.inl rfl
      · exact Or.inr ⟨_, rfl⟩
  · exact Or.inl rfl

end RtVerif.C06
