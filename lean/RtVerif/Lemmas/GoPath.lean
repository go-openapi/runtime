import RtVerif.Base.GoPath
/-
  `path.Clean` as a stack machine over the segments between slashes, for every byte string.  The stack
  is always ordinary segments on top of kept `..` (`Inv`), so `kept p` is a `Good` list (`kept_good`);
  a `Good` list, rendered and split again, is fed back unchanged (`kept_render`).  Idempotence and the
  shape of a cleaned path follow, and `Join` and `Split` reduce to `Clean`.
-/
namespace RtVerif.GoPath
open RtVerif

/-- A kept ordinary segment: non-empty, not `.`, not `..`, without `/`. -/
def Normal (s : Bytes) : Prop := s ≠ [] ∧ s ≠ dot ∧ s ≠ dotdot ∧ slash ∉ s

instance (s : Bytes) : Decidable (Normal s) := inferInstanceAs (Decidable (_ ∧ _ ∧ _ ∧ _))

theorem Normal.ne_nil {s : Bytes} (h : Normal s) : s ≠ [] := h.1
theorem Normal.ne_dot {s : Bytes} (h : Normal s) : s ≠ dot := h.2.1
theorem Normal.ne_dotdot {s : Bytes} (h : Normal s) : s ≠ dotdot := h.2.2.1
theorem Normal.noslash {s : Bytes} (h : Normal s) : slash ∉ s := h.2.2.2

theorem segsAux_nil : segsAux [] = ([], []) := rfl

theorem segsAux_cons_slash (r : Bytes) : segsAux (slash :: r) = ([], segs r) := by
  simp [segsAux, segs]

theorem segsAux_cons_ne {b : UInt8} (r : Bytes) (h : b ≠ slash) :
    segsAux (b :: r) = (b :: (segsAux r).1, (segsAux r).2) := by
  simp [segsAux, h]

theorem segs_nil : segs [] = [[]] := rfl

theorem segs_cons_slash (r : Bytes) : segs (slash :: r) = [] :: segs r := by
  simp [segs, segsAux_cons_slash]

theorem segsAux_noslash (s : Bytes) (h : slash ∉ s) : segsAux s = (s, []) := by
  induction s with
  | nil => rfl
  | cons b r ih =>
    have hb : b ≠ slash := fun e => h (by simp [e])
    have hr : slash ∉ r := fun e => h (by simp [e])
    rw [segsAux_cons_ne r hb, ih hr]

theorem segs_noslash (s : Bytes) (h : slash ∉ s) : segs s = [s] := by
  simp [segs, segsAux_noslash s h]

theorem segsAux_append_slash (a b : Bytes) :
    segsAux (a ++ slash :: b) = ((segsAux a).1, (segsAux a).2 ++ segs b) := by
  induction a with
  | nil => simp [segsAux_cons_slash, segsAux_nil]
  | cons x a ih =>
    by_cases hx : x = slash
    · subst hx
      simp only [List.cons_append, segsAux_cons_slash, segs, ih, List.cons_append]
    · simp only [List.cons_append, segsAux_cons_ne _ hx, ih]

theorem segs_append_slash (a b : Bytes) : segs (a ++ slash :: b) = segs a ++ segs b := by
  simp [segs, segsAux_append_slash]

theorem segs_noslash_mem (p : Bytes) : ∀ s ∈ segs p, slash ∉ s := by
  induction p with
  | nil => simp [segs_nil]
  | cons b r ih =>
    by_cases hb : b = slash
    · rw [hb, segs_cons_slash]
      exact List.forall_mem_cons.mpr ⟨List.not_mem_nil, ih⟩
    · obtain ⟨h1, h2⟩ := List.forall_mem_cons.mp ih
      rw [segs, segsAux_cons_ne r hb]
      exact List.forall_mem_cons.mpr ⟨by simp [Ne.symm hb, h1], h2⟩

theorem joinSegs_cons_cons (s t : Bytes) (l : List Bytes) :
    joinSegs (s :: t :: l) = s ++ slash :: joinSegs (t :: l) := rfl

theorem slash_joinSegs (l : List Bytes) (hne : l ≠ []) : slash :: joinSegs l = l.flatMap (slash :: ·) := by
  induction l with
  | nil => exact absurd rfl hne
  | cons s t ih =>
    cases t with
    | nil => simp [joinSegs]
    | cons t l => rw [joinSegs_cons_cons, List.flatMap_cons, ← ih (by simp), List.cons_append]

theorem segs_joinSegs (l : List Bytes) (hne : l ≠ []) (h : ∀ s ∈ l, slash ∉ s) :
    segs (joinSegs l) = l := by
  induction l with
  | nil => exact absurd rfl hne
  | cons s t ih =>
    cases t with
    | nil => exact segs_noslash s (h s (by simp))
    | cons t l =>
      rw [joinSegs_cons_cons, segs_append_slash, segs_noslash s (h s (by simp)),
        ih (by simp) (fun x hx => h x (List.mem_cons_of_mem _ hx))]
      rfl

theorem step_skip_nil (r : Bool) (st : List Bytes) : step r st [] = st := by simp [step]
theorem step_skip_dot (r : Bool) (st : List Bytes) : step r st dot = st := by simp [step]

theorem step_normal (r : Bool) (st : List Bytes) {s : Bytes} (h : Normal s) :
    step r st s = s :: st := by
  simp [step, h.ne_nil, h.ne_dot, h.ne_dotdot]

theorem dotdot_ne_nil : dotdot ≠ [] := by decide
theorem dotdot_ne_dot : dotdot ≠ dot := by decide
theorem dotdot_noslash : slash ∉ dotdot := by decide

theorem step_pop (r : Bool) (st : List Bytes) {n : Bytes} (h : Normal n) : step r (n :: st) dotdot = st := by
  simp [step, dotdot_ne_nil, dotdot_ne_dot, h.ne_dotdot]

theorem step_dotdot_unrooted (j : Nat) :
    step false (List.replicate j dotdot) dotdot = List.replicate (j + 1) dotdot := by
  cases j <;> simp [step, dotdot_ne_nil, dotdot_ne_dot, List.replicate_succ]

/-- Stack (top first) = ordinary segments on top of `k` kept `..`; none kept when rooted. -/
def Inv (rooted : Bool) (st : List Bytes) : Prop :=
  ∃ (k : Nat) (ns : List Bytes), st = ns ++ List.replicate k dotdot ∧ (∀ s ∈ ns, Normal s) ∧
    (rooted = true → k = 0)

theorem inv_nil (r : Bool) : Inv r [] := ⟨0, [], rfl, by simp, fun _ => rfl⟩

theorem inv_step (r : Bool) (st : List Bytes) (seg : Bytes) (hseg : slash ∉ seg)
    (h : Inv r st) : Inv r (step r st seg) := by
  obtain ⟨k, ns, rfl, hns, hk⟩ := h
  by_cases h0 : seg = []
  · rw [h0, step_skip_nil]
    exact ⟨k, ns, rfl, hns, hk⟩
  by_cases h1 : seg = dot
  · rw [h1, step_skip_dot]
    exact ⟨k, ns, rfl, hns, hk⟩
  by_cases h2 : seg = dotdot
  · subst h2
    cases ns with
    | cons n ns =>
      obtain ⟨hn, hns⟩ := List.forall_mem_cons.mp hns
      rw [List.cons_append, step_pop r _ hn]
      exact ⟨k, ns, rfl, hns, hk⟩
    | nil =>
      cases r with
      | true =>
        rw [hk rfl]
        exact inv_nil true
      | false =>
        rw [List.nil_append, step_dotdot_unrooted]
        exact ⟨k + 1, [], rfl, by simp, by simp⟩
  · have hN : Normal seg := ⟨h0, h1, h2, hseg⟩
    rw [step_normal r _ hN]
    exact ⟨k, seg :: ns, rfl, List.forall_mem_cons.mpr ⟨hN, hns⟩, hk⟩

/-- The good lists: what `kept` produces. -/
def Good (rooted : Bool) (l : List Bytes) : Prop :=
  ∃ (k : Nat) (ns : List Bytes), l = List.replicate k dotdot ++ ns ∧ (∀ s ∈ ns, Normal s) ∧
    (rooted = true → k = 0)

theorem kept_good (p : Bytes) : Good (isRooted p) (kept p) := by
  obtain ⟨k, ns, hst, hns, hk⟩ : Inv (isRooted p) ((segs p).foldl (step (isRooted p)) []) :=
    List.foldlRecOn _ _ (inv_nil _) fun st hst s hs => inv_step _ st s (segs_noslash_mem p s hs) hst
  exact ⟨k, ns.reverse, by simp [kept, hst, List.reverse_append, List.reverse_replicate],
    fun s hs => hns s (List.mem_reverse.mp hs), hk⟩

theorem foldl_normals (r : Bool) (ns : List Bytes) (hns : ∀ s ∈ ns, Normal s)
    (acc : List Bytes) : ns.foldl (step r) acc = ns.reverse ++ acc := by
  induction ns generalizing acc with
  | nil => rfl
  | cons s t ih =>
    obtain ⟨hs, ht⟩ := List.forall_mem_cons.mp hns
    simp [step_normal r acc hs, ih ht]

theorem foldl_dotdots (k : Nat) :
    (List.replicate k dotdot).foldl (step false) [] = List.replicate k dotdot := by
  induction k with
  | zero => rfl
  | succ k ih =>
    rw [List.replicate_succ', List.foldl_append, ih, List.foldl_cons, List.foldl_nil, step_dotdot_unrooted,
      List.replicate_succ']

theorem refeed {r : Bool} {l : List Bytes} (h : Good r l) : l.foldl (step r) [] = l.reverse := by
  obtain ⟨k, ns, rfl, hns, hk⟩ := h
  have h0 : (List.replicate k dotdot).foldl (step r) [] = List.replicate k dotdot := by
    cases r with
    | true => rw [hk rfl]; rfl
    | false => exact foldl_dotdots k
  rw [List.foldl_append, h0, foldl_normals r ns hns, List.reverse_append, List.reverse_replicate]

theorem joinSegs_cons_head (b : UInt8) (r : Bytes) (t : List Bytes) :
    joinSegs ((b :: r) :: t) = b :: joinSegs (r :: t) := by
  cases t <;> rfl

theorem joinSegs_ne_nil {s : Bytes} (t : List Bytes) (hne : s ≠ []) : joinSegs (s :: t) ≠ [] := by
  obtain ⟨b, r, rfl⟩ := List.exists_cons_of_ne_nil hne
  rw [joinSegs_cons_head]
  exact List.cons_ne_nil _ _

theorem isRooted_append {s : Bytes} (t : Bytes) (hne : s ≠ []) :
    isRooted (s ++ t) = isRooted s := by
  cases s with
  | nil => exact absurd rfl hne
  | cons b r => rfl

theorem good_mem {r : Bool} {l : List Bytes} (h : Good r l) : ∀ s ∈ l, s = dotdot ∨ Normal s := by
  obtain ⟨k, ns, rfl, hns, _⟩ := h
  intro s hs
  exact (List.mem_append.mp hs).imp (fun h1 => (List.mem_replicate.mp h1).2) (hns s)

theorem good_noslash {r : Bool} {l : List Bytes} (h : Good r l) : ∀ s ∈ l, slash ∉ s :=
  fun s hs => (good_mem h s hs).elim (· ▸ dotdot_noslash) (·.noslash)

theorem good_ne_nil {r : Bool} {l : List Bytes} (h : Good r l) : ∀ s ∈ l, s ≠ [] :=
  fun s hs => (good_mem h s hs).elim (· ▸ dotdot_ne_nil) (·.ne_nil)

theorem good_ne_dot {r : Bool} {l : List Bytes} (h : Good r l) : ∀ s ∈ l, s ≠ dot :=
  fun s hs => (good_mem h s hs).elim (· ▸ dotdot_ne_dot) (·.ne_dot)

theorem isRooted_render (r : Bool) (l : List Bytes) (h : Good r l) :
    isRooted (render r l) = r := by
  cases r with
  | true => rfl
  | false =>
    cases l with
    | nil => decide
    | cons s t =>
      obtain ⟨b, s', rfl⟩ := List.exists_cons_of_ne_nil (good_ne_nil h s List.mem_cons_self)
      have hb : b ≠ slash := fun e => good_noslash h _ List.mem_cons_self (e ▸ List.mem_cons_self)
      simp [render, joinSegs_cons_head, isRooted, hb]

theorem segs_render (r : Bool) (l : List Bytes) (h : Good r l) :
    segs (render r l) =
      (if r then [[]] else []) ++ (if l = [] then (if r then [[]] else [dot]) else l) := by
  by_cases hl : l = []
  · subst hl
    cases r <;> decide
  · cases r <;> simp [render, hl, segs_cons_slash, segs_joinSegs l hl (good_noslash h)]

theorem kept_render (r : Bool) (l : List Bytes) (h : Good r l) : kept (render r l) = l := by
  unfold kept
  rw [isRooted_render r _ h, segs_render r _ h]
  by_cases hl : l = []
  · cases r <;> simp [hl, step_skip_nil, step_skip_dot]
  · cases r <;> simp [hl, step_skip_nil, refeed h]

theorem clean_rooted (p : Bytes) : isRooted (clean p) = isRooted p :=
  isRooted_render _ _ (kept_good p)

theorem clean_render {r : Bool} {l : List Bytes} (h : Good r l) : clean (render r l) = render r l := by
  unfold clean
  rw [isRooted_render r l h, kept_render r l h]

theorem clean_idem (p : Bytes) : clean (clean p) = clean p :=
  clean_render (kept_good p)

/-- Shape of a cleaned path: `k` leading `..` (none when rooted) followed by ordinary segments,
rendered with single slashes. -/
theorem clean_shape (p : Bytes) :
    ∃ (k : Nat) (ns : List Bytes), (∀ s ∈ ns, Normal s) ∧ (isRooted p = true → k = 0) ∧
      clean p = render (isRooted p) (List.replicate k dotdot ++ ns) := by
  obtain ⟨k, ns, hk, hns, hr⟩ := kept_good p
  exact ⟨k, ns, hns, hr, congrArg _ hk⟩

/-- The segments of a cleaned path: an initial empty segment exactly when rooted, then either
nothing else (`"/"`, or `"."` for unrooted) or only kept segments — none empty, none `.`, and `..`
only in front of an unrooted path. -/
theorem segs_clean (p : Bytes) :
    ∃ (k : Nat) (ns : List Bytes), (∀ s ∈ ns, Normal s) ∧ (isRooted p = true → k = 0) ∧
      segs (clean p) =
        (if isRooted p then [[]] else []) ++
          (if List.replicate k dotdot ++ ns = [] then (if isRooted p then [[]] else [dot])
           else List.replicate k dotdot ++ ns) := by
  obtain ⟨k, ns, hns, hr, hc⟩ := clean_shape p
  exact ⟨k, ns, hns, hr, hc ▸ segs_render _ _ ⟨k, ns, rfl, hns, hr⟩⟩

theorem clean_ne_nil (p : Bytes) : clean p ≠ [] := by
  unfold clean
  cases isRooted p with
  | true => exact List.cons_ne_nil _ _
  | false =>
    cases hk : kept p with
    | nil => decide
    | cons s t => exact joinSegs_ne_nil t (good_ne_nil (kept_good p) s (hk ▸ List.mem_cons_self))

theorem getLast?_joinSegs (l : List Bytes) (hne : l ≠ []) (hn : ∀ s ∈ l, s ≠ [])
    (hs : ∀ s ∈ l, slash ∉ s) : ∃ c, (joinSegs l).getLast? = some c ∧ c ≠ slash := by
  induction l with
  | nil => exact absurd rfl hne
  | cons s t ih =>
    obtain ⟨hn1, hn2⟩ := List.forall_mem_cons.mp hn
    obtain ⟨hs1, hs2⟩ := List.forall_mem_cons.mp hs
    cases t with
    | nil =>
      obtain ⟨c, hc⟩ := Option.isSome_iff_exists.mp (List.getLast?_isSome.mpr hn1)
      exact ⟨c, hc, fun e => hs1 (e ▸ List.mem_of_getLast? hc)⟩
    | cons t l =>
      obtain ⟨c, hc, hcs⟩ := ih (by simp) hn2 hs2
      exact ⟨c, by simp [joinSegs_cons_cons, List.getLast?_append, List.getLast?_cons, hc], hcs⟩

theorem clean_no_trailing_slash (p : Bytes) (h1 : clean p ≠ [slash]) :
    (clean p).getLast? ≠ some slash := by
  have h := kept_good p
  unfold clean at h1 ⊢
  cases hk : kept p with
  | nil =>
    rw [hk] at h1
    cases hr : isRooted p with
    | false => decide
    | true => exact absurd rfl (hr ▸ h1)
  | cons s t =>
    obtain ⟨c, hc, hcs⟩ :=
      getLast?_joinSegs (s :: t) (by simp) (hk ▸ good_ne_nil h) (hk ▸ good_noslash h)
    cases isRooted p with
    | false => simpa [render, hc] using hcs
    | true => simpa [render, List.getLast?_cons, hc] using hcs

theorem join_eq_clean (a b : Bytes) (ha : a ≠ []) (hb : b ≠ []) :
    join a b = clean (a ++ slash :: b) := by
  have h1 : joinRaw [a, b] = a ++ slash :: b := by simp [joinRaw, ha, hb]
  have h2 : a ++ slash :: b ≠ [] := by simp
  simp [join, joinList, h1]

theorem join3_nil_mid (a c : Bytes) : join3 a [] c = join a c := by
  simp [join3, join, joinList, joinRaw]

theorem join_nil_left (b : Bytes) (hb : b ≠ []) : join [] b = clean b := by
  simp [join, joinList, joinRaw, hb]

theorem join_nil_right (a : Bytes) (ha : a ≠ []) : join a [] = clean a := by
  simp [join, joinList, joinRaw, ha]

theorem split_noslash (f : Bytes) (h : slash ∉ f) : split f = ([], f) := by
  induction f with
  | nil => rfl
  | cons b r ih =>
    have hr := ih (fun hm => h (List.mem_cons_of_mem _ hm))
    have hb : b ≠ slash := fun e => h (by simp [e])
    simp [split, hr, hb]

theorem split_dir_file (d f : Bytes) (h : slash ∉ f) : split (d ++ slash :: f) = (d ++ [slash], f) := by
  induction d with
  | nil => simp [split, split_noslash f h]
  | cons b r ih => simp [split, ih]

theorem dropTrailingSlashes_id (p : Bytes) (hne : p ≠ []) (h : p.getLast hne ≠ slash) :
    dropTrailingSlashes p = p := by
  obtain ⟨q, x, rfl⟩ : ∃ q x, p = q ++ [x] := ⟨_, _, (List.dropLast_concat_getLast hne).symm⟩
  simp only [List.getLast_concat] at h
  simp [dropTrailingSlashes, h]

theorem split_spec (p : Bytes) :
    p = (split p).1 ++ (split p).2 ∧ slash ∉ (split p).2 ∧
      ((split p).1 = [] ∨ ∃ d, (split p).1 = d ++ [slash]) := by
  induction p with
  | nil => simp [split]
  | cons b r ih =>
    obtain ⟨h1, h2, h3⟩ := ih
    by_cases hd : (split r).1 = []
    · rw [hd, List.nil_append] at h1
      by_cases hb : b = slash
      · simpa [split, hd, hb, ← h1] using h2
      · simpa [split, hd, hb, ← h1, Ne.symm hb] using h2
    · obtain ⟨d, hd'⟩ := h3.resolve_left hd
      exact ⟨by simp [split, hd, ← h1], by simpa [split, hd] using h2,
        Or.inr ⟨b :: d, by simp [split, hd']⟩⟩

theorem clean_double_slash (d f : Bytes) :
    clean (d ++ slash :: slash :: f) = clean (d ++ slash :: f) := by
  have hr : isRooted (d ++ slash :: slash :: f) = isRooted (d ++ slash :: f) := by cases d <;> rfl
  unfold clean kept
  rw [hr, segs_append_slash, segs_append_slash, segs_cons_slash]
  simp only [List.foldl_append, List.foldl_cons, step_skip_nil]

theorem clean_trailing_slash (p : Bytes) (hne : p ≠ []) : clean (p ++ [slash]) = clean p := by
  unfold clean kept
  rw [isRooted_append _ hne, segs_append_slash, List.foldl_append, segs_nil]
  simp [step_skip_nil]

theorem join_split' (p : Bytes) (hp : p ≠ []) : join (split p).1 (split p).2 = clean p := by
  obtain ⟨h1, _, h3⟩ := split_spec p
  generalize (split p).1 = d at h1 h3 ⊢
  generalize (split p).2 = f at h1 ⊢
  subst h1
  rcases h3 with rfl | ⟨d, rfl⟩
  · exact join_nil_left f hp
  · by_cases hf : f = []
    · subst hf
      rw [List.append_nil]
      exact join_nil_right _ (by simp)
    · rw [join_eq_clean _ _ (by simp) hf, List.append_assoc, List.append_assoc]
      exact clean_double_slash d f

/-- The statement of DESIGN.md §4. -/
theorem join_split (p : Bytes) (hf : (split p).2 ≠ []) :
    join (split p).1 (split p).2 = clean p :=
  join_split' p fun hp => hf (congrArg (fun q => (split q).2) hp)

end RtVerif.GoPath
