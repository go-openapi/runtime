import RtVerif.Lemmas.C05DABuild
import RtVerif.Props.C05
/-  C05DA: the contract of `build` (by induction on its fuel) and what follows for `Router.Build`. -/
namespace RtVerif.C05DA
open RtVerif Bytes
open RtVerif.C05 (Rec cParam cWild cTerm cSep isReserved notKeySep notPathSep sortRecs advLit advSingle
  advWild leafOf hasSingle weight NulFree)

/-- the record lists `build` is called with under `Router.Build`: not empty, no NUL, and either all
keys used up (a leaf) or all keys still terminated -/
def Good (srcs : List Rec) : Prop :=
  srcs ≠ [] ∧ NulFree srcs ∧ ((∀ r ∈ srcs, r.key = []) ∨ TermAll srcs)

theorem Good.congr {l l' : List Rec} (h : Good l) (hm : ∀ r, r ∈ l' ↔ r ∈ l) : Good l' := by
  obtain ⟨hne, hn, hk⟩ := h
  refine ⟨?_, fun r hr => hn r ((hm r).mp hr), ?_⟩
  · obtain ⟨x, hx⟩ := List.exists_mem_of_ne_nil _ hne
    exact List.ne_nil_of_mem ((hm x).mpr hx)
  · exact hk.imp (fun hk r hr => hk r ((hm r).mp hr)) (fun hk r hr => hk r ((hm r).mp hr))

/-- What `build` and its loop over the siblings may return: a state (of which `Q` holds), or one of the
two legitimate refusals — a BASE beyond `MaxSize`, or a duplicated parameter name, and then one of the
records `L` has it.  Running out of fuel, a Go panic and "not sorted" are not among them. -/
def Res (Q : St → Prop) (L : List Rec) : Except Err St → Prop
  | .ok st' => Q st'
  | .error e => e = .tooManyElems ∨ (e = .dupName ∧ ∃ r ∈ L, C05.hasDup r.names = true)

theorem Res.of_error {Q Q' : St → Prop} {L L' : List Rec} {e : Err} (h : Res Q L (.error e))
    (hl : ∀ x ∈ L, x ∈ L') : Res Q' L' (.error e) :=
  h.imp_right fun ⟨he, r, hr, hd⟩ => ⟨he, r, hl r hr, hd⟩

/-- the contract of one `build` call with fuel `f`; the duplicated name of a refusal is among the
records `C05.build` scans -/
def BuildOK (rec : List Rec → Nat → St → Except Err St) (f : Nat) : Prop :=
  ∀ srcs idx st, Good srcs → weight srcs < f → Inv st → Alloc st.bc idx → FreshEl (el st.bc idx) →
    ((∀ r ∈ srcs, r.key = []) → idx < st.bc.size) → st.node.size + srcs.length ≤ bound →
    Res (fun st' => Inv st' ∧ Ext (· = idx) st st' ∧
        ReprOn (fun x => x = idx ∨ ¬Alloc st.bc x) st' idx (sortRecs srcs) ∧
        st.node.size < st'.node.size ∧ st'.node.size ≤ st.node.size + srcs.length)
      (C05.leaves f (sortRecs srcs)) (rec srcs idx st)

/-- the flag `build` sets in the parent for the sibling `c` -/
def flagOf (c : UInt8) (e : Elem) : Elem :=
  { e with single := e.single || c == cParam, wild := e.wild || c == cWild }

def flagSt (c : UInt8) (idx : Nat) (st : St) : St := { st with bc := upd st.bc idx (flagOf c) }

theorem upd_id (bc : BC) (idx : Nat) {f : Elem → Elem} (hf : ∀ e, f e = e) : upd bc idx f = bc := by
  apply Array.ext (size_upd _ _ _)
  intro i _ _
  simp only [upd, Array.getElem_modify]
  split <;> simp [hf]

/-- with the two slice-bounds panics out of the way, one round of the loop over the siblings -/
theorem buildSibs_cons_eq (rec : List Rec → Nat → St → Except Err St) (srcs : List Rec) (base idx : Nat)
    (s : Sib) (rest : List Sib) (st : St)
    (h1 : s.c = cParam → (slice srcs s).any (fun r => r.key.isEmpty) = false)
    (h2 : s.c = cWild → (slice srcs s).any (fun r => r.key.length < 2) = false) :
    buildSibs rec srcs base idx (s :: rest) st =
      match rec ((slice srcs s).map (strip s.c)) (nextIndex base s.c) (flagSt s.c idx st) with
      | .error e => .error e
      | .ok st' => buildSibs rec srcs base idx rest st' := by
  rw [buildSibs]
  unfold strip flagSt
  by_cases hp : s.c = cParam
  · have : (fun e : Elem => e.setSingle) = flagOf s.c := by
      funext e; rw [hp]; simp [Elem.setSingle, flagOf, show (cParam == cWild) = false by decide]
    simp only [show (s.c == cParam) = true by simpa using hp, ↓reduceIte, h1 hp, Bool.false_eq_true, this]
    rfl
  · have e1 : (s.c == cParam) = false := by simpa using hp
    by_cases hw : s.c = cWild
    · have : (fun e : Elem => e.setWild) = flagOf s.c := by
        funext e; rw [hw]; simp [Elem.setWild, flagOf, C05.cWild_ne_cParam]
      simp only [e1, show (s.c == cWild) = true by simpa using hw, ↓reduceIte, h2 hw, Bool.false_eq_true, this]
      rfl
    · have e2 : (s.c == cWild) = false := by simpa using hw
      rw [upd_id st.bc idx (f := flagOf s.c) fun e => by simp [flagOf, e1, e2]]
      simp only [e1, e2, Bool.false_eq_true, ↓reduceIte]
      rfl

theorem flagSt_el_ne (c : UInt8) {idx x : Nat} (st : St) (h : x ≠ idx) :
    el (flagSt c idx st).bc x = el st.bc x := by
  show el (upd _ _ _) x = _
  rw [el_upd, if_neg fun h' => h h'.1.symm]

theorem flagSt_el_idx (c : UInt8) {idx : Nat} (st : St) (h : idx < st.bc.size) :
    el (flagSt c idx st).bc idx = flagOf c (el st.bc idx) := by
  show el (upd _ _ _) idx = _
  rw [el_upd, if_pos ⟨rfl, h⟩]

theorem flagSt_own (c : UInt8) (idx : Nat) (st : St) :
    Ext (· = idx) st (flagSt c idx st) ∧ (Inv st → Alloc st.bc idx → Inv (flagSt c idx st)) :=
  own_write (st := st) (idx := idx) (f := flagOf c) (fun _ => rfl) (fun _ _ => rfl) (Nat.le_refl _)

theorem nulFree_childOf {c : UInt8} {rs : List Rec} (hN : NulFree rs) : NulFree (childOf c rs) := by
  unfold childOf
  split
  · exact C05.nulFree_advSingle hN
  · split
    · intro r hr; rw [advWild_keys rs r hr]; simp
    · exact C05.nulFree_advLit hN

theorem good_child {c : UInt8} (hc : c ≠ 0) {rs : List Rec} (hT : TermAll rs) (hN : NulFree rs)
    (hne : childOf c rs ≠ []) : Good (group c rs) := by
  have hgood : Good (childOf c rs) := by
    refine ⟨hne, nulFree_childOf hN, ?_⟩
    by_cases h1 : c = cParam
    · subst h1; rw [childOf_param]; exact Or.inr (termAll_advSingle hT)
    · by_cases h2 : c = cWild
      · subst h2; rw [childOf_wild]; exact Or.inl (advWild_keys rs)
      · rw [childOf_lit rs h1 h2]
        by_cases h3 : c = cTerm
        · subst h3; exact Or.inl (advLit_term_keys hT)
        · exact Or.inr (termAll_advLit hT h3)
  exact hgood.congr fun r => (perm_childOf hc rs).mem_iff.symm

theorem leaves_child {c : UInt8} (hc : c ≠ 0) {rs : List Rec} (hex : ∃ r ∈ rs, headOf r = c)
    (f : Nat) {x : Rec} (hx : x ∈ C05.leaves f (childOf c rs)) : x ∈ C05.leaves (f + 1) rs := by
  obtain ⟨r, hr, hh⟩ := hex
  obtain ⟨k, hk⟩ := key_of_headOf hh hc
  exact mem_leaves_succ.mpr (Or.inr ⟨c, ⟨r, hr, by rw [hk]; rfl⟩, hx⟩)

/-- every record `C05.build` scans for duplicated names is a leaf `makeNode` has accepted -/
theorem ReprOn.leaves_clean {S : Nat → Prop} {st : St} {idx : Nat} {rs : List Rec}
    (h : ReprOn S st idx rs) (hN : NulFree rs) :
    ∀ (f : Nat), ∀ r ∈ C05.leaves f rs, C05.hasDup r.names = false := by
  induction h with
  | leaf idx rs r0 _ _ _ hk hl hd _ =>
    intro f r hr
    cases f with
    | zero => cases hr
    | succ f =>
      rcases mem_leaves_succ.mp hr with h | ⟨c, ⟨x, hx, hc⟩, _⟩
      · rw [hl] at h; cases h; exact hd
      · rw [hk x hx] at hc; cases hc
  | inner idx rs _ _ _ hne hk _ _ _ _ _ _ ih =>
    intro f r hr
    cases f with
    | zero => cases hr
    | succ f =>
      rcases mem_leaves_succ.mp hr with h | ⟨c, ⟨x, hx, hc⟩, hr'⟩
      · rw [leafOf_none_of_keys hk] at h; cases h
      · obtain ⟨k, hxk⟩ : ∃ k, x.key = c :: k := by
          cases hxk : x.key with
          | nil => rw [hxk] at hc; cases hc
          | cons b k => rw [hxk] at hc; cases hc; exact ⟨k, rfl⟩
        have hc0 : c ≠ 0 := fun h0 => hN x hx (by rw [hxk, h0]; exact List.mem_cons_self)
        exact ih c hc0 ((childOf_ne_nil_iff hc0).mpr ⟨x, hx, headOf_cons hxk⟩) (nulFree_childOf hN) f r hr'

theorem leaves_nil (f : Nat) : C05.leaves f [] = [] := by
  cases f with
  | zero => rfl
  | succ f =>
    apply List.eq_nil_iff_forall_not_mem.mpr
    intro x hx
    rcases mem_leaves_succ.mp hx with h | ⟨c, ⟨r, hr, _⟩, _⟩
    · cases h
    · cases hr

theorem length_filter_split (p : Rec → Bool) (l : List Rec) :
    (l.filter p).length + (l.filter fun r => !p r).length = l.length := by
  induction l with
  | nil => rfl
  | cons x xs ih =>
    simp only [List.filter_cons]
    cases p x <;> simp <;> omega

def groupsLen (rs : List Rec) (sibs : List Sib) : Nat :=
  (sibs.map fun s => (rs.filter (headIs s.c)).length).sum

theorem groupsLen_le : ∀ {sibs : List Sib}, (sibs.map (·.c)).Nodup → ∀ rs : List Rec,
    groupsLen rs sibs ≤ rs.length := by
  intro sibs
  induction sibs with
  | nil => intro _ rs; simp [groupsLen]
  | cons s sibs ih =>
    intro hnd rs
    rw [List.map_cons, List.nodup_cons] at hnd
    -- the other groups are groups of the records that do not start with `s.c`
    have hrest : groupsLen rs sibs = groupsLen (rs.filter fun r => !headIs s.c r) sibs := by
      apply congrArg List.sum
      apply List.map_congr_left
      intro s' hs'
      rw [List.filter_filter]
      congr 1
      apply List.filter_congr
      intro r _
      have hne : s'.c ≠ s.c := fun h => hnd.1 (h ▸ List.mem_map.mpr ⟨s', hs', rfl⟩)
      by_cases hh : headIs s'.c r = true
      · simp only [headIs, beq_iff_eq] at hh
        simp [headIs, hh, hne]
      · simp [hh]
    have hih := ih hnd.2 (rs.filter fun r => !headIs s.c r)
    have := length_filter_split (headIs s.c) rs
    simp only [groupsLen, List.map_cons, List.sum_cons] at hrest hih ⊢
    omega

theorem buildSibs_ok {rec : List Rec → Nat → St → Except Err St} {f : Nat} (hrec : BuildOK rec f)
    {rs : List Rec} {base idx : Nat} (hs : rs.Pairwise C05.KeyLe) (hT : TermAll rs) (hN : NulFree rs)
    (hw : weight rs ≤ f) :
    ∀ (sibs : List Sib) (st : St),
      (∀ s ∈ sibs, slice rs s = rs.filter (headIs s.c) ∧ s.c ≠ 0 ∧ ∃ r ∈ rs, headOf r = s.c) →
      (sibs.map (·.c)).Nodup → Inv st → Alloc st.bc idx → idx < st.bc.size →
      (∀ s ∈ sibs, nextIndex base s.c ≠ idx ∧ el st.bc (nextIndex base s.c) = ({ check := s.c } : Elem)) →
      st.node.size + groupsLen rs sibs ≤ bound →
      Res (fun st' => Inv st' ∧ Ext (fun x => x = idx ∨ ∃ s ∈ sibs, x = nextIndex base s.c) st st' ∧
          (∀ s ∈ sibs, ReprOn (fun x => x = nextIndex base s.c ∨ ¬Alloc st.bc x) st'
            (nextIndex base s.c) (childOf s.c rs)) ∧
          el st'.bc idx = { el st.bc idx with
            single := (el st.bc idx).single || sibs.any (·.c == cParam),
            wild := (el st.bc idx).wild || sibs.any (·.c == cWild) } ∧
          (sibs ≠ [] → st.node.size < st'.node.size) ∧
          st'.node.size ≤ st.node.size + groupsLen rs sibs)
        (C05.leaves (f + 1) rs) (buildSibs rec rs base idx sibs st) := by
  intro sibs
  induction sibs with
  | nil =>
    intro st _ _ hinv _ _ _ _
    exact ⟨hinv, Ext.refl _ _, by simp, by simp, by simp, by simp [groupsLen]⟩
  | cons s rest ih =>
    intro st hsl hnd hinv hal hlt hfresh hbound
    obtain ⟨hslice, hc0, hex⟩ := hsl s List.mem_cons_self
    rw [List.map_cons, List.nodup_cons] at hnd
    obtain ⟨hn_idx, hn_el⟩ := hfresh s List.mem_cons_self
    have hglen : groupsLen rs (s :: rest) = (rs.filter (headIs s.c)).length + groupsLen rs rest := by
      simp [groupsLen]
    -- the slices `build` takes do not panic: the keys of the group are still terminated
    have hgroup : ∀ r ∈ rs.filter (headIs s.c), TermOK r.key := fun r hr => hT r (List.mem_filter.mp hr).1
    have h1 : s.c = cParam → (slice rs s).any (fun r => r.key.isEmpty) = false := by
      intro _
      rw [hslice, List.any_eq_false]
      intro r hr he
      exact (hgroup r hr).ne_nil (by simpa using he)
    have h2 : s.c = cWild → (slice rs s).any (fun r => r.key.length < 2) = false := by
      intro hw
      rw [hslice, List.any_eq_false]
      intro r hr he
      obtain ⟨body, hk, hb⟩ := hgroup r hr
      have hhead := (List.mem_filter.mp hr).2
      simp only [headIs, headOf, beq_iff_eq] at hhead
      cases body with
      | nil =>
        rw [hk, hw] at hhead
        exact absurd hhead (by decide)
      | cons b body' =>
        rw [hk] at he
        simp at he
        omega
    rw [buildSibs_cons_eq rec rs base idx s rest st h1 h2, hslice]
    obtain ⟨hexta, hinva⟩ := flagSt_own s.c idx st
    have hsta_n : el (flagSt s.c idx st).bc (nextIndex base s.c) = ({ check := s.c } : Elem) := by
      rw [flagSt_el_ne _ _ hn_idx, hn_el]
    have hsta_alloc : Alloc (flagSt s.c idx st).bc (nextIndex base s.c) := by
      right; rw [hsta_n]; exact hc0
    have hne := (childOf_ne_nil_iff hc0).mpr hex
    have hcall := hrec (group s.c rs) _ _ (good_child hc0 hT hN hne)
      (by rw [← C05.weight_perm (perm_childOf hc0 rs)]; exact Nat.lt_of_lt_of_le (weight_childOf_lt hc0 hne) hw)
      (hinva hinv hal) hsta_alloc (by rw [hsta_n]; exact ⟨rfl, rfl, rfl⟩)
      (fun _ => check_lt_size (c := s.c) (by rw [hsta_n]) hc0)
      (by
        show st.node.size + _ ≤ bound
        rw [group, List.length_map]; rw [hglen] at hbound; omega)
    rw [← child_eq hc0 hs] at hcall
    show Res _ _ (match rec (group s.c rs) _ _ with | .error e => .error e | .ok st' => _)
    cases hb : rec (group s.c rs) (nextIndex base s.c) (flagSt s.c idx st) with
    | error e =>
      rw [hb] at hcall
      exact hcall.of_error fun x hx => leaves_child hc0 hex f hx
    | ok stb =>
      rw [hb] at hcall
      obtain ⟨hinvb, hextb, hreprb, hnlt, hnle⟩ := hcall
      change st.node.size < _ at hnlt
      change _ ≤ st.node.size + _ at hnle
      rw [group, List.length_map] at hnle
      -- the remaining siblings are still as their parent left them
      have hrest_slot : ∀ s' ∈ rest, nextIndex base s'.c ≠ nextIndex base s.c := fun s' hs' heq =>
        hnd.1 (by rw [← nextIndex_inj heq]; exact List.mem_map.mpr ⟨s', hs', rfl⟩)
      have hfresh' : ∀ s' ∈ rest, nextIndex base s'.c ≠ idx ∧
          el stb.bc (nextIndex base s'.c) = ({ check := s'.c } : Elem) := by
        intro s' hs'
        obtain ⟨h1, h2⟩ := hfresh s' (List.mem_cons_of_mem _ hs')
        have hal' : Alloc (flagSt s.c idx st).bc (nextIndex base s'.c) :=
          hexta.alloc (Or.inr (by rw [h2]; exact (hsl s' (List.mem_cons_of_mem _ hs')).2.1))
        exact ⟨h1, by rw [hextb.keep _ hal' (hrest_slot s' hs'), flagSt_el_ne _ _ h1, h2]⟩
      have hltb : idx < stb.bc.size := by
        have := hextb.size; have := hexta.size; omega
      have hrest := ih stb (fun s' hs' => hsl s' (List.mem_cons_of_mem _ hs')) hnd.2 hinvb
        (hextb.alloc (hexta.alloc hal)) hltb hfresh' (by rw [hglen] at hbound; omega)
      show Res _ _ (buildSibs rec rs base idx rest stb)
      cases hr : buildSibs rec rs base idx rest stb with
      | error e => rw [hr] at hrest; exact hrest.of_error fun _ hx => hx
      | ok st' =>
        rw [hr] at hrest
        obtain ⟨hinv', hext', hrepr', hel', hnlt', hnle'⟩ := hrest
        refine ⟨hinv', ?_, ?_, ?_, ?_, ?_⟩
        · refine ((hexta.trans hextb).trans hext').weaken ?_
          rintro x _ ((hx | hx) | hx | ⟨s', hs', hx⟩)
          · exact Or.inl hx
          · exact Or.inr ⟨s, List.mem_cons_self, hx⟩
          · exact Or.inl hx
          · exact Or.inr ⟨s', List.mem_cons_of_mem _ hs', hx⟩
        · intro s' hs'
          rcases List.mem_cons.mp hs' with rfl | hs'
          · have hst := hreprb.stable hext' (by
              rintro x hx (hp | ⟨s'', hs'', hp⟩)
              · rcases hx with hx | hx
                · exact hn_idx (hx ▸ hp)
                · exact hx (hp ▸ hexta.alloc hal)
              · rcases hx with hx | hx
                · exact hrest_slot s'' hs'' (hp ▸ hx)
                · apply hx
                  rw [hp]
                  refine hexta.alloc (Or.inr ?_)
                  rw [(hfresh s'' (List.mem_cons_of_mem _ hs'')).2]
                  exact (hsl s'' (List.mem_cons_of_mem _ hs'')).2.1)
            exact hst.mono fun x hx => hx.imp_right fun hx ha => hx (hexta.alloc ha)
          · exact (hrepr' s' hs').mono fun x hx =>
              hx.imp_right fun hx ha => hx (hextb.alloc (hexta.alloc ha))
        · rw [hel', hextb.keep idx (hexta.alloc hal) (Ne.symm hn_idx), flagSt_el_idx _ _ hlt]
          simp [flagOf, Bool.or_assoc]
        · intro _; have := hext'.nsize; omega
        · rw [hglen]; omega

/-- **`build` meets its contract**: called as `Router.Build` calls it, with fuel beyond the weight of
its records, it neither runs out of fuel nor panics nor finds the table unsorted; it leaves arrays that
represent the trie of its records, or refuses a BASE beyond `MaxSize`, or a duplicated name. -/
theorem build_ok : ∀ f : Nat, BuildOK (build f) f := by
  intro f
  induction f with
  | zero => intro srcs idx st _ hw; omega
  | succ f ih =>
    intro srcs idx st hgood hw hinv hal hfr hidx hbound
    have hgood' : Good (sortRecs srcs) := hgood.congr (fun r => C05.mem_sortRecs)
    have hsorted := C05.sorted_sortRecs srcs
    have hlen : (sortRecs srcs).length = srcs.length := (C05.perm_sortRecs srcs).length_eq
    have hw' : weight (sortRecs srcs) ≤ f := by rw [C05.weight_sortRecs]; omega
    have hidx' : (∀ r ∈ sortRecs srcs, r.key = []) → idx < st.bc.size :=
      fun h => hidx fun r hr => h r (C05.mem_sortRecs.mpr hr)
    rw [build]
    generalize sortRecs srcs = rs at hgood' hsorted hlen hw' hidx' ⊢
    obtain ⟨hne, hN, hkeys⟩ := hgood'
    have hpos : 0 < srcs.length := hlen ▸ List.length_pos_iff.mpr hne
    rcases hkeys with hk | hT
    · rw [mkSiblings_leaf hk]
      obtain ⟨r, hleaf⟩ : ∃ r, leafOf rs = some r := by
        rw [leafOf_of_keys_nil hk]
        cases rs with
        | nil => exact absurd rfl hne
        | cons x xs => exact ⟨_, List.getLast?_cons⟩
      have harr : arrange [] idx st = .ok (st, 0) := rfl
      simp only [harr, hleaf, leafStep]
      by_cases hnd : C05.hasDup r.names = true
      · rw [if_pos hnd]
        exact Or.inr ⟨rfl, r, mem_leaves_succ.mpr (Or.inl hleaf), hnd⟩
      · rw [if_neg hnd, if_pos (hidx' hk)]
        obtain ⟨hext, hinv'⟩ := own_write (st := st) (idx := idx) (f := (·.setBase st.node.size))
          (node' := st.node.push (some ⟨r.names, r.val⟩)) (fun _ => rfl)
          (fun i hi => by rw [Array.getElem?_push, if_neg (by omega)]) (by simp)
        refine ⟨hinv' hinv hal, hext, ReprOn.leaf idx rs r (Or.inl rfl) (hext.alloc hal) ?_ hk hleaf
          (by simpa using hnd) ?_, by simp, by simp; omega⟩
        · show idx < (upd _ _ _).size
          rw [size_upd]; exact hidx' hk
        · show (st.node.push _)[(el (upd _ _ _) idx).base]? = _
          rw [el_upd, if_pos ⟨rfl, hidx' hk⟩, setBase_fresh hfr.1 (by omega)]
          simp
    · have hkne : ∀ r ∈ rs, r.key ≠ [] := fun r hr => (hT r hr).ne_nil
      have hh0 : ∀ r ∈ rs, headOf r ≠ 0 := by
        intro r hr h0
        have hn := hN r hr
        cases hkr : r.key with
        | nil => exact hkne r hr hkr
        | cons b k =>
          simp only [headOf, hkr, List.headD_cons] at h0
          rw [hkr, h0] at hn
          exact hn List.mem_cons_self
      obtain ⟨sibs, hmk, hok⟩ := mkSiblings_inner hne hsorted hkne hh0
      rw [hmk]
      simp only
      have hnd : (sibs.map (·.c)).Nodup := hok.sorted.imp UInt8.ne_of_lt
      have hex : ∀ s ∈ sibs, ∃ r ∈ rs, headOf r = s.c := fun s hs =>
        (hok.chars s.c).mp (List.mem_map.mpr ⟨s, hs, rfl⟩)
      have hc0 : ∀ s ∈ sibs, s.c ≠ 0 := fun s hs h0 => by
        obtain ⟨r, hr, hh⟩ := hex s hs
        exact hh0 r hr (hh.trans h0)
      have hsne : sibs ≠ [] := by
        obtain ⟨x, hx⟩ := List.exists_mem_of_ne_nil _ hne
        have := (hok.chars (headOf x)).mpr ⟨x, hx, rfl⟩
        exact fun hnil => by rw [hnil] at this; cases this
      have hchild : ∀ c : UInt8, c ≠ 0 → (childOf c rs ≠ [] ↔ ∃ s ∈ sibs, s.c = c) := by
        intro c hc
        rw [childOf_ne_nil_iff hc, ← hok.chars, List.mem_map]
      rcases place_ok hsne hnd hc0 hinv hal hfr with
        harr | ⟨base, bc1, bc3, harr, hset, hinv3, hext3, hidx3, hel3, hslots, hedge3⟩
      · rw [harr]; exact Or.inl rfl
      · rw [harr]
        simp only [leafStep, hset]
        have hglen := groupsLen_le hnd rs
        have hres := buildSibs_ok (idx := idx) (base := base) ih hsorted hT hN hw' sibs
          ⟨bc3, st.node, base :: st.used⟩ (fun s hs => ⟨hok.slices s hs, hc0 s hs, hex s hs⟩) hnd hinv3
          (hext3.alloc hal) hidx3 (fun s hs => (hslots s hs).2)
          (by show st.node.size + _ ≤ bound; omega)
        cases hr : buildSibs (build f) rs base idx sibs ⟨bc3, st.node, base :: st.used⟩ with
        | error e => rw [hr] at hres; exact hres.of_error fun _ hx => hx
        | ok st' =>
          rw [hr] at hres
          obtain ⟨hinv', hext', hrepr', hel', hnlt', hnle'⟩ := hres
          dsimp only at hel' hnlt' hnle'
          have hextAll : Ext (· = idx) st st' := by
            refine (hext3.trans hext').weaken ?_
            rintro x ha (hx | hx | ⟨s, hs, hx⟩)
            · exact hx
            · exact hx
            · exact absurd (hx ▸ ha) (hslots s hs).1
          have hbase' : (el st'.bc idx).base = base := by rw [hel', hel3]
          have hany : ∀ c : UInt8, c ≠ 0 → sibs.any (·.c == c) = !(childOf c rs).isEmpty := by
            intro c hc
            rw [Bool.eq_iff_iff]
            simp only [List.any_eq_true, beq_iff_eq, Bool.not_eq_true', List.isEmpty_eq_false_iff]
            exact (hchild c hc).symm
          refine ⟨hinv', hextAll, ?_, hnlt' hsne, by omega⟩
          refine ReprOn.inner idx rs (Or.inl rfl) (hextAll.alloc hal)
            (Nat.lt_of_lt_of_le hidx3 hext'.size) hne hkne ?_ ?_ ?_ ?_ ?_ ?_
          · rw [hbase']
            exact hext'.used _ List.mem_cons_self
          · rw [hel', hel3, hany cParam (by decide), childOf_param, ← hasSingle_eq]
            show ((el st.bc idx).single || hasSingle rs) = _
            rw [hfr.2.1, Bool.false_or]
          · rw [hel', hel3, hany cWild (by decide), childOf_wild]
            show ((el st.bc idx).wild || _) = _
            rw [hfr.2.2, Bool.false_or]
          · intro c hc hnil
            rw [hbase']
            have hns : ∀ s ∈ sibs, s.c ≠ c := fun s hs hsc => (hchild c hc).mpr ⟨s, hs, hsc⟩ hnil
            exact fun hcc => hedge3 c hc hns ((hext'.edge_iff List.mem_cons_self hc).mp hcc)
          · intro c hc hnn
            rw [hbase']
            obtain ⟨s, hs, rfl⟩ := (hchild c hc).mp hnn
            exact (hext'.edge_iff List.mem_cons_self hc).mpr (by show (el bc3 _).check = _; rw [(hslots s hs).2.2])
          · intro c hc hnn
            rw [hbase']
            obtain ⟨s, hs, rfl⟩ := (hchild c hc).mp hnn
            refine (hrepr' s hs).mono ?_
            rintro x (hx | hx)
            · exact Or.inr (hx ▸ (hslots s hs).1)
            · exact Or.inr fun ha => hx (hext3.alloc ha)

theorem termAll_paramRecs {recs : List (Bytes × Nat)}
    (hbad : ∀ kv ∈ recs, C05.isParamKey kv.1 = true → C05.isBadKey kv.1 = false) :
    TermAll (C05.paramRecs recs) := by
  intro r hr
  obtain ⟨kv, hkv, hpk, rfl⟩ := C05.mem_paramRecs.mp hr
  have := hbad kv hkv hpk
  simp only [C05.isBadKey, Bool.or_eq_false_iff] at this
  exact ⟨kv.1, rfl, C05.contains_false this.1⟩

theorem inv_new : Inv St.new := by
  have hel : ∀ s, el St.new.bc s = {} := by
    intro s
    cases s with
    | zero => rfl
    | succ s => exact el_of_ge (Nat.succ_le_succ (Nat.zero_le s))
  exact ⟨fun s hs => absurd (by rw [hel]) hs, fun s _ => hel s⟩

theorem build_nil (f : Nat) : build (f + 1) [] rootIndex St.new = .ok St.new := rfl

/-- the first test of both `Build`s: some parameterised key contains '#' or NUL -/
def hasBad (recs : List (Bytes × Nat)) : Bool :=
  (recs.filter fun kv => C05.isParamKey kv.1).any fun kv => C05.isBadKey kv.1

/-- the duplicate-name scan of `C05.build`, its fuel written as the array `Build` has it -/
def hasDupLeaf (recs : List (Bytes × Nat)) : Bool :=
  (C05.leaves (buildFuel recs) (sortRecs (C05.paramRecs recs))).any fun r => C05.hasDup r.names

theorem hasBad_false {recs : List (Bytes × Nat)} :
    hasBad recs = false ↔ ∀ kv ∈ recs, C05.isParamKey kv.1 = true → C05.isBadKey kv.1 = false := by
  simp only [hasBad, List.any_eq_false, List.mem_filter, and_imp, Bool.not_eq_true]

theorem trieBuild_eq (recs : List (Bytes × Nat)) :
    C05.build recs =
      if hasBad recs = true then .errReserved
      else if hasDupLeaf recs = true then .errDupName
      else .ok ⟨recs.filter fun kv => !C05.isParamKey kv.1, sortRecs (C05.paramRecs recs)⟩ := by
  unfold C05.build hasBad hasDupLeaf buildFuel
  simp only [C05.weight_sortRecs]

theorem trieBuild_ok {recs : List (Bytes × Nat)} {t : C05.Table} (h : C05.build recs = .ok t) :
    hasBad recs = false ∧ hasDupLeaf recs = false := by
  rw [trieBuild_eq] at h
  cases h1 : hasBad recs <;> cases h2 : hasDupLeaf recs <;> simp [h1, h2] at h ⊢

theorem routerBuild_reserved {recs : List (Bytes × Nat)} (h : hasBad recs = true) :
    routerBuild recs = .error .reserved := by
  unfold routerBuild; rw [show (List.any _ _) = true from h]; rfl

/-- **`Router.Build` on records without a bad key**: it refuses the table for its size or for a
duplicated parameter name that `C05.build` scans too, or it returns a router; then that scan is
clean, and the arrays are the initial ones (no parameterised record) or represent the trie of the
sorted parameterised records. -/
theorem routerBuild_good {recs : List (Bytes × Nat)} (hbad0 : hasBad recs = false) :
    match routerBuild recs with
    | .error e => e = .tooManyRecords ∨ e = .tooManyElems ∨ (e = .dupName ∧ hasDupLeaf recs = true)
    | .ok rt =>
      hasDupLeaf recs = false ∧ rt.statics = recs.filter (fun kv => !C05.isParamKey kv.1) ∧
      rt.fuel = buildFuel recs ∧
      (C05.paramRecs recs = [] ∧ rt.bc = St.new.bc ∧ rt.node = St.new.node ∨
        C05.paramRecs recs ≠ [] ∧ Repr rt.bc rt.node rootIndex (sortRecs (C05.paramRecs recs)) ∧
          1 < rt.node.size) := by
  have hbad := hasBad_false.mp hbad0
  unfold routerBuild
  rw [show (List.any _ _) = false from hbad0]
  simp only [Bool.false_eq_true, ↓reduceIte]
  by_cases hlen : (C05.paramRecs recs).length > maxSize
  · rw [if_pos hlen]; exact Or.inl rfl
  · rw [if_neg hlen]
    by_cases hp : C05.paramRecs recs = []
    · have hf : buildFuel recs = 0 + 1 := by unfold buildFuel; rw [hp]; rfl
      rw [hp, hf, build_nil]
      refine ⟨?_, rfl, rfl, Or.inl ⟨rfl, rfl, rfl⟩⟩
      rw [hasDupLeaf, hp, show sortRecs [] = [] from rfl, leaves_nil]
      rfl
    · have hT := termAll_paramRecs hbad
      have hN : NulFree (sortRecs (C05.paramRecs recs)) := fun r hr =>
        C05.nulFree_paramRecs hbad r (C05.mem_sortRecs.mp hr)
      have hres := build_ok (buildFuel recs) (C05.paramRecs recs) rootIndex St.new
        ⟨hp, C05.nulFree_paramRecs hbad, Or.inr hT⟩ (Nat.lt_succ_self _) inv_new (Or.inl rfl)
        (by rw [el_of_ge (Nat.le_refl 1)]; exact ⟨rfl, rfl, rfl⟩)
        (fun hk => by
          obtain ⟨x, hx⟩ := List.exists_mem_of_ne_nil _ hp
          exact absurd (hk x hx) (hT x hx).ne_nil)
        (by show 1 + _ ≤ bound; unfold bound; unfold maxSize at hlen; omega)
      cases h : build (buildFuel recs) (C05.paramRecs recs) rootIndex St.new with
      | error e =>
        rw [h] at hres
        exact Or.inr (hres.imp_right fun ⟨he, r, hr, hd⟩ => ⟨he, List.any_eq_true.mpr ⟨r, hr, hd⟩⟩)
      | ok st =>
        rw [h] at hres
        obtain ⟨_, _, hrepr, hnlt, _⟩ := hres
        refine ⟨?_, rfl, rfl, Or.inr ⟨hp, hrepr.toRepr, hnlt⟩⟩
        exact List.any_eq_false.mpr fun r hr => by rw [hrepr.leaves_clean hN _ r hr]; exact Bool.false_ne_true

end RtVerif.C05DA
