import RtVerif.Model.C12
/-
  C12: the scripted body and `drainingReadCloser` (part D); the invariant `Inv` of the call LTS (part F)
  with what holds of the start state and of well-formed plans.
-/
namespace RtVerif.C12
open RtVerif

/-! ## Regenerated facts (they fail first, and fast, when the code changes) -/

theorem fact_eof_only : Facts.c12MarkOnZero = false := by decide
theorem fact_timeout_zero : Facts.c12TimeoutZeroMeansNone = true := by decide
theorem fact_release : Facts.c12ReleaseOnError = true := by decide
theorem fact_defer : Facts.c12FilesDeferFirst = true := by decide
theorem fact_defers_submit : Facts.c12DefersCancelAndClose = true := by decide

theorem amount_le (b : Option Beh) (k a : Nat) : amount b k a ≤ a := by
  unfold amount; split <;> omega

theorem amount_none_pos (k a : Nat) (hk : 0 < k) (ha : 0 < a) : 0 < amount none k a := by
  simp only [amount]; omega

theorem read_closes (u : Under) (k : Nat) :
    (u.read k).1.closes = u.closes ∧ (u.read k).1.endAtClose = u.endAtClose := by
  unfold Under.read; simp only []; split
  · simp
  · split <;> simp

theorem read_err_atEnd (u : Under) (k : Nat) (h : (u.read k).2.err.isSome) :
    (u.read k).1.atEnd = true ∧ (u.read k).1.rest = [] := by
  unfold Under.read at *; grind

theorem read_atEnd_mono (u : Under) (k : Nat) (h : u.atEnd = true → u.rest = []) :
    (u.atEnd = true → (u.read k).1.atEnd = true) ∧ ((u.read k).1.atEnd = true → (u.read k).1.rest = []) := by
  unfold Under.read; simp only []; split
  · rename_i he; simp at he; simp [he]
  · rename_i he; split
    · rename_i hc
      simp only [Bool.and_eq_true, decide_eq_true_eq, beq_iff_eq] at hc
      simp [hc.2]
    · constructor
      · intro ha; simp [h ha] at he
      · intro ha; simp at ha; simp [h ha] at he

theorem read_progress (u : Under) (k : Nat) (hk : 0 < k) (h : (u.read k).2.err.isSome = false) :
    (u.read k).1.sched.length + (u.read k).1.rest.length < u.sched.length + u.rest.length := by
  unfold Under.read at *; simp only [] at *; split
  · rename_i he; rw [if_pos he] at h; simp at h
  · rename_i he
    have hr : 0 < u.rest.length := by
      cases hrr : u.rest with
      | nil => simp [hrr] at he
      | cons a t => simp
    have key : (u.sched.tail).length + (u.rest.drop (amount u.sched.head? k u.rest.length)).length
        < u.sched.length + u.rest.length := by
      cases hs : u.sched with
      | nil =>
        have := amount_none_pos k u.rest.length hk hr
        simp [List.length_drop]; omega
      | cons b t => simp [List.length_drop]; omega
    split <;> simpa using key

theorem drainFuel_spec : ∀ (f : Nat) (u : Under), u.sched.length + u.rest.length < f →
    (drainFuel f u).atEnd = true ∧ (drainFuel f u).rest = [] ∧ (drainFuel f u).closes = u.closes
      ∧ (drainFuel f u).endAtClose = u.endAtClose := by
  intro f
  induction f with
  | zero => intro u h; omega
  | succ f ih =>
    intro u h
    unfold drainFuel; simp only []
    have hc := read_closes u 8192
    split
    · rename_i he
      have := read_err_atEnd u 8192 he
      exact ⟨this.1, this.2, hc.1, hc.2⟩
    · rename_i he
      have hp := read_progress u 8192 (by decide) (by simpa using he)
      have := ih (u.read 8192).1 (by omega)
      exact ⟨this.1, this.2.1, by rw [this.2.2.1, hc.1], by rw [this.2.2.2, hc.2]⟩

theorem drain_spec (u : Under) :
    (drain u).atEnd = true ∧ (drain u).rest = [] ∧ (drain u).closes = u.closes ∧ (drain u).endAtClose = u.endAtClose :=
  drainFuel_spec _ u (by omega)

/-- invariant of the wrapper along `Drc.read false` (the condition `err == io.EOF`); with `true` (`|| n == 0`) the
second clause fails: `f12b_real_before_fix` -/
def DInv (d : Drc) : Prop := (d.u.atEnd = true → d.u.rest = []) ∧ (d.seenEOF = true → d.u.atEnd = true)

theorem dread_inv (d : Drc) (k : Nat) (h : DInv d) : DInv (d.read false k).1 := by
  obtain ⟨h1, h2⟩ := h
  have hm := read_atEnd_mono d.u k h1
  refine ⟨by simpa [Drc.read] using hm.2, ?_⟩
  simp only [Drc.read, markEnd, Bool.false_and, Bool.or_false, Bool.or_eq_true, beq_iff_eq]
  rintro (hs | he)
  · exact hm.1 (h2 hs)
  · exact (read_err_atEnd d.u k (by simp [he])).1

theorem dread_closes (onZero : Bool) (d : Drc) (k : Nat) :
    (d.read onZero k).1.u.closes = d.u.closes ∧ (d.read onZero k).2 = (d.u.read k).2 := by
  simp [Drc.read, (read_closes d.u k).1]

theorem dreads_inv : ∀ (ks : List Nat) (d : Drc), DInv d →
    DInv (Drc.reads false d ks).1 ∧ (Drc.reads false d ks).1.u.closes = d.u.closes := by
  intro ks
  induction ks with
  | nil => intro d h; exact ⟨h, rfl⟩
  | cons k ks ih =>
    intro d h
    have := ih (d.read false k).1 (dread_inv d k h)
    simp only [Drc.reads]
    exact ⟨this.1, by rw [this.2, (dread_closes false d k).1]⟩

theorem close_spec (d : Drc) (h : DInv d) (hc : d.u.closes = 0) :
    d.close.closes = 1 ∧ d.close.endAtClose = true ∧ d.close.rest = [] := by
  unfold Drc.close
  split
  · rename_i hs
    have ha := h.2 hs
    simp [Under.close, hc, ha, h.1 ha]
  · have := drain_spec d.u
    simp [Under.close, this.1, this.2.1, this.2.2.1, hc]

def Under.reads : Under → List Nat → Under × List RdRes
  | u, [] => (u, [])
  | u, k :: ks =>
    let r := u.read k
    let rs := Under.reads r.1 ks
    (rs.1, r.2 :: rs.2)

theorem dreads_transparent (onZero : Bool) : ∀ (ks : List Nat) (d : Drc),
    (Drc.reads onZero d ks).2 = (Under.reads d.u ks).2 ∧ (Drc.reads onZero d ks).1.u = (Under.reads d.u ks).1 := by
  intro ks
  induction ks with
  | nil => intro d; simp [Drc.reads, Under.reads]
  | cons k ks ih =>
    intro d
    have := ih (d.read onZero k).1
    simp only [Drc.reads, Under.reads]
    have hu : (d.read onZero k).1.u = (d.u.read k).1 := by simp [Drc.read]
    rw [hu] at this
    exact ⟨by rw [this.1, (dread_closes onZero d k).2], this.2⟩

theorem read_conserves (u : Under) (k : Nat) : (u.read k).2.out ++ (u.read k).1.rest = u.rest := by
  unfold Under.read; simp only []; split
  · rename_i he; simp at he; simp [he]
  · split <;> simp

theorem reads_conserve : ∀ (ks : List Nat) (u : Under),
    (Under.reads u ks).2.flatMap (·.out) ++ (Under.reads u ks).1.rest = u.rest := by
  intro ks
  induction ks with
  | nil => intro u; simp [Under.reads]
  | cons k ks ih =>
    intro u
    simp only [Under.reads, List.flatMap_cons, List.append_assoc]
    rw [ih, read_conserves]


def midBody (ph : Ph) : Bool := ph == .await || ph == .reading || ph == .draining || ph == .closing
def preSend (ph : Ph) : Bool := ph == .start || ph == .choose || ph == .auth || ph == .authCopy || ph == .url

/-- "the complete response was obtained", as far as the reader asked for it: the reader reported no
error, and a reader that reads until the end has seen the end of the body -/
def complete (p : Plan) (s : St) : Prop :=
  p.readerErr = false ∧ (p.readN = none → p.rterm = .eof ∧ s.bodyLeft = 0)

structure Inv (p : Plan) (s : St) : Prop where
  pipe_g : s.pr = .none ↔ s.g = .idle
  nowriter : p.startsWriter = false → s.g = .idle
  early0 : pre s.ph = true → s.g = .idle ∧ s.fileCloses = 0 ∧ s.streamCloses = 0 ∧ s.bodyInBuf = false
            ∧ s.streamLeft = 0 ∧ s.bufLeft = 0
  idleW : s.g = .idle → p.startsWriter = true → pre s.ph = true ∨ s.res = some .writer
  writerRes : s.res = some .writer → s.fileCloses = 1 ∧ s.g = .idle
  filesRun : ∀ t, s.g = .run t → s.fileCloses = 0
  filesDone : (s.g = .trailer ∨ s.g = .done) → s.fileCloses = 1
  retPipe : (midBody s.ph = true ∨ s.ph = .returned) → s.pr ≠ .open
  aliveNotPast : s.g.alive = true → midBody s.ph = false ∧ s.haveResp = false ∧ s.bodyInBuf = false
  srcF : s.srcFailed = true → s.haveResp = false ∧ midBody s.ph = false ∧
          (s.ph = .returned ∨ (s.pwErr = true ∧ s.g = .done ∧ s.bodyInBuf = false))
  copyPh : s.ph = .authCopy → s.bodyInBuf = false
  stream : p.streamSrc.isSome = true →
          s.streamCloses = (if s.bodyInBuf || midBody s.ph || s.ph == .returned then 1 else 0)
  respPh : (s.ph = .reading ∨ s.ph = .draining ∨ s.ph = .closing) → s.haveResp = true
  respPre : s.haveResp = true → s.ph = .reading ∨ s.ph = .draining ∨ s.ph = .closing ∨ s.ph = .returned
  noResp : s.haveResp = false → s.bodyLeft = 0
  bc0 : (s.ph ≠ .returned ∨ s.haveResp = false) → s.bodyCloses = 0
  bc1 : s.ph = .returned → s.haveResp = true → s.bodyCloses = 1 ∧ (p.reuse = true → s.endAtClose = true)
  eofEnd : s.seenEOF = true → s.bodyAtEnd = true
  closingEnd : s.ph = .closing → p.reuse = true → s.bodyAtEnd = true
  rl : s.ph = .reading → p.readN = none → s.readLeft = none
  pendOk : (s.ph = .draining ∨ s.ph = .closing) → s.pending = .none → complete p s
  okRes : s.res = some .none → s.haveResp = true ∧ complete p s
  resNone : s.res = none ↔ s.ph ≠ .returned
  rel : s.ph = .returned → s.entered = true → s.released = true
  ent : s.entered = true → preSend s.ph = false
  buf1 : s.bufLeft ≤ 1
  inBuf : s.bodyInBuf = true → s.g.alive = false ∧ s.pr ≠ .open
  pend : s.pending = .none ∨ s.pending = .reader ∨ s.pending = .bodyRead

theorem Inv.returned_of_res {p : Plan} {s : St} (hI : Inv p s) {o : Origin} (h : s.res = some o) :
    s.ph = .returned :=
  Decidable.of_not_not fun hne => by simp [hI.resNone.mpr hne] at h

theorem wf_stream {p : Plan} (h : p.WF) (hs : p.streamSrc.isSome = true) : p.startsWriter = false := by
  have : p.payload ≠ .none := by
    intro hp; simp [Plan.streamSrc, hp] at hs
  obtain ⟨h1, h2, h3⟩ := h this
  simp [Plan.startsWriter, Plan.hasFormOrFiles, h1, h2]

theorem startsWriter_of_files {p : Plan} (hf : p.files ≠ []) : p.startsWriter = true := by
  cases hfl : p.files with
  | nil => exact absurd hfl hf
  | cons a t => simp [Plan.startsWriter, Plan.hasFormOrFiles, Plan.isMP, hfl]

theorem wf_form {p : Plan} (h : p.WF) (hf : p.hasFormOrFiles = true) : p.payload = .none := by
  cases hp : p.payload with
  | none => rfl
  | _ =>
    have : p.payload ≠ .none := by simp [hp]
    obtain ⟨h1, h2, h3⟩ := h this
    simp [Plan.hasFormOrFiles, h1, h2] at hf

theorem inv_init (p : Plan) : Inv p (init p) := by
  constructor <;> simp [init, pre, midBody, preSend, G.alive]

end RtVerif.C12
