import RtVerif.Model.C10
/-  `strings.ReplaceAll(pattern, "{k}", v)` on a pattern rendered from tokens acts token by token
    (`replaceAll_render`): static text holds no `{`, and `{n}` with a brace-free `n` matches `{k}` only for `n = k`. -/
namespace RtVerif.C10
open RtVerif Bytes

theorem isPrefixOf_cons_cons (a b : UInt8) (as bs : Bytes) :
    (a :: as).isPrefixOf (b :: bs) = (a == b && as.isPrefixOf bs) := rfl

theorem isPrefixOf_self_append (a X : Bytes) : a.isPrefixOf (a ++ X) = true :=
  List.isPrefixOf_iff_prefix.mpr (List.prefix_append a X)

theorem replaceAll_nil (pat rep : Bytes) : replaceAll pat rep [] = [] := by rw [replaceAll]

theorem replaceAll_cons_no (pat rep : Bytes) (c : UInt8) (t : Bytes)
    (h : pat.isPrefixOf (c :: t) = false) : replaceAll pat rep (c :: t) = c :: replaceAll pat rep t := by
  rw [replaceAll]; simp [h]

theorem replaceAll_cons_yes (pat rep : Bytes) (c : UInt8) (t : Bytes)
    (h : pat.isPrefixOf (c :: t) = true) (hne : pat ≠ []) :
    replaceAll pat rep (c :: t) = rep ++ replaceAll pat rep ((c :: t).drop pat.length) := by
  rw [replaceAll]
  simp [h, hne]

theorem placeholder_eq (k : Bytes) : placeholder k = lbrace :: (k ++ [rbrace]) := rfl

theorem placeholder_length (k : Bytes) : (placeholder k).length = k.length + 2 := by
  simp [placeholder]

theorem not_mem_of_braceFree {a : Bytes} (h : braceFree a = true) : lbrace ∉ a ∧ rbrace ∉ a := by
  simp only [braceFree, List.all_eq_true, Bool.and_eq_true, bne_iff_ne, ne_eq] at h
  exact ⟨fun hm => (h _ hm).1 rfl, fun hm => (h _ hm).2 rfl⟩

theorem replaceAll_append_noLbrace (k rep a X : Bytes) (ha : lbrace ∉ a) :
    replaceAll (placeholder k) rep (a ++ X) = a ++ replaceAll (placeholder k) rep X := by
  induction a with
  | nil => rfl
  | cons c a' ih =>
    simp only [List.mem_cons, not_or] at ha
    have hp : (placeholder k).isPrefixOf (c :: (a' ++ X)) = false := by
      simp [placeholder_eq, isPrefixOf_cons_cons, ha.1]
    rw [List.cons_append, replaceAll_cons_no _ _ _ _ hp, ih ha.2]
    rfl

theorem replaceAll_placeholder_same (k rep X : Bytes) :
    replaceAll (placeholder k) rep (placeholder k ++ X) = rep ++ replaceAll (placeholder k) rep X := by
  have h := replaceAll_cons_yes (placeholder k) rep lbrace (k ++ [rbrace] ++ X)
    (isPrefixOf_self_append (placeholder k) X) (by simp [placeholder])
  rwa [show lbrace :: (k ++ [rbrace] ++ X) = placeholder k ++ X by simp [placeholder], List.drop_left] at h

/-- both names end at the first `}` -/
theorem prefix_name_eq (k n X : Bytes) (hk : rbrace ∉ k) (hn : rbrace ∉ n)
    (h : (k ++ [rbrace]).isPrefixOf (n ++ rbrace :: X) = true) : k = n := by
  obtain ⟨Y, hY⟩ := List.isPrefixOf_iff_prefix.mp h
  have h1 := GoQuery.cut_append rbrace k Y hk
  rw [show k ++ rbrace :: Y = n ++ rbrace :: X by simpa using hY, GoQuery.cut_append rbrace n X hn] at h1
  exact (congrArg Prod.fst h1).symm

theorem replaceAll_placeholder_other (k n rep X : Bytes) (hk : braceFree k = true)
    (hn : braceFree n = true) (hne : n ≠ k) :
    replaceAll (placeholder k) rep (placeholder n ++ X) =
      placeholder n ++ replaceAll (placeholder k) rep X := by
  have hp : (placeholder k).isPrefixOf (lbrace :: (n ++ rbrace :: X)) = false := by
    rw [Bool.eq_false_iff]
    intro h
    simp only [placeholder_eq, isPrefixOf_cons_cons, beq_self_eq_true, Bool.true_and] at h
    exact hne (prefix_name_eq k n X (not_mem_of_braceFree hk).2 (not_mem_of_braceFree hn).2 h).symm
  have hl : lbrace ∉ n ++ [rbrace] := by
    simpa [(not_mem_of_braceFree hn).1] using (by decide : lbrace ≠ rbrace)
  rw [show placeholder n ++ X = lbrace :: (n ++ [rbrace] ++ X) by simp [placeholder],
    replaceAll_cons_no _ _ _ _ (by simpa using hp), replaceAll_append_noLbrace _ _ _ _ hl]
  rfl

def subst1 (k rep : Bytes) : Tok → Tok
  | .lit b => .lit b
  | .ph n => if n == k then .lit rep else .ph n

def WFToks (toks : List Tok) : Prop := ∀ t ∈ toks, t.wf = true

/-- **`strings.ReplaceAll` on a well-formed pattern is a token map.** -/
theorem replaceAll_render (k rep : Bytes) (toks : List Tok) (hk : braceFree k = true)
    (hw : WFToks toks) :
    replaceAll (placeholder k) rep (render toks) = render (toks.map (subst1 k rep)) := by
  induction toks with
  | nil => simp [render, replaceAll_nil]
  | cons t ts ih =>
    have ih := ih fun x hx => hw x (List.mem_cons_of_mem _ hx)
    have ht := hw t List.mem_cons_self
    cases t with
    | lit b =>
      simp only [render, List.map_cons, subst1]
      rw [replaceAll_append_noLbrace _ _ _ _ (not_mem_of_braceFree ht).1, ih]
    | ph n =>
      simp only [render, List.map_cons, subst1]
      by_cases hnk : n = k
      · subst hnk
        simp only [beq_self_eq_true, ↓reduceIte, render]
        rw [replaceAll_placeholder_same, ih]
      · simp only [beq_eq_false_iff_ne.mpr hnk, Bool.false_eq_true, ↓reduceIte, render]
        rw [replaceAll_placeholder_other _ _ _ _ hk ht hnk, ih]

theorem wf_subst1 (k rep : Bytes) (hr : braceFree rep = true) (toks : List Tok) (hw : WFToks toks) :
    WFToks (toks.map (subst1 k rep)) := by
  intro t ht
  obtain ⟨t0, ht0, rfl⟩ := List.mem_map.mp ht
  cases t0 with
  | lit b => exact hw _ ht0
  | ph n =>
    simp only [subst1]
    split
    · exact hr
    · exact hw _ ht0

theorem braceFree_pathEscape (v : Bytes) : braceFree (GoURL.pathEscape v) = true := by
  simp only [braceFree, List.all_eq_true, Bool.and_eq_true, bne_iff_ne, ne_eq]
  intro c hc
  have := GoURL.pathEscape_no_special v c hc
  exact ⟨this.2.2.2.1, this.2.2.2.2.1⟩

/-- Names that `substSeq` can be trusted with: no `{`/`}` inside (the property's placeholders). -/
def NamesOk (params : List (Bytes × Bytes)) : Prop := ∀ kv ∈ params, braceFree kv.1 = true

end RtVerif.C10
