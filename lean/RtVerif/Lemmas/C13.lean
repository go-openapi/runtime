import RtVerif.Model.C13
import RtVerif.Lemmas.ByteFacts
namespace RtVerif.C13
open RtVerif Bytes

theorem slash_not_token : isTokenChar 47 = false := by decide
theorem semi_not_token : isTokenChar 59 = false := by decide

theorem isToken_all {s : Bytes} (h : isToken s = true) : s.all isTokenChar = true := by
  unfold isToken at h
  simp only [Bool.and_eq_true] at h
  exact h.2

theorem isToken_ne_nil {s : Bytes} (h : isToken s = true) : s ≠ [] := by
  unfold isToken at h
  simp only [Bool.and_eq_true, Bool.not_eq_true', List.isEmpty_eq_false_iff] at h
  exact h.1

theorem isToken_iff_span (s : Bytes) :
    isToken s = true ↔ (s.takeWhile isTokenChar ≠ [] ∧ s.dropWhile isTokenChar = []) := by
  constructor
  · intro h
    have hall := List.all_eq_true.1 (isToken_all h)
    rw [takeWhile_eq_self hall, dropWhile_eq_nil hall]
    exact ⟨isToken_ne_nil h, rfl⟩
  · intro ⟨h1, h2⟩
    have hs : s.takeWhile isTokenChar = s := by
      simpa [h2] using List.takeWhile_append_dropWhile (p := isTokenChar) (l := s)
    have hall : s.all isTokenChar = true := hs ▸ List.all_takeWhile
    rw [hs] at h1
    simp [isToken, hall, h1]

theorem slash_spans {a : Bytes} (r : Bytes) (ha : isToken a = true) :
    (a ++ 47 :: r).takeWhile isTokenChar = a ∧ (a ++ 47 :: r).dropWhile isTokenChar = 47 :: r ∧
      beforeByte (a ++ 47 :: r) 47 = a ∧ afterByte (a ++ 47 :: r) 47 = r := by
  have h1 : ∀ x ∈ a, isTokenChar x = true := List.all_eq_true.1 (isToken_all ha)
  have h2 : ∀ x ∈ a, (x != 47) = true := fun x hx =>
    bne_iff_ne.2 fun e => by simpa [e, slash_not_token] using h1 x hx
  refine ⟨takeWhile_append_cons r h1 slash_not_token, dropWhile_append_cons r h1 slash_not_token,
    takeWhile_append_cons r h2 (by simp), ?_⟩
  unfold afterByte
  rw [dropWhile_append_cons r h2 (by simp)]
  rfl

theorem isInfixB_append (p a b : Bytes) : isInfixB p (a ++ (p ++ b)) = true := by
  induction a with
  | nil =>
    cases hpb : p ++ b with
    | nil =>
      have : p = [] := (List.append_eq_nil_iff.1 hpb).1
      simp [isInfixB, this]
    | cons x xs =>
      simp only [List.nil_append, isInfixB, Bool.or_eq_true]
      left
      rw [← hpb, List.isPrefixOf_iff_prefix]
      exact List.prefix_append _ _
  | cons y ys ih =>
    simp only [List.cons_append, isInfixB, Bool.or_eq_true]
    right
    exact ih

/-- what a call does in one step when the shared client it may read is `v` -/
def lstep {κ : Type} (cfg : Cfg κ) (net : Op → Resp) (v : ClientTok) (c : Call κ) : Call κ :=
  (step cfg net ⟨some v⟩ c).2

def iter {α : Type} (f : α → α) : Nat → α → α
  | 0, a => a
  | n + 1, a => iter f n (f a)

/-- the shared client is the initial one or the memoised one, and the memoised one as soon as any
call is past its `clientOnce.Do` -/
def Inv {κ : Type} (sh₀ sh : Shared) (cs : Nat → Call κ) : Prop :=
  (sh.client = sh₀.client ∨ sh.client = some (sh₀.client.getD .rt)) ∧
  ∀ j, 2 ≤ (cs j).pc → sh.client = some (sh₀.client.getD .rt)

theorem step_local {κ : Type} (cfg : Cfg κ) (net : Op → Resp) (sh₀ sh : Shared) (cs : Nat → Call κ)
    (i : Nat) (h : Inv sh₀ sh cs) :
    (step cfg net sh (cs i)).2 = lstep cfg net (sh₀.client.getD .rt) (cs i) := by
  unfold lstep step
  split <;> try rfl
  · -- pc = 3 reads r.client
    rename_i hpc
    have := h.2 i (by omega)
    rw [this]

theorem step_cases {κ : Type} (cfg : Cfg κ) (net : Op → Resp) (sh : Shared) (c : Call κ) :
    (c.pc = 1 ∧ (step cfg net sh c).1.client = some (sh.client.getD .rt)) ∨
    (c.pc ≠ 1 ∧ (step cfg net sh c).1 = sh ∧ (2 ≤ (step cfg net sh c).2.pc → 2 ≤ c.pc)) := by
  unfold step
  split <;> simp_all

theorem step_inv {κ : Type} (cfg : Cfg κ) (net : Op → Resp) (sh₀ sh : Shared) (cs : Nat → Call κ)
    (i : Nat) (h : Inv sh₀ sh cs) :
    Inv sh₀ (step cfg net sh (cs i)).1 (upd cs i (step cfg net sh (cs i)).2) := by
  rcases step_cases cfg net sh (cs i) with ⟨_, e⟩ | ⟨_, e, hpc⟩
  · have hv : (step cfg net sh (cs i)).1.client = some (sh₀.client.getD .rt) := by
      rw [e]
      rcases h.1 with e' | e' <;> simp [e']
    exact ⟨Or.inr hv, fun _ _ => hv⟩
  · rw [e]
    refine ⟨h.1, ?_⟩
    intro j hj
    unfold upd at hj
    split at hj
    · exact h.2 i (hpc hj)
    · exact h.2 j hj

/-! ### the regenerated facts say what the Spec's literals say

These two fail to compile if Submit reads another header or falls back to another key. -/

theorem ctHeader_eq : ctHeader = contentTypeName := rfl
theorem fallbackKey_eq : fallbackKey = catchAll := rfl

theorem checkSubtype_none_iff (r : Bytes) : checkSubtype r = none ↔ isToken r = true := by
  rw [isToken_iff_span]
  unfold checkSubtype consumeToken
  cases r.takeWhile isTokenChar <;> cases r.dropWhile isTokenChar <;> simp

theorem names_noConsumer (ct : Bytes) : names ct (noConsumerMsg ct) = true := by
  unfold names noConsumerMsg
  have := isInfixB_append (goQuote ct) (ofStr "no consumer: ") []
  rw [List.append_nil] at this
  simp [this]

theorem names_parseErr (ct : Bytes) (e : MimeErr) : names ct (parseErrMsg ct e) = true := by
  unfold names parseErrMsg
  have := isInfixB_append (goQuote ct) (ofStr "parse content type ") (ofStr ": " ++ e.msg)
  simp only [List.append_assoc]
  simp [this]

theorem contentType_eq_spec (h : Headers) (dflt : Bytes) : contentTypeOf h dflt = specContentType h dflt := by
  unfold contentTypeOf specContentType headerGet headerValues
  rw [ctHeader_eq]
  cases (h.filter fun e => equalFold e.1 contentTypeName).map (·.2) with
  | nil => simp
  | cons v vs => simp

theorem chooseCtx_eq_spec {κ : Type} (cfg : Cfg κ) (op : Op) : chooseCtx op.ctx cfg.rtCtx = specCtx cfg op := by
  unfold chooseCtx specCtx
  cases op.ctx <;> cases cfg.rtCtx <;> rfl

theorem chooseClient_eq_spec {κ : Type} (cfg : Cfg κ) (op : Op) :
    chooseClient op.client (sharedClient cfg.preset) = specClient cfg op := by
  unfold chooseClient sharedClient specClient
  cases op.client <;> cases cfg.preset <;> rfl

theorem submit_eq {κ : Type} (cfg : Cfg κ) (op : Op) (resp : Resp) :
    submit cfg op resp =
      { out := if (specCtx cfg op).2 == .cancelled then .transportError
          else match selectConsumer cfg.reg (specContentType resp.headers cfg.dflt) with
            | .error msg => .failed msg
            | .ok c => .read c (adapterView resp op.queries) op.readerErr
        client := specClient cfg op
        ctx := (specCtx cfg op).1
        deadline := op.timeout != 0 || (specCtx cfg op).2 == .deadline } := by
  unfold submit finish
  rw [chooseCtx_eq_spec, chooseClient_eq_spec, contentType_eq_spec]
  split
  · rfl
  · cases selectConsumer cfg.reg (specContentType resp.headers cfg.dflt) <;> rfl

theorem inv_init {κ : Type} (sh₀ : Shared) (cs : Nat → Call κ) (hfresh : ∀ j, (cs j).pc = 0) :
    Inv sh₀ sh₀ cs :=
  ⟨Or.inl rfl, fun j hj => by rw [hfresh j] at hj; omega⟩

/-- Running any schedule keeps the invariant and projects, for every call, onto that call's own
steps taken in isolation against the memoised client. -/
theorem runSched_proj {κ : Type} (cfg : Cfg κ) (net : Op → Resp) (sh₀ : Shared) (sched : List Nat) :
    ∀ (sh : Shared) (cs : Nat → Call κ), Inv sh₀ sh cs →
      Inv sh₀ (runSched cfg net sched (sh, cs)).1 (runSched cfg net sched (sh, cs)).2 ∧
      ∀ j, (runSched cfg net sched (sh, cs)).2 j =
        iter (lstep cfg net (sh₀.client.getD .rt)) (sched.count j) (cs j) := by
  induction sched with
  | nil => exact fun sh cs h => ⟨h, fun j => rfl⟩
  | cons i rest ih =>
    intro sh cs hinv
    obtain ⟨h1, h2⟩ := ih _ _ (step_inv cfg net sh₀ sh cs i hinv)
    refine ⟨h1, fun j => ?_⟩
    unfold runSched
    rw [h2 j, step_local cfg net sh₀ sh cs i hinv]
    unfold upd
    by_cases hji : j = i
    · subst hji
      simp [iter]
    · have : (i == j) = false := by simpa using fun h => hji h.symm
      simp [List.count_cons, hji, this]

/-- a call that has returned takes no further step -/
theorem iter_done {κ : Type} (cfg : Cfg κ) (net : Op → Resp) (v : ClientTok) {c : Call κ} (h : 6 ≤ c.pc)
    (n : Nat) : iter (lstep cfg net v) n c = c := by
  have hc : lstep cfg net v c = c := by
    unfold lstep step
    split <;> first | omega | rfl
  induction n with
  | zero => rfl
  | succ n ih => rw [iter, hc, ih]

end RtVerif.C13
