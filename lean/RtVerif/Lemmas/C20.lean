import RtVerif.Model.C20
import RtVerif.Lemmas.GoPath
import RtVerif.Lemmas.ByteFacts
namespace RtVerif.C20
open RtVerif Bytes GoPath

/-! ### regenerated constants the proofs rely on (each is a proof obligation over `Facts`) -/

theorem ctHTML_eq : ctHTML = htmlCT := rfl
theorem ctJSON_eq : ctJSON = jsonCT := rfl
theorem specPath_default_nil : Facts.c20SpecPath = [] := rfl

theorem specOpts_path (opts : List SpecOption) (o : SpecOpts) :
    (opts.foldl SpecOption.apply o).path = (lastPathOpt opts).getD o.path := by
  induction opts generalizing o with
  | nil => rfl
  | cons a t ih =>
    rw [List.foldl_cons, ih]
    cases a with
    | path p => cases h : lastPathOpt t <;> simp [SpecOption.apply, lastPathOpt, h]
    | document d =>
      simp only [SpecOption.apply, lastPathOpt]
      split <;> rfl

theorem specOpts_doc (opts : List SpecOption) (o : SpecOpts) :
    (opts.foldl SpecOption.apply o).document = (lastDocOpt opts).getD o.document := by
  induction opts generalizing o with
  | nil => rfl
  | cons a t ih =>
    rw [List.foldl_cons, ih]
    cases a with
    | path p => rfl
    | document d =>
      simp only [SpecOption.apply, lastDocOpt]
      cases lastDocOpt t <;> split <;> simp_all

theorem cfgSpecPath_eq (bp : Bytes) (opts : List SpecOption) :
    cfgSpecPath bp opts = specDocPath bp opts := by
  simp only [cfgSpecPath, specDocPath, specOptionsWithDefaults, specOpts_path, specOpts_doc,
    defaultSpecOpts, join3, orDefault]

theorem ensureDefaults_basePath (k : Kind) (o : Opts) :
    (ensureDefaults k o).basePath = orDefault o.basePath rootB := by cases k <;> rfl

theorem ensureDefaults_path (k : Kind) (o : Opts) :
    (ensureDefaults k o).path = orDefault o.path Facts.c20DocsPath := by cases k <;> rfl

theorem ensureDefaults_specURL (k : Kind) (o : Opts) :
    (ensureDefaults k o).specURL = orDefault o.specURL Facts.c20DocsURL := by cases k <;> rfl

theorem ensureDefaults_title (k : Kind) (o : Opts) :
    (ensureDefaults k o).title = orDefault o.title Facts.c20DocsTitle := by cases k <;> rfl

theorem uiDocPath_of_ne {k : Kind} (hk : k ≠ .oauth2) (o : Opts) : uiDocPath k o = join o.basePath o.path := by
  cases k <;> first | rfl | exact absurd rfl hk

theorem cfgUIPath_eq (k : Kind) (o : Opts) : cfgUIPath k o = uiDocPath k (ensureDefaults k o) := by
  cases k <;> simp [cfgUIPath, uiDocPath, ensureDefaults, commonDefaults, join, join3]

/-- What the options leave in some fields depends on the start value of those fields only, if a
single option treats them so. -/
theorem foldl_apply_congr {β : Type} (π : Opts → β)
    (hπ : ∀ a b o, π a = π b → π (UIOption.apply a o) = π (UIOption.apply b o))
    (l : List UIOption) {a b : Opts} (h : π a = π b) :
    π (l.foldl UIOption.apply a) = π (l.foldl UIOption.apply b) := by
  induction l generalizing a b with
  | nil => exact h
  | cons o t ih => exact ih (hπ a b o h)

/-- The title option does not influence where anything is served. -/
theorem loc_ctx (cb ti : Bytes) (opts : List UIOption) :
    (uiOptionsWithDefaults ([.basePath cb, .title ti] ++ opts)).basePath
        = (uiOptionsWithDefaults (.basePath cb :: opts)).basePath ∧
      (uiOptionsWithDefaults ([.basePath cb, .title ti] ++ opts)).path
        = (uiOptionsWithDefaults (.basePath cb :: opts)).path :=
  Prod.mk.inj (foldl_apply_congr (fun o => (o.basePath, o.path))
    (fun _ _ o h => by cases o <;> simp_all [UIOption.apply]) opts rfl)

/-- The spec URL the handler works with is the one configured by the caller's options. -/
theorem specURL_ctx (cb ti : Bytes) (opts : List UIOption) :
    (uiOptionsWithDefaults ([.basePath cb, .title ti] ++ opts)).specURL
      = (uiOptionsWithDefaults opts).specURL :=
  foldl_apply_congr Opts.specURL (fun _ _ o h => by cases o <;> simp [UIOption.apply, h]) opts rfl

theorem handlerUIOpts_specURL (k : Kind) (cb ti : Bytes) (opts : List UIOption) :
    (handlerUIOpts k cb ti opts).specURL = effectiveLoc opts := by
  rw [handlerUIOpts, ensureDefaults_specURL, effectiveLoc, ← specURL_ctx cb ti opts]
  rfl

theorem handlerUIPath_eq (k : Kind) (hk : k ≠ .oauth2) (cb ti : Bytes) (opts : List UIOption) :
    handlerUIPath k cb ti opts = wantedUIPath cb opts := by
  obtain ⟨h1, h2⟩ := loc_ctx cb ti opts
  rw [handlerUIPath, uiDocPath_of_ne hk, handlerUIOpts, ensureDefaults_basePath, ensureDefaults_path,
    wantedUIPath, ← h1, ← h2]
  rfl

theorem split_of_rooted {p : Bytes} (hr : isRooted p = true) :
    ∃ d, (split p).1 = d ++ [slash] := by
  obtain ⟨h1, h2, h3⟩ := split_spec p
  rcases h3 with h3 | h3
  · exfalso
    rw [h3] at h1
    cases p with
    | nil => simp [isRooted] at hr
    | cons b r =>
      simp only [isRooted, decide_eq_true_eq] at hr
      subst hr
      apply h2
      rw [← (by simpa using h1 : slash :: r = (split (slash :: r)).2)]
      simp
  · exact h3

theorem snoc_slash_ne_dot (d : Bytes) : d ++ [slash] ≠ dot := by
  intro h
  have := congrArg List.getLast? h
  simp [dot, slash] at this

/-- default location: `/swagger.json` is served by the default spec options at `/` -/
theorem default_loc_agrees :
    (locPath Facts.c20DocsURL).map clean = some (specDocPath [] [.document []]) := by decide

theorem urlPath_nil : urlPath [] = .ok [] := by decide

theorem unescapePath_plain (l : Bytes) (h : ∀ x ∈ l, x ≠ 37) : unescapePath l = some l := by
  induction l with
  | nil => rfl
  | cons a t ih =>
    have ha : a ≠ 37 := h a (by simp)
    unfold unescapePath
    simp only [ha, if_false, ih (fun x hx => h x (List.mem_cons_of_mem _ hx)), Option.map_some]

/-- host bytes lie in `-`…`z` without `/` and `?`: `url.Parse` splits at none of them -/
theorem host_plain (x : UInt8) (h : isHostByte x = true) :
    (x ≠ 35 ∧ x ≠ 63 ∧ isCTL x = false) ∧ x ≠ slash := by
  have hr : 45 ≤ x.toNat ∧ x.toNat ≤ 122 ∧ x.toNat ≠ 47 ∧ x.toNat ≠ 63 := by
    simp only [isHostByte, isAlpha, isDigit, Bool.or_eq_true, Bool.and_eq_true, decide_eq_true_eq,
      UInt8.le_iff_toNat_le, ← UInt8.toNat_inj, UInt8.toNat_ofNat] at h
    omega
  simp only [isCTL, slash, ne_eq, ← UInt8.toNat_inj, UInt8.toNat_ofNat, Bool.or_eq_false_iff,
    decide_eq_false_iff_not, UInt8.lt_iff_toNat_lt]
  omega

theorem schemeScan_alpha (s r : Bytes) (hs : ∀ x ∈ s, isAlpha x = true) (i : Nat)
    (hi : 0 < i + s.length) : schemeScan i (s ++ 58 :: r) = .at (i + s.length) := by
  induction s generalizing i with
  | nil =>
    have : i ≠ 0 := by simp at hi; omega
    simp [schemeScan, isAlpha, isDigit, this]
  | cons a t ih =>
    have ha : isAlpha a = true := hs a (by simp)
    simp only [List.cons_append, schemeScan, ha, if_true]
    rw [ih (fun x hx => hs x (List.mem_cons_of_mem _ hx)) (i + 1) (by omega)]
    simp only [List.length_cons]
    congr 1
    omega

end RtVerif.C20
