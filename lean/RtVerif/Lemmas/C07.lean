import RtVerif.Model.C07
/-
  C07 — both negotiation loops keep an incumbent and replace it only by a strictly better newcomer.
  `pick` is that step on optional candidates; it is associative, `firstMax` is its right fold, and a
  left fold of it over any loop state is therefore the first maximum of all contributions.
-/
namespace RtVerif.C07
open RtVerif Bytes

theorem better_iff (a b : Cand) :
    a.better b = true ↔ b.q.units < a.q.units ∨ (a.q.units = b.q.units ∧ a.wild < b.wild) := by
  simp only [Cand.better, Q.lt, Bool.or_eq_true, decide_eq_true_eq, Bool.and_eq_true, beq_iff_eq]

theorem better_trans {a b c : Cand} (h₁ : b.better a = true) (h₂ : c.better b = true) :
    c.better a = true := by
  rw [better_iff] at *; omega

/-- "not better" is transitive as well: `better` compares (quality, specificity) lexicographically -/
theorem not_better_trans {a b c : Cand} (h₁ : b.better a = false) (h₂ : c.better b = false) :
    c.better a = false := by
  rw [Bool.eq_false_iff, ne_eq, better_iff] at *; omega

/-- the better of two optional candidates, the left one on a tie -/
def pick : Option Cand → Option Cand → Option Cand
  | none, o => o
  | some b, none => some b
  | some b, some c => if c.better b then some c else some b

@[simp] theorem pick_none_right (o : Option Cand) : pick o none = o := by
  cases o <;> rfl

theorem pick_assoc (a b c : Option Cand) : pick (pick a b) c = pick a (pick b c) := by
  cases a with
  | none => rfl
  | some a =>
  cases b with
  | none => rfl
  | some b =>
  cases c with
  | none => simp
  | some c =>
    cases hba : b.better a <;> cases hcb : c.better b
    · simp [pick, hba, hcb, not_better_trans hba hcb]
    · simp [pick, hba, hcb]
    · simp [pick, hba, hcb]
    · simp [pick, hba, hcb, better_trans hba hcb]

theorem firstMax_cons (c : Cand) (cs : List Cand) : firstMax (c :: cs) = pick (some c) (firstMax cs) := by
  rw [firstMax]
  cases firstMax cs <;> rfl

theorem firstMax_append (l₁ l₂ : List Cand) :
    firstMax (l₁ ++ l₂) = pick (firstMax l₁) (firstMax l₂) := by
  induction l₁ with
  | nil => rfl
  | cons c cs ih => rw [List.cons_append, firstMax_cons, firstMax_cons, ih, pick_assoc]

theorem firstMax_toList (o : Option Cand) : firstMax o.toList = o := by
  cases o <;> rfl

/-- A loop over `l` whose state stands for an optional candidate (`R`) and moves by `pick`ing the
best of what each element contributes ends with the first maximum of all contributions, after
whatever it started with. -/
theorem foldl_pick {σ α} (R : σ → Option Cand → Prop) (step : σ → α → σ) (g : α → List Cand)
    (hstep : ∀ s o a, R s o → R (step s a) (pick o (firstMax (g a)))) (l : List α) {s : σ}
    {o : Option Cand} (h : R s o) : R (l.foldl step s) (pick o (firstMax (l.flatMap g))) := by
  induction l generalizing s o with
  | nil => simpa [firstMax] using h
  | cons a l ih =>
    rw [List.foldl_cons, List.flatMap_cons, firstMax_append, ← pick_assoc]
    exact ih (hstep s o a h)

theorem filterMap_eq_flatMap {α β} (f : α → Option β) (l : List α) :
    l.filterMap f = l.flatMap fun a => (f a).toList := by
  induction l with
  | nil => rfl
  | cons a l ih => rw [List.flatMap_cons, ← ih, List.filterMap_cons]; cases f a <;> rfl

/-- the loop state that holds candidate `o`; before anything is picked: the default, `bestQ = -1`,
`bestWild = 3` -/
def bestOf (d : Bytes) : Option Cand → Best
  | none => ⟨d, none, 3⟩
  | some c => ⟨c.raw, some c.q, c.wild⟩

/-- the candidate (if any) that an (offer, spec) pair contributes -/
def candOf (raw : Bytes) (sp : Spec) : Option Cand :=
  if sp.q.isZero then none
  else (matchWild sp.value (normalizeOffer raw)).map fun w => ⟨raw, sp.q, w⟩

theorem stepSpec_bestOf (d raw : Bytes) (o : Option Cand) (sp : Spec) :
    stepSpec raw (normalizeOffer raw) (bestOf d o) sp = bestOf d (pick o (candOf raw sp)) := by
  unfold stepSpec candOf
  cases hz : sp.q.isZero
  case true => simp
  cases hw : matchWild sp.value (normalizeOffer raw) with
  | none => simp
  | some w =>
  cases o with
  | none => simp [qLtBest, qGtBest, bestOf, pick]
  | some b =>
    -- Go's two tests (`q < bestQ`: skip; `q > bestQ || bestWild > w`: replace) against `Cand.better`
    simp only [qLtBest, qGtBest, bestOf, pick, Cand.better, Q.lt, Bool.false_eq_true, ↓reduceIte,
      Option.map_some, Bool.or_eq_true, decide_eq_true_eq, Bool.and_eq_true, beq_iff_eq, gt_iff_lt]
    rcases Nat.lt_trichotomy sp.q.units b.q.units with h | h | h
    · simp [h, Nat.lt_asymm h, Nat.ne_of_lt h]
    · by_cases hwild : w < b.wild <;> simp [h, hwild]
    · simp [h, Nat.lt_asymm h]

theorem stepOffer_bestOf (specs : List Spec) (d raw : Bytes) (o : Option Cand) :
    stepOffer specs (bestOf d o) raw = bestOf d (pick o (firstMax (candsFor specs raw))) := by
  rw [show candsFor specs raw = specs.filterMap (candOf raw) from rfl, filterMap_eq_flatMap]
  exact foldl_pick (· = bestOf d ·) _ _
    (fun _ o sp h => by rw [h, firstMax_toList, stepSpec_bestOf]) specs rfl

theorem foldl_stepOffer (specs : List Spec) (offers : List Bytes) (d : Bytes) :
    offers.foldl (stepOffer specs) ⟨d, none, 3⟩ = bestOf d (firstMax (candidates specs offers)) :=
  foldl_pick (· = bestOf d ·) _ _ (fun _ o raw h => by rw [h, stepOffer_bestOf]) offers (o := none) rfl

end RtVerif.C07
